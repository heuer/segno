/-
  C03 — correctability: the code (roots α⁰ … α^(n−1), block length ≤ 255) has minimum distance
  > n, so a block damaged in at most ⌊n/2⌋ codewords has exactly one codeword within that radius: the
  original.  The decoder is not segno code; uniqueness is what makes any bounded-distance decoder
  return the original block.
-/
import Props.C03
import Proofs.Distance

namespace Props.C03

/-- all n syndromes of a word (highest coefficient first) vanish, in table arithmetic -/
def IsCodeword (n : Nat) (w : List Nat) : Prop := ∀ i, i < n → tevalPoly w (Gen.GALIOS_EXP.getD i 0) = 0

/-- number of positions where two words of equal length differ -/
def hammingDist (a b : List Nat) : Nat := ((a.zip b).filter (fun p => p.1 != p.2)).length

/-- the code is linear: the XOR of two codewords is a codeword -/
theorem codeword_xor (n : Nat) (a b : List Nat) (hl : a.length = b.length)
    (ha : ∀ x ∈ a, x < 256) (hb : ∀ x ∈ b, x < 256) (h1 : IsCodeword n a) (h2 : IsCodeword n b) :
    IsCodeword n (List.zipWith (· ^^^ ·) a b) :=
  Proofs.Distance.codeword_xor n a b hl ha hb h1 h2

/-- **minimum distance**: a codeword of length ≤ 255 with at most n non-zero entries is zero -/
theorem min_distance (n : Nat) (w : List Nat) (hlen : w.length ≤ 255) (hb : ∀ x ∈ w, x < 256)
    (hc : IsCodeword n w) (hw : (w.filter (· != 0)).length ≤ n) : ∀ x ∈ w, x = 0 :=
  Proofs.Distance.min_distance n w hlen hb hc hw

/-- **unique decoding**: two codewords of the same length ≤ 255 that both lie within ⌊n/2⌋ positions of
    a received word are equal — so after any corruption of up to ⌊n/2⌋ codewords of a block the
    original block is the only codeword within that radius -/
theorem unique_decoding (n : Nat) (r a b : List Nat) (hlen : r.length ≤ 255)
    (hla : a.length = r.length) (hlb : b.length = r.length)
    (ha : ∀ x ∈ a, x < 256) (hb : ∀ x ∈ b, x < 256)
    (hca : IsCodeword n a) (hcb : IsCodeword n b)
    (hda : hammingDist r a ≤ n / 2) (hdb : hammingDist r b ≤ n / 2) : a = b :=
  Proofs.Distance.unique_decoding n r a b hlen hla hlb ha hb hca hcb hda hdb

/-- every block of Table 9 is short enough (≤ 255 codewords) and the model's blocks are codewords, so
    the theorem applies to every block of every symbol (`block_is_codeword`) -/
theorem table9_blocks_at_most_255 :
    Spec.eccTable.all (fun e => e.2.2.all (fun b => b.2.1 ≤ 255)) = true :=
  Proofs.Distance.table9_blocks_at_most_255

/-! ### non-vacuity: a real block is a codeword, and a corruption of it in 2 codewords lies within the radius ⌊5/2⌋ -/

example : IsCodeword 5 ([64, 24, 172, 195, 0] ++ [134, 13, 34, 174, 48]) := by
  unfold IsCodeword
  decide +kernel

example : hammingDist [64, 24, 172, 195, 0, 134, 13, 34, 174, 48] [64, 25, 172, 195, 0, 134, 13, 34, 0, 48] = 2 := by
  decide

/-- sharpness: the bound "≤ n non-zero entries" cannot be relaxed to n + 1 — the generator polynomial for
    n = 5 is a non-zero codeword with 6 non-zero entries -/
example : (List.range 5).all (fun i => tevalPoly
      (1 :: [113, 164, 166, 119, 10].map (fun l => Gen.GALIOS_EXP.getD l 0)) (Gen.GALIOS_EXP.getD i 0) == 0) = true
    ∧ ((1 :: [113, 164, 166, 119, 10].map (fun l => Gen.GALIOS_EXP.getD l 0)).filter (· != 0)).length = 6 := by
  decide +kernel

end Props.C03

#print axioms Props.C03.codeword_xor
#print axioms Props.C03.min_distance
#print axioms Props.C03.unique_decoding
#print axioms Props.C03.table9_blocks_at_most_255
