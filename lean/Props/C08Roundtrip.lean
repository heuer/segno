/-
  C08 (sequence round trip) — every symbol of a Structured Append sequence the model returns for a
  requested symbol count is read by the ISO reference reader as a valid symbol that starts with the
  Structured Append header (position i, total − 1, parity = XOR of all message bytes) and carries its
  chunk; the chunks concatenate to the message.
-/
import Props.C08
import Proofs.SequenceRoundtripSeq
import Proofs.SequenceRoundtripWitness

namespace Props.C08
open Model

set_option linter.unusedVariables false in
/-- **one symbol with a Structured Append header decodes**: `_encode` with header (i, total, parity)
    on a single segment built from `data` (bytes, non-empty) that fits: the reference reader returns the
    reported version / level / mask, intact function patterns, valid RS blocks, zero remainder bits, the
    header, and exactly `data`.  (`hne` and `hm` are not used: in QR Code versions the content may be
    empty, and only the five modes have a bit length, `hfit`.) -/
theorem sa_symbol_decodes (data : List Nat) (mode : Nat) (enc : String) (segs : List Segment) (error : Option Nat)
    (v : Int) (mask : Option Nat) (boost : Bool) (f : String → Option Nat) (i total parity : Nat) (c : Code)
    (hd : ∀ b ∈ data, b < 256) (hne : data ≠ []) (hm : mode ∈ [1, 2, 4, 8, 13])
    (hi : i < 16) (ht : total < 16) (hp : parity < 256) (hv : 1 ≤ v)
    (hs : oneItemSegments data mode enc = .ok segs)
    (hfit : ∃ bl cap, bitLengthWithOverhead segs v false true = some bl ∧ capacity v error = some cap ∧ bl ≤ cap)
    (h : encodeCore segs error v mask false boost f (some (i, total, parity)) = .ok c) :
    ∃ d, Spec.decode c.matrix = .ok d
      ∧ d.header = { version := c.version, level := lvlKey c.error, mask := c.mask }
      ∧ d.fnBad = none ∧ d.badBlocks = 0 ∧ Spec.allZero d.blocks.remainder = true
      ∧ ∃ p, d.parsed = .ok p ∧ p.sa = some (i, total, parity)
          ∧ (p.segments.map (·.bytes)).flatten = data :=
  -- boosting keeps the content within the capacity, so it fits at the level the symbol finally has
  let ⟨bl, cap, hbl, hcap, hle⟩ := hfit
  Proofs.SequenceRoundtrip.sa_symbol_final data mode enc segs error v mask boost f i total parity c
    hd hi ht hp hv hs (Proofs.Sequence.fit_final segs error v mask false boost f _ c ⟨cap, bl, hcap, hbl, hle⟩ h) h

/-- the stream level fact behind it: the parser iteration that reads the Structured Append header
    0011 ‖ i₄ ‖ total₄ ‖ parity₈ (QR Code versions, nothing parsed before it) consumes exactly these
    20 bits and records (i, total, parity) -/
theorem parser_reads_sa_header (v : Int) (st pre post : List Nat) (i total parity fuel : Nat) (eci : Option Nat)
    (hv : v > 0) (hi : i < 16) (ht : total < 16) (hp : parity < 256)
    (hst : st = pre ++ saHeader (some (i, total, parity)) ++ post) :
    Spec.parseStream.go v st (Spec.terminatorLen v) (Spec.modeBits v) (fuel + 1) pre.length eci none []
      = Spec.parseStream.go v st (Spec.terminatorLen v) (Spec.modeBits v) fuel (pre.length + 20) eci
          (some (i, total, parity)) [] :=
  Proofs.SequenceRoundtrip.go_sa_hdr v st pre post i total parity fuel eci hv hi ht hp hst

open Proofs.SequenceRoundtrip (version_and_count_witness foreign_message_witness two_symbols_witness)

/-- **sequence round trip** (symbol_count requested, no ECI — `make_sequence` never passes eci).
    `hcontent`: the message bytes are the data of the single content part (what
    `data_to_bytes(content, encoding)` returns for `str | bytes | int` content; every
    reachable input satisfies it).  The model returns between 1 and 16 symbols, as many as requested
    when no version is requested (with a version the count comes from the version, see `sequence_roundtrip_fails`); symbol i
    decodes to the reported header with zero remainder bits and carries the Structured Append header
    (i, n − 1, XOR of the message bytes); the decoded payloads concatenated in order are exactly the
    message bytes. -/
theorem sequence_roundtrip_partial (parts : List Part) (msg : List Nat) (msgEnc : String) (error : Option Nat)
    (version : Option Int) (mask : Option Nat) (boost : Bool) (k : Int) (f : String → Option Nat) (cs : List Code)
    (hmsg : ∀ b ∈ msg, b < 256)
    (hcontent : parts.map (·.data) = [msg])
    (h : encodeSequenceAux parts msg msgEnc error version mask false boost (some k) f = .ok (true, cs)) :
    (version = none → cs.length = k.toNat)
    ∧ 1 ≤ cs.length ∧ cs.length ≤ 16
    ∧ ∃ payloads : List (List Nat), payloads.length = cs.length ∧ payloads.flatten = msg
        ∧ ∀ i (hi : i < cs.length), ∃ d p, Spec.decode cs[i].matrix = .ok d
            ∧ d.header = { version := cs[i].version, level := lvlKey cs[i].error, mask := cs[i].mask }
            ∧ d.badBlocks = 0 ∧ d.fnBad = none ∧ Spec.allZero d.blocks.remainder = true
            ∧ d.parsed = .ok p ∧ p.sa = some (i, cs.length - 1, Spec.xorAll msg)
            ∧ (p.segments.map (·.bytes)).flatten = payloads.getD i [] :=
  Proofs.SequenceRoundtrip.sequence_core parts msg msgEnc error version mask boost k f cs hmsg
    (fun segs s0 hprep hs0 => Proofs.SequenceRoundtrip.single_part_whole parts msg segs s0 hcontent hprep hs0) h

/-- "123" in 2 symbols (`Proofs.SequenceRoundtrip.twoSymbolsCheck`, kernel-evaluated): the input is accepted
    (the hypotheses of `sequence_roundtrip_partial` hold: bytes, message = content), two symbols result, the
    second one decodes with valid blocks to the header (1, 1, parity 48 = 49 ^ 50 ^ 51) and the digit 3 -/
example : Proofs.SequenceRoundtrip.twoSymbolsCheck = true := two_symbols_witness

/-- The round trip for every call with a requested symbol count (no ECI).  It does NOT hold for the model:
    (1) when a version is requested together with the symbol count, the number of symbols is computed
        from the version, not taken from the count (`sequence_roundtrip_fails`: 10 digits, version 1,
        symbol_count 3 gives ONE symbol);
    (2) `msg` is a free parameter here; if it is not the content of `parts` (e.g. three bytes with a
        kanji content), `divide_into_chunks` drops the incomplete last character
        (`sequence_roundtrip_needs_content`). -/
def SequenceRoundtrip : Prop :=
  ∀ (parts : List Part) (msg : List Nat) (msgEnc : String) (error : Option Nat)
    (version : Option Int) (mask : Option Nat) (boost : Bool) (k : Int) (f : String → Option Nat) (cs : List Code),
    (∀ b ∈ msg, b < 256) →
    encodeSequenceAux parts msg msgEnc error version mask false boost (some k) f = .ok (true, cs) →
    cs.length = k.toNat
    ∧ ∃ payloads : List (List Nat), payloads.length = cs.length ∧ payloads.flatten = msg
        ∧ ∀ i (hi : i < cs.length), ∃ d p, Spec.decode cs[i].matrix = .ok d ∧ d.badBlocks = 0 ∧ d.fnBad = none
            ∧ d.parsed = .ok p ∧ p.sa = some (i, cs.length - 1, Spec.xorAll msg)
            ∧ (p.segments.map (·.bytes)).flatten = payloads.getD i []

/-- (1), from the kernel-checked witness `Proofs.SequenceRoundtrip.version_and_count_witness` -/
theorem sequence_roundtrip_fails : ¬ SequenceRoundtrip := by
  intro hall
  obtain ⟨c, hr⟩ := Proofs.SequenceRoundtrip.of_oneSymbol version_and_count_witness
  have := (hall _ _ _ _ _ _ _ _ _ [c] (by decide) hr).1
  cases this

/-- the same statement restricted to `version = None`, `msg` still free -/
def SequenceRoundtripNoVersion : Prop :=
  ∀ (parts : List Part) (msg : List Nat) (msgEnc : String) (error : Option Nat)
    (mask : Option Nat) (boost : Bool) (k : Int) (f : String → Option Nat) (cs : List Code),
    (∀ b ∈ msg, b < 256) →
    encodeSequenceAux parts msg msgEnc error none mask false boost (some k) f = .ok (true, cs) →
    cs.length = k.toNat
    ∧ ∃ payloads : List (List Nat), payloads.length = cs.length ∧ payloads.flatten = msg
        ∧ ∀ i (hi : i < cs.length), ∃ d p, Spec.decode cs[i].matrix = .ok d ∧ d.badBlocks = 0 ∧ d.fnBad = none
            ∧ d.parsed = .ok p ∧ p.sa = some (i, cs.length - 1, Spec.xorAll msg)
            ∧ (p.segments.map (·.bytes)).flatten = payloads.getD i []

/-- (2): kanji content 点 (93 5F) with the message bytes 93 5F 93 (not the content) is accepted and gives one
    symbol (kernel-checked witness `Proofs.SequenceRoundtrip.foreign_message_witness`); by
    `Proofs.SequenceRoundtrip.sequence_cut` that symbol carries the message cut to whole characters, the two
    bytes 93 5F, not the three bytes of the message -/
theorem sequence_roundtrip_needs_content : ¬ SequenceRoundtripNoVersion := by
  intro hall
  obtain ⟨c, hr⟩ := Proofs.SequenceRoundtrip.of_oneSymbol foreign_message_witness
  obtain ⟨-, P, hPl, hPf, hP⟩ := hall _ _ _ _ _ _ _ _ [c] (by decide) hr
  obtain ⟨-, -, -, segs, s0, hprep, hs0, Q, hQl, hQf, hQ⟩ :=
    Proofs.SequenceRoundtrip.sequence_cut _ _ _ _ _ _ _ _ _ [c] (by decide) hr
  -- the content is prepared as a kanji segment: two bytes per character
  have hmode : (prepareData [⟨[0x93, 0x5f], none, "shift_jis"⟩]).toOption.bind (·.head?.map (·.mode)) = some 8 := by
    decide +kernel
  rw [hprep] at hmode
  simp only [Except.toOption, Option.bind_some, hs0, Option.map_some, Option.some.injEq] at hmode
  -- both lists of payloads consist of the bytes read from the one symbol
  obtain ⟨d, p, hd, -, -, hp, -, hb⟩ := hP 0 (by simp)
  obtain ⟨d', p', hd', -, -, -, -, hp', -, hb'⟩ := hQ 0 (by simp)
  rw [hd] at hd'; cases hd'
  rw [hp] at hp'; cases hp'
  have one : ∀ L : List (List Nat), L.length = 1 → L.flatten = L.getD 0 [] := by
    intro L hL
    match L, hL with
    | [x], _ => simp
  have h3 := congrArg List.length hPf
  have h2 := congrArg List.length hQf
  rw [one P hPl, ← hb] at h3
  rw [one Q hQl, ← hb', hmode, h3] at h2
  cases h2

/-- `SequenceRoundtripNoVersion` under the hypothesis it lacks (message = content) -/
theorem sequence_roundtrip_no_version (parts : List Part) (msg : List Nat) (msgEnc : String) (error : Option Nat)
    (mask : Option Nat) (boost : Bool) (k : Int) (f : String → Option Nat) (cs : List Code)
    (hmsg : ∀ b ∈ msg, b < 256)
    (hcontent : parts.map (·.data) = [msg])
    (h : encodeSequenceAux parts msg msgEnc error none mask false boost (some k) f = .ok (true, cs)) :
    cs.length = k.toNat
    ∧ ∃ payloads : List (List Nat), payloads.length = cs.length ∧ payloads.flatten = msg
        ∧ ∀ i (hi : i < cs.length), ∃ d p, Spec.decode cs[i].matrix = .ok d ∧ d.badBlocks = 0 ∧ d.fnBad = none
            ∧ d.parsed = .ok p ∧ p.sa = some (i, cs.length - 1, Spec.xorAll msg)
            ∧ (p.segments.map (·.bytes)).flatten = payloads.getD i [] := by
  obtain ⟨hn, -, -, payloads, h1, h2, h3⟩ :=
    sequence_roundtrip_partial parts msg msgEnc error none mask boost k f cs hmsg hcontent h
  refine ⟨hn rfl, payloads, h1, h2, fun i hi => ?_⟩
  obtain ⟨d, p, a1, -, a3, a4, -, a6, a7, a8⟩ := h3 i hi
  exact ⟨d, p, a1, a3, a4, a6, a7, a8⟩

end Props.C08

#print axioms Props.C08.sa_symbol_decodes
#print axioms Props.C08.parser_reads_sa_header
#print axioms Props.C08.sequence_roundtrip_fails
#print axioms Props.C08.sequence_roundtrip_needs_content
#print axioms Props.C08.sequence_roundtrip_partial
#print axioms Props.C08.sequence_roundtrip_no_version
