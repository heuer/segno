/-
  C10 — the JUDGE accepts the document the MODEL emits (reader ∘ writer = identity at the level of Lean definitions).
-/
import Props.C10
import Proofs.VectorAcceptEps

namespace Props.C10
open Model.Lines Spec.Vector Proofs.Lines Proofs.VectorAccept

/-- token level (SVG): the judge's path interpreter, reading the strings the model prints, computes exactly the
    absolute runs of the model (as horizontal two-point subpaths under the document's transform) -/
theorem judge_reads_model_svg_tokens (xf : Xf) (m : List (List Nat)) (b : Nat) :
    Spec.Vector.svgPath xf (Model.Lines.svgPath m b)
      = .ok (subsOf xf (toInt (matrixToLines m b (2 * (b : Int) + 1) 2))) := by
  unfold Model.Lines.svgPath
  rw [svgPath_svgTokens, rel_abs_svg]

/-- `judge_accepts_model_svg`, with the segments the judge reports made explicit: per matrix row the model's
    non-empty runs, at grid row `border + i` -/
theorem judge_accepts_model_svg_segs (m : List (List Nat)) (b : Nat) (s : Rat) (hs : 0 < s)
    (hsq : ∀ row ∈ m, row.length = m.length) :
    (do
      let subs ← Spec.Vector.svgPath { sx := s, sy := s } (Model.Lines.svgPath m b)
      let rs ← strokeRects (s / 2) subs
      let black : Color := { r := 0, g := 0, b := 0 }
      let P : Rat := ((m.length + 2 * b : Nat) : Rat) * s
      judgePaints { m := m, size := m.length, b := b, s := s, dark := some black, light := none }
        (some (P, P)) false 0 0 [Paint.stroke rs black]) = Except.ok (segsFrom b (rowsGo b 1 m)) := by
  rw [judge_reads_model_svg_tokens]
  simp only [bind, Except.bind]
  rw [subsOf_toInt, strokeRects_subC]
  apply judgePaints_lines m b s hs hsq _ _ _ _ _ _ _ rfl
  · intro j; exact Rat.add_zero _
  · -- row i is drawn at y = b + i + ½ (doubled: 2b + 1 + 2i); linear arithmetic once the casts are pushed inside
    intro i
    unfold half
    simp only [Int.natCast_add, Rat.intCast_add, Rat.intCast_mul, Rat.intCast_sub, Rat.intCast_natCast]
    grind

/-- `judge_accepts_model_svg` (stated in Props/C10.lean): the judge accepts the model's SVG document of every
    symbol-shaped matrix, every border and every positive rational scale. -/
theorem judge_accepts_model_svg_proved : judge_accepts_model_svg := by
  intro m b s hs _ hm
  exact ⟨_, judge_accepts_model_svg_segs m b s hs (fun row hr => (hm row hr).1)⟩

example : ∃ segs,
    (do
      let subs ← Spec.Vector.svgPath { sx := 3 / 2, sy := 3 / 2 } (Model.Lines.svgPath [[1, 0], [0, 1]] 1)
      let rs ← strokeRects ((3 / 2 : Rat) / 2) subs
      let black : Color := { r := 0, g := 0, b := 0 }
      let P : Rat := ((2 + 2 * 1 : Nat) : Rat) * (3 / 2)
      judgePaints { m := [[1, 0], [0, 1]], size := 2, b := 1, s := 3 / 2, dark := some black, light := none }
        (some (P, P)) false 0 0 [Paint.stroke rs black]) = Except.ok segs :=
  judge_accepts_model_svg_proved [[1, 0], [0, 1]] 1 (3 / 2) (by decide +kernel) (by decide) (by decide)

/-- the judge accepts the model's PDF content stream (scale ≠ 1: the scale matrix `s 0 0 s 0 0 cm` precedes the
    operators of `Model.Lines.pdfOps`; `st` is any decimal text of the scale, Python's float formatting is not modelled):
    `pdfRun` interprets the operators (`cm`, `m`, `l`, `S`, numbers through `parseDecimal`), the stroked rectangles snap
    to the y-up module grid of the page, every dark module is covered exactly once, no light one. -/
def judge_accepts_model_pdf : Prop :=
  ∀ (m : List (List Nat)) (b : Nat) (s : Rat) (st : String), 0 < s → num? st = some s → m ≠ [] →
    (∀ row ∈ m, row.length = m.length ∧ ∀ c ∈ row, c ≤ 1) →
    ∃ segs,
      (do
        let paints ← pdfRun ([st, "0", "0", st, "0", "0", "cm"] ++ Model.Lines.pdfOps m b)
        let black : Color := { r := 0, g := 0, b := 0 }
        let P : Rat := ((m.length + 2 * b : Nat) : Rat) * s
        judgePaints { m := m, size := m.length, b := b, s := s, dark := some black, light := none }
          (some (P, P)) true P 0 paints) = Except.ok segs

theorem judge_accepts_model_pdf_proved : judge_accepts_model_pdf := by
  intro m b s st hs hst _ hm
  exact ⟨_, pdf_accept m b s hs (fun row hr => (hm row hr).1) _ (pdf_scale_prefix st s hst)⟩

/-- the same at scale 1, where `write_pdf` writes no scale matrix -/
def judge_accepts_model_pdf_scale1 : Prop :=
  ∀ (m : List (List Nat)) (b : Nat), m ≠ [] → (∀ row ∈ m, row.length = m.length ∧ ∀ c ∈ row, c ≤ 1) →
    ∃ segs,
      (do
        let paints ← pdfRun (Model.Lines.pdfOps m b)
        let black : Color := { r := 0, g := 0, b := 0 }
        let P : Rat := ((m.length + 2 * b : Nat) : Rat) * 1
        judgePaints { m := m, size := m.length, b := b, s := 1, dark := some black, light := none }
          (some (P, P)) true P 0 paints) = Except.ok segs

theorem judge_accepts_model_pdf_scale1_proved : judge_accepts_model_pdf_scale1 := by
  intro m b _ hm
  exact ⟨_, pdf_accept m b 1 (by decide +kernel) (fun row hr => (hm row hr).1) [] pdf_noprefix⟩

example : num? "3.3" = some (33 / 10 : Rat) := by decide +kernel

/-- the judge accepts the model's EPS program: prolog (`/m { rmoveto } bind def`, `/l { rlineto } bind def`),
    `s s scale`, `newpath`, the tokens of `Model.Lines.epsPath`, `stroke`.  `write_eps` takes the first relative move from the initial y; the
    first row always yields a line there (see `rel_abs_eps`), so the dark module asked for in the first row (there
    is one in every symbol: finder pattern) is not used by the proof. -/
def judge_accepts_model_eps : Prop :=
  ∀ (row : List Nat) (rest : List (List Nat)) (b : Nat) (s : Rat) (st : String), 0 < s → num? st = some s →
    (∀ r ∈ row :: rest, r.length = (row :: rest).length ∧ ∀ c ∈ r, c ≤ 1) → (∃ c ∈ row, c ≠ 0) →
    ∃ toks segs, Model.Lines.epsPath (row :: rest) b = some toks ∧
      (do
        let paints ← psRun (["/m", "{", "rmoveto", "}", "bind", "def", "/l", "{", "rlineto", "}", "bind", "def"]
          ++ [st, st, "scale", "newpath"] ++ toks ++ ["stroke"])
        let black : Color := { r := 0, g := 0, b := 0 }
        let P : Rat := (((row :: rest).length + 2 * b : Nat) : Rat) * s
        judgePaints { m := row :: rest, size := (row :: rest).length, b := b, s := s, dark := some black, light := none }
          (some (P, P)) true P 0 paints) = Except.ok segs

theorem judge_accepts_model_eps_proved : judge_accepts_model_eps := by
  intro row rest b s st hs hst hm _
  obtain ⟨toks, h1, h2⟩ := eps_accept (row :: rest) b s hs (fun r hr => (hm r hr).1) [st, st, "scale"]
    (eps_pre_slash st s hst) (eps_pre_run st s hst) row rest rfl
  simp only [prolog, epsBody, List.cons_append, List.nil_append] at h2 ⊢
  exact ⟨toks, _, h1, h2⟩

/-- the same at scale 1, where `write_eps` writes no `scale` -/
def judge_accepts_model_eps_scale1 : Prop :=
  ∀ (row : List Nat) (rest : List (List Nat)) (b : Nat),
    (∀ r ∈ row :: rest, r.length = (row :: rest).length ∧ ∀ c ∈ r, c ≤ 1) → (∃ c ∈ row, c ≠ 0) →
    ∃ toks segs, Model.Lines.epsPath (row :: rest) b = some toks ∧
      (do
        let paints ← psRun (["/m", "{", "rmoveto", "}", "bind", "def", "/l", "{", "rlineto", "}", "bind", "def"]
          ++ ["newpath"] ++ toks ++ ["stroke"])
        let black : Color := { r := 0, g := 0, b := 0 }
        let P : Rat := (((row :: rest).length + 2 * b : Nat) : Rat) * 1
        judgePaints { m := row :: rest, size := (row :: rest).length, b := b, s := 1, dark := some black, light := none }
          (some (P, P)) true P 0 paints) = Except.ok segs

theorem judge_accepts_model_eps_scale1_proved : judge_accepts_model_eps_scale1 := by
  intro row rest b hm _
  obtain ⟨toks, h1, h2⟩ := eps_accept (row :: rest) b 1 (by decide +kernel) (fun r hr => (hm r hr).1) []
    (fun _ h => by cases h) eps_nopre_run row rest rfl
  simp only [prolog, epsBody, List.cons_append, List.nil_append] at h2 ⊢
  exact ⟨toks, _, h1, h2⟩

example : ∃ c ∈ [1, 1, 1, 0, 1], c ≠ 0 := ⟨1, by simp, by decide⟩

end Props.C10
