/-
  C01 (placement layer, with the function patterns of C02 it rests on) — the codeword bits are placed in the
  ISO zig-zag order into exactly the encoding region, masking touches only the encoding region, and the reference reader's `readDataBits`
  gets the final message back: for ALL 44 versions.
-/
import Spec.Decode
import Model.Encoder
import Proofs.Placement2
import Proofs.Geometry

namespace Props.C01

/-- all 44 version constants -/
def allVersions : List Int := (List.range 44).map (fun k => Int.ofNat k - 3)

/-- the function matrix as rows (lists) -/
def fmRows (v : Int) : Option (List (List Nat)) :=
  match Model.functionMatrix (Spec.size v) with
  | .ok fm => some (fm.toList.map Array.toList)
  | .error _ => none

/-- expected skeleton rows from the ISO region predicates: fixed function modules have their ISO
    value, reserved format / version cells are light, the dark module is set, data cells hold 2 -/
def isoSkeletonRows (v : Int) : List (List Nat) :=
  let n := Spec.size v
  (List.range n).map (fun i => (List.range n).map (fun j =>
    match Spec.kind v i j with
    | .data => 2
    | .format => 0
    | .version => 0
    | .darkmodule => 1
    | _ => (Spec.fixedValue v i j).getD 9))

/-- **function patterns, all versions**: make_matrix + add_finder_patterns + add_alignment_patterns
    (+ dark module) of the model = ISO skeleton, cell by cell (an argument about the three loops for every symbol
    size, Proofs/Cells.lean; the versions enter through the rows of `ALIGNMENT_POS`) -/
theorem skeleton_iso_all : allVersions.all (fun v => fmRows v == some (isoSkeletonRows v)) = true := by
  rw [List.all_eq_true]
  intro v hv
  obtain ⟨h1, h2⟩ := Proofs.Placement2.range_of_mem_allVersions v hv
  obtain ⟨fm, hfm, hr⟩ := Proofs.Placement2.functionMatrix_skeleton v h1 h2
  unfold fmRows
  rw [hfm]
  exact beq_iff_eq.mpr (congrArg some hr)

/-- the unfiltered zig-zag walk of the reference reader -/
def zigzagAll (v : Int) : List (Nat × Nat) :=
  let n := Spec.size v
  ((Spec.stripColumns v).zipIdx.map (fun (c, k) =>
    let rows := if k % 2 == 0 then (List.range n).reverse else List.range n
    (rows.map (fun i => [(i, c), (i, c - 1)])).flatten)).flatten

/-- **placement order, all versions** (kernel-checked): `add_codewords` visits the modules in the ISO
    7.7.3 order (two-module strips from the right, alternately upwards and downwards, skipping the
    vertical timing column) -/
theorem placement_order_iso_all :
    allVersions.all (fun v => Model.codewordCoords (Spec.size v) v == zigzagAll v) = true := by
  rw [List.all_eq_true]
  intro v hv
  obtain ⟨h1, h2⟩ := Proofs.Placement2.range_of_mem_allVersions v hv
  exact beq_iff_eq.mpr (Proofs.Placement2.order_of_ok v (Proofs.Placement2.strips_ok v h1 h2).1)

/-- every module is visited exactly once, all versions (per version a linear kernel check that the strips
    cover all columns but the timing column; Nodup then follows structurally) -/
theorem placement_visits_each_cell_once (v : Int) (h1 : -3 ≤ v) (h2 : v ≤ 40) :
    (zigzagAll v).Nodup ∧ ∀ p ∈ zigzagAll v, p.1 < Spec.size v ∧ p.2 < Spec.size v := by
  exact Proofs.Placement2.zigzag_nodup_range v (Proofs.Placement2.strips_ok v h1 h2).2

/-- number of modules of the encoding region = 8 · codewords (− 4 in M1/M3) + remainder bits (Table 9) -/
theorem data_cell_count (v : Int) (lvl : Int) (ecc : List (Nat × Nat × Nat)) (h1 : -3 ≤ v) (h2 : v ≤ 40)
    (hecc : Spec.eccOf v lvl = some ecc) :
    (Spec.dataCoords v).length + (if Spec.fourBitFinal v then 4 else 0)
      = 8 * (ecc.map (fun b => b.1 * b.2.1)).foldl (· + ·) 0 + Spec.remainderBits v := by
  exact Proofs.Placement2.count_of_ok v (Proofs.Placement2.count_ok v h1 h2) (Proofs.Placement2.strips_ok v h1 h2).2
    lvl ecc hecc

/-- **placement round trip**: for every version, every bit sequence that fills the encoding region,
    every mask pattern p (QR numbering, `mk` its number in the symbol's own numbering): after
    add_codewords into the skeleton and apply_mask, the reference reader's zig-zag read with
    unmasking returns exactly the bits — whatever is later written into format / version cells -/
theorem placement_roundtrip (v : Int) (bits : List Nat) (fm m0 m1 : Model.Matrix) (mk : Nat)
    (h1 : -3 ≤ v) (h2 : v ≤ 40) (hb : ∀ b ∈ bits, b ≤ 1)
    (hlen : bits.length = (Spec.dataCoords v).length)
    (hfm : Model.functionMatrix (Spec.size v) = .ok fm)
    (hm0 : Model.addAlignmentPatterns (Model.addFinderPatterns (Model.makeMatrix (Spec.size v)) (Spec.size v)) (Spec.size v) = .ok m0)
    (hm1 : Model.addCodewords m0 bits v = .ok m1)
    (hmk : mk < (Model.maskPatterns (decide (v < 1))).length) :
    Spec.readDataBits v mk (Model.applyMask m1 fm ((Model.maskPatterns (decide (v < 1))).getD mk 0)) = bits := by
  obtain ⟨hord, hcols⟩ := Proofs.Placement2.strips_ok v h1 h2
  exact Proofs.Placement2.roundtrip_core v bits fm m0 m1 mk
    (Proofs.Placement2.m0_rows_all v h1 h2) hord hcols hb hlen hfm hm0 hm1 hmk

/-- reading is insensitive to what format / version information / dark module cells hold -/
theorem readDataBits_ignores_function_cells (v : Int) (mk : Nat) (a b : Model.Matrix)
    (h : ∀ i j, Spec.kind v i j = .data → Spec.cell a i j = Spec.cell b i j) :
    Spec.readDataBits v mk a = Spec.readDataBits v mk b := by
  unfold Spec.readDataBits
  refine List.map_congr_left fun p hp => ?_
  rw [Proofs.Placement2.dataCoords_eq] at hp
  have := (List.mem_filter.mp hp).2
  unfold Spec.isData at this
  rw [h p.1 p.2 (by simpa using this)]

end Props.C01

namespace Props.C03

/-- all levels of one version have the same total number of codewords: by `data_cell_count` each of them fills
    the encoding region of the same symbol -/
theorem table9_total_constant_per_version :
    Spec.eccTable.all (fun e => Spec.eccTable.all (fun f =>
      e.1 != f.1 || (e.2.2.map (fun b => b.1 * b.2.1)).foldl (· + ·) 0
                 == (f.2.2.map (fun b => b.1 * b.2.1)).foldl (· + ·) 0)) = true := by
  have hrange : Spec.eccTable.all (fun e => decide (-3 ≤ e.1 ∧ e.1 ≤ 40)) = true := by decide +kernel
  simp only [List.all_eq_true, Bool.or_eq_true, bne_iff_ne, ne_eq, beq_iff_eq, decide_eq_true_eq] at hrange ⊢
  intro e he f hf
  by_cases hv : e.1 = f.1
  · right
    obtain ⟨h1, h2⟩ := hrange e he
    have h := List.all_eq_true.mp (Proofs.Placement2.count_ok e.1 h1 h2)
    have he' := h e he
    have hf' := h f hf
    rw [← hv] at hf'
    simp only [bne_self_eq_false, Bool.false_or, beq_iff_eq] at he' hf'
    omega
  · exact Or.inl hv

end Props.C03

#print axioms Props.C01.skeleton_iso_all
#print axioms Props.C01.placement_order_iso_all
#print axioms Props.C01.placement_visits_each_cell_once
#print axioms Props.C01.data_cell_count
#print axioms Props.C01.placement_roundtrip
#print axioms Props.C01.readDataBits_ignores_function_cells
