/-
  C13 — the data bit stream is terminated and padded as ISO/IEC 18004 7.4.9 / 7.4.10 require.
  `Model.finishStream` models write_terminator + write_padding_bits + write_pad_codewords,
  `Spec.isoTail` is the tail the standard prescribes, `Spec.d1Tail` the recorded deviation D1.
  What holds for every stream, and what the end-to-end theorem uses, is `stream_layout_d1`; the statements
  with the ISO tail itself (`StreamLayout`, `StreamLayoutPartial`) are false, and `stream_layout_iff` says
  exactly when the ISO tail is what is written.
-/
import Spec.Decode
import Model.Encoder
import Proofs.Stream

namespace Props.C13

/-- `cap` is the Table 7 capacity of version `v` at some level -/
def CapOf (v : Int) (cap : Nat) : Prop := ∃ e : Option Nat, Model.capacity v e = some cap

set_option linter.unusedVariables false in
/-- the first `cap` bits of the stream (all that make_blocks uses) are segments ++ `Spec.d1Tail`: the ISO tail and,
    on the D1 trigger, the predicted deviation of the model (= segno), one 00000000 codeword before the pad codewords -/
theorem stream_layout_d1 (v : Int) (cap : Nat) (buff s : List Nat) (h1 : -3 ≤ v) (h2 : v ≤ 40)
    (hc : CapOf v cap) (hl : buff.length ≤ cap) (h : Model.finishStream buff v cap = .ok s) :
    s.take cap = buff ++ Spec.d1Tail v cap buff.length ∧ cap ≤ s.length := by
  obtain ⟨e, hc⟩ := hc
  have hlen : (buff ++ Spec.d1Tail v cap buff.length).length = cap := by
    rw [List.length_append]; exact Proofs.Stream.d1Tail_length v cap _ e hc hl
  rw [Proofs.Stream.finish_eq buff v cap e hc hl] at h
  cases h
  exact ⟨List.take_left' hlen, by rw [List.length_append, hlen]; omega⟩

/-- outside the D1 trigger the first `cap` bits of
    the stream (all that make_blocks uses) are segments ++ ISO tail -/
theorem stream_layout_partial_take (v : Int) (cap : Nat) (buff s : List Nat) (h1 : -3 ≤ v) (h2 : v ≤ 40)
    (hc : CapOf v cap) (hl : buff.length ≤ cap) (hnot : Spec.d1Trigger v cap buff.length = false)
    (h : Model.finishStream buff v cap = .ok s) :
    s.take cap = buff ++ Spec.isoTail v cap buff.length ∧ cap ≤ s.length := by
  have := stream_layout_d1 v cap buff s h1 h2 hc hl h
  rwa [Proofs.Stream.d1Tail_eq_isoTail v cap _ hnot] at this

/-- whatever the segments are, the stream is segments ++ ISO tail.  The model refutes it (finding D1):
    `d1_witness`. -/
def StreamLayout : Prop :=
  ∀ (v : Int) (cap : Nat) (buff s : List Nat), -3 ≤ v → v ≤ 40 → CapOf v cap → buff.length ≤ cap →
    Model.finishStream buff v cap = .ok s → s = buff ++ Spec.isoTail v cap buff.length

/-- the same outside the D1 trigger — still FALSE: `d1Trigger` is also false when the
    terminated stream is codeword-aligned and fills the capacity exactly (`l1 = cap`, not M1/M3); the
    model (= segno) then still appends 8 zero bits, so `s` is 8 bits longer than `cap`.
    Counterexample: v = 1, cap = 152 (1-L), buff = 152 bits (e.g. 17 bytes in byte mode + terminator):
    `finishStream` gives 160 bits, `isoTail 1 152 152 = []`; see `stream_layout_partial_counterexample`. -/
def StreamLayoutPartial : Prop :=
  ∀ (v : Int) (cap : Nat) (buff s : List Nat), -3 ≤ v → v ≤ 40 → CapOf v cap → buff.length ≤ cap →
    Spec.d1Trigger v cap buff.length = false →
    Model.finishStream buff v cap = .ok s → s = buff ++ Spec.isoTail v cap buff.length

theorem stream_layout_partial_counterexample : ¬ StreamLayoutPartial := by
  intro h
  have hc : Model.capacity 1 (some 1) = some 152 := by decide +kernel
  have hl : (List.replicate 152 1).length ≤ 152 := by simp
  obtain ⟨s, hs⟩ := Proofs.Stream.finish_total 1 152 (List.replicate 152 1) (by decide) (by decide)
  have hiso := h 1 152 _ s (by decide) (by decide) ⟨some 1, hc⟩ hl (by decide +kernel) hs
  -- not M1/M3 and the 152 bits are codeword-aligned: the stream is not segments ++ ISO tail
  exact Proofs.Stream.finish_ne_iso _ 1 152 (some 1) hc hl rfl (by rw [List.length_replicate]; decide) (hiso ▸ hs)

set_option linter.unusedVariables false in
/-- unless the symbol is not M1/M3 AND the
    terminated stream is codeword-aligned, the stream is exactly segments ++ ISO tail.
    (Given `hc`/`hl` the hypothesis `hal` is equivalent to: `d1Trigger = false` and not
    "not M1/M3 with terminated length = cap".) -/
theorem stream_layout_partial_partial (v : Int) (cap : Nat) (buff s : List Nat) (h1 : -3 ≤ v) (h2 : v ≤ 40)
    (hc : CapOf v cap) (hl : buff.length ≤ cap)
    (hal : Spec.fourBitFinal v = true ∨
      (buff.length + min (cap - buff.length) (Spec.terminatorLen v)) % 8 ≠ 0)
    (h : Model.finishStream buff v cap = .ok s) :
    s = buff ++ Spec.isoTail v cap buff.length := by
  obtain ⟨e, hc⟩ := hc
  rw [Proofs.Stream.finish_iso buff v cap e hc hl hal] at h
  exact (Except.ok.inj h).symm

/-- the hypothesis of `stream_layout_partial_partial` is also necessary: exact characterisation of
    when segno follows ISO 7.4.9/7.4.10 bit for bit -/
theorem stream_layout_iff (v : Int) (cap : Nat) (buff s : List Nat) (h1 : -3 ≤ v) (h2 : v ≤ 40)
    (hc : CapOf v cap) (hl : buff.length ≤ cap) (h : Model.finishStream buff v cap = .ok s) :
    s = buff ++ Spec.isoTail v cap buff.length ↔
      (Spec.fourBitFinal v = true ∨
        (buff.length + min (cap - buff.length) (Spec.terminatorLen v)) % 8 ≠ 0) := by
  constructor
  · intro hs
    obtain ⟨e, hc⟩ := hc
    cases hf : Spec.fourBitFinal v with
    | true => exact Or.inl rfl
    | false =>
      refine Or.inr (fun hal => ?_)
      exact Proofs.Stream.finish_ne_iso buff v cap e hc hl hf hal (hs ▸ h)
  · intro hal
    exact stream_layout_partial_partial v cap buff s h1 h2 hc hl hal h

/-- `finishStream` never fails for a valid version -/
theorem finish_stream_total (v : Int) (cap : Nat) (buff : List Nat) (h1 : -3 ≤ v) (h2 : v ≤ 40) :
    ∃ s, Model.finishStream buff v cap = .ok s :=
  Proofs.Stream.finish_total v cap buff h1 h2

set_option linter.unusedVariables false in
/-- the ISO tail fills the capacity exactly -/
theorem iso_tail_fills_capacity (v : Int) (cap len : Nat) (h1 : -3 ≤ v) (h2 : v ≤ 40) (hc : CapOf v cap)
    (hl : len ≤ cap) : len + (Spec.isoTail v cap len).length = cap := by
  obtain ⟨e, hc⟩ := hc
  exact Proofs.Stream.isoTail_length v cap len e hc hl

/-- the remainder bits table translated from make_final_message is the ISO one -/
theorem remainder_bits_iso (v : Int) (h1 : -3 ≤ v) (h2 : v ≤ 40) :
    Gen.remainder_bits v = (Spec.remainderBits v : Int) :=
  Proofs.Stream.remainder_bits v h1 h2

/-- the terminator lengths of `consts.TERMINATOR_LENGTH` are 4 (QR) and 3/5/7/9 (M1..M4) -/
theorem terminator_length_iso (v : Int) (h1 : -3 ≤ v) (h2 : v ≤ 40) :
    Model.terminatorLength v = some (Spec.terminatorLen v) :=
  Proofs.Stream.terminator_length v h1 h2

/-- whenever the D1 trigger holds the stream deviates from ISO (`d1_witness` is an instance) -/
theorem d1_deviates (v : Int) (cap : Nat) (buff : List Nat) (hc : CapOf v cap) (hl : buff.length ≤ cap)
    (ht : Spec.d1Trigger v cap buff.length = true) :
    Model.finishStream buff v cap ≠ .ok (buff ++ Spec.isoTail v cap buff.length) := by
  obtain ⟨e, hc⟩ := hc
  unfold Spec.d1Trigger at ht
  simp only [Bool.and_eq_true, Bool.not_eq_true', beq_iff_eq, decide_eq_true_eq] at ht
  exact Proofs.Stream.finish_ne_iso buff v cap e hc hl ht.1.1 ht.1.2

/-- kernel-checked witness that `StreamLayout` fails (finding D1): 11 bits of segments in M2-L
    (capacity 40): 11 + 5 terminator bits = 16, aligned; ISO continues with 11101100, the code with 00000000 -/
theorem d1_witness :
    Spec.d1Trigger (-2) 40 11 = true ∧
    Model.finishStream (List.replicate 11 1) (-2) 40 ≠ .ok (List.replicate 11 1 ++ Spec.isoTail (-2) 40 11) := by
  exact ⟨by decide +kernel,
    d1_deviates (-2) 40 _ ⟨some 1, by decide +kernel⟩ (by simp) (by decide +kernel)⟩

end Props.C13

#print axioms Props.C13.stream_layout_partial_counterexample
#print axioms Props.C13.stream_layout_partial_partial
#print axioms Props.C13.stream_layout_iff
#print axioms Props.C13.stream_layout_partial_take
#print axioms Props.C13.stream_layout_d1
#print axioms Props.C13.finish_stream_total
#print axioms Props.C13.iso_tail_fills_capacity
#print axioms Props.C13.remainder_bits_iso
#print axioms Props.C13.terminator_length_iso
#print axioms Props.C13.d1_witness
#print axioms Props.C13.d1_deviates
