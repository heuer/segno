/-
  C12, the route layer (Model/Routes.lean): `save` (kind / extension, svgz, file name against stream), `svg_inline`,
  the data URIs, `QRCodeSequence.save` and `cli.main` give the same document.  Every statement holds for EVERY
  serialiser environment `env`; `Model.RoutesDocs.docEnv`, the whole-document models, is one.  harness/routes_model.py
  ties the model to the real code call by call; the readers of Spec/Decoders.lean are independent of the encoders.
-/
import Model.RoutesDocs
import Proofs.RoutesCodec
import Proofs.RoutesUri
import Props.C12

namespace Props.C12Routes
open Gen (PyV)
open Model Model.Cli Model.Routes Spec.Decoders Proofs.RoutesCodec Proofs.Routes

-- row `name` of `Gen.ROUTE_SIGS`, the signatures read from the repository (Tie A)
def routeSig (name : String) : Option (List String × Config × Bool) := (Gen.ROUTE_SIGS.find? (·.1 == name)).map (·.2)

/-- Kernel check: the parameters, defaults and `**kw` of the route wrappers in the repository
    are the ones Model/Routes.lean follows (`svgDataUriSig`, `asSvgDataUriSig`, `asPngDataUriSig`, the names refused by
    `savePlan` / `svgInlinePlan` / `pngDataUriPlan`, the parameters of `terminal`, of `write_terminal_compact` and of
    `QRCodeSequence.save`) -/
theorem route_signatures :
    routeSig "QRCode.save" = some (["self", "out"], [("kind", .none)], true)
    ∧ routeSig "writers.save" = some (["matrix", "matrix_size", "out"], [("kind", .none)], true)
    ∧ routeSig "QRCode.svg_inline" = some (["self"], [], true)
    ∧ routeSig "QRCode.svg_data_uri" = some (svgDataUriSig.positional, svgDataUriSig.params, svgDataUriSig.varkw)
    ∧ routeSig "writers.as_svg_data_uri" = some (asSvgDataUriSig.positional, asSvgDataUriSig.params, asSvgDataUriSig.varkw)
    ∧ routeSig "QRCode.png_data_uri" = some (["self"], [], true)
    ∧ routeSig "writers.as_png_data_uri" = some (asPngDataUriSig.positional, asPngDataUriSig.params, asPngDataUriSig.varkw)
    ∧ routeSig "QRCode.terminal" = some (["self"], [("out", .none), ("border", .none), ("compact", .bool false)], false)
    ∧ (routeSig "writers.write_terminal_compact").map (·.2.1) = serializerDefaults "compact"
    ∧ routeSig "QRCodeSequence.save" = routeSig "QRCode.save"
    ∧ (routeSig "QRCodeSequence.terminal").map (·.2) = (routeSig "QRCode.terminal").map (·.2) := by
  refine ⟨?_, ?_, ?_, ?_, ?_, ?_, ?_, ?_, ?_, ?_, ?_⟩ <;> decide +kernel

/-- Reading the model's base64 text back gives the bytes, for EVERY byte string
    (all three padding cases included) -/
theorem base64_decode_encode (bs : List Nat) (h : ∀ b ∈ bs, b < 256) : b64decode (b64encode bs) = some bs :=
  b64_roundtrip bs h

/-- Percent-decoding the model's encoded text gives the document back, for every
    byte string, with the normal safe set (`safe=b""`), the `encode_minimal` one (`safe=b" :/='"`) and every
    other safe set that does not contain `%` -/
theorem percent_decode_encode (bs : List Nat) (h : ∀ b ∈ bs, b < 256) :
    pctDecode (pctEncode safeNormal bs) = bs ∧ pctDecode (pctEncode safeMinimal bs) = bs
    ∧ ∀ safe : List Nat, isSafe safe 37 = false → pctDecode (pctEncode safe bs) = bs :=
  ⟨pct_roundtrip safeNormal (by decide) bs h, pct_roundtrip safeMinimal (by decide) bs h,
   fun safe h37 => pct_roundtrip safe h37 bs h⟩

/-- Finding D12: `_replace_quotes` keeps the length; position by
    position a byte is unchanged or a `"` that became `'`; and the document is changed AT ALL iff it contains
    `="…"` with a non-empty value free of `"` (`Spec.Decoders.HasQuotedAttr`): outside that set of documents the
    data-URI route and the file route are byte-identical after decoding, inside they differ -/
theorem replace_quotes_spec (d : List Nat) :
    Pointwise QuoteStep d (replaceQuotes d) ∧ (replaceQuotes d = d ↔ ¬ HasQuotedAttr d) :=
  ⟨rq_pointwise d, fun h hq => rq_changed_of_attr d hq h, rq_fixed_of_no_attr d⟩

/-- the judge recognises D12 by recomputing the rewriting (`Spec.Routes.rewriteQuotes`): it is the model's function -/
theorem judge_d12_eq_model (d : List Nat) : Spec.Routes.rewriteQuotes (d.length + 1) d = replaceQuotes d :=
  judge_rewrite_eq (d.length + 1) d (Nat.lt_succ_self _)

/-- The same result (document or refusal) whether the serialiser is selected by
    the extension of the file name `stem.EXT` or by `kind=` (any letter case, any other file name), for every
    environment, keyword map and — with `svgz` — compression included -/
theorem kind_eq_extension_document (env : Env) (stem other ext kind : Str) (kw : Config)
    (hd : '.' ∉ ext) (hc : lower kind = lower ext) :
    save env (.path (stem ++ '.' :: ext)) none kw = save env (.path other) (some kind) kw :=
  save_congr_dispatch env _ _ _ _ kw rfl (Props.C12.dispatch_kind_eq_extension validKeys stem [] ext kind false hd hc).symm

/-- the letter case of the extension does not matter -/
theorem extension_case_document (env : Env) (stem stem' ext ext' : Str) (kw : Config)
    (hd : '.' ∉ ext) (hc : lower ext' = lower ext) :
    save env (.path (stem' ++ '.' :: ext')) none kw = save env (.path (stem ++ '.' :: ext)) none kw :=
  save_congr_dispatch env _ _ _ _ kw rfl (Props.C12.dispatch_case_insensitive validKeys stem stem' ext ext' hd hc)

/-- With `kind=` given, the bytes written to a binary stream are the content of the file; a
    text stream (only the serialisers that write `str` without an encoding accept one) receives the text whose
    encoding in the locale's default encoding (`open(path, 'wt')`) is the file; and every file arises in one of
    these two ways.  (svgz included: the gzip member; a text stream is refused there.) -/
theorem stream_eq_file (env : Env) (file : Str) (nm : Option Str) (kind : Str) (kw : Config) :
    (∀ b, save env (.stream true nm) (some kind) kw = .ok (.written (.bytes b)) →
        save env (.path file) (some kind) kw = .ok (.written (.bytes b)))
    ∧ (∀ s, save env (.stream false nm) (some kind) kw = .ok (.written (.chars s)) →
        save env (.path file) (some kind) kw = (env.codec env.defaultEnc s).map (fun b => .written (.bytes b)))
    ∧ (∀ b, save env (.path file) (some kind) kw = .ok (.written (.bytes b)) →
        save env (.stream true nm) (some kind) kw = .ok (.written (.bytes b))
        ∨ ∃ s, save env (.stream false nm) (some kind) kw = .ok (.written (.chars s)) ∧ env.codec env.defaultEnc s = .ok b) := by
  simp only [save_eq, dispatchOf, OutArg.sink]
  exact saveCore_stream_file env kw _

/-- Gzip is a runtime service (`env.gzip`): what `save('name.svgz', **kw)` writes is the
    gzip member — at the level `compresslevel` (default 9) — of EXACTLY the bytes `save(BytesIO(), kind='svg')`
    writes for the same keywords without `compresslevel`; and conversely, whenever gzip accepts the level, that
    SVG document is what ends up compressed in the file. -/
theorem svgz_gunzip_eq_svg (env : Env) (stem : Str) (kw : Config) :
    (∀ r, save env (.path (stem ++ '.' :: "svgz".toList)) none kw = .ok r →
        ∃ d, save env (.stream true none) (some "svg".toList) (cpop kw "compresslevel") = .ok (.written (.bytes d))
          ∧ r = .written (.bytes (env.gzip (gzLevel kw) d)))
    ∧ (∀ d, env.gzipCheck (gzLevel kw) = .ok () →
        save env (.stream true none) (some "svg".toList) (cpop kw "compresslevel") = .ok (.written (.bytes d)) →
        save env (.path (stem ++ '.' :: "svgz".toList)) none kw = .ok (.written (.bytes (env.gzip (gzLevel kw) d)))) := by
  have hfree : Free saveReserved (cpop kw "compresslevel") ↔ Free saveReserved kw := free_cpop _ _ _ (by decide)
  simp only [save_eq, hfree, dispatch_svgz, dispatch_svg_kind]
  split
  · constructor
    · intro r h
      obtain ⟨_, so, d, hs, hd, rfl⟩ := (saveCore_gzip_ok rfl).1 h
      exact ⟨d, saveCore_bin_ok.2 ⟨so, hs, hd⟩, rfl⟩
    · intro d hg h
      obtain ⟨so, hs, hd⟩ := saveCore_bin_ok.1 h
      exact (saveCore_gzip_ok rfl).2 ⟨hg, so, d, hs, hd, rfl⟩
  · exact ⟨fun _ h => (nomatch h), fun _ _ h => (nomatch h)⟩

/-- `QRCodeSequence.save(out, kind, **kw)` of m symbols succeeds with m writes; the n-th
    write goes to `seqOut out m n` (the file `stem-MM-NN.ext` for a file name with a dot and m > 1) and is exactly
    what `save` of the n-th symbol alone writes there -/
theorem sequence_save_each (envs : List Env) (out : OutArg) (kind : Option Str) (kw : Config) (l : List (OutArg × Result))
    (h : seqSave envs out kind kw = .ok l) :
    l.length = envs.length
    ∧ ∀ (i : Nat) (env : Env), envs[i]? = some env →
        ∃ r, save env (seqOut out envs.length (i + 1)) kind kw = .ok r ∧ l[i]? = some (seqOut out envs.length (i + 1), r) := by
  refine ⟨seqSaveGo_length _ _ _ _ envs 1 l h, fun i env hi => ?_⟩
  rw [Nat.add_comm i 1]
  exact seqSaveGo_get _ _ _ _ envs 1 l h i env hi

/-- … and the document in `stem-MM-NN.ext` is the one the symbol gives when saved alone under the original name
    (the file name matters only through its extension) -/
theorem sequence_file_document (env : Env) (stem ext : Str) (m n : Nat) (kw : Config) (hd : '.' ∉ ext) :
    save env (seqOut (.path (stem ++ '.' :: ext)) m n) none kw = save env (.path (stem ++ '.' :: ext)) none kw := by
  simp only [seqOut, seqFileName]
  by_cases hm : m > 1
  · simp only [hm, if_true, Proofs.CliLemmas.splitLastDot_append _ _ hd]
    have := extension_case_document env stem (stem ++ ['-'] ++ fmt02 m ++ ['-'] ++ fmt02 n) ext ext kw hd rfl
    simpa [List.append_assoc] using this
  · simp only [hm, if_false]

/-- `svg_inline(**kw)` is `save(BytesIO(), kind='svg', xmldecl=False, svgns=False, nl=False, **kw)`
    (a TypeError when `kw` repeats one of the three keywords), decoded with `kw.get('encoding', 'utf-8')`: same
    document, same refusals, for every environment and keyword map -/
theorem svg_inline_eq_save (env : Env) (kw : Config) :
    svgInline env kw =
      (callKw inlineForced kw >>= fun kw' => save env (.stream true none) (some "svg".toList) kw')
        >>= decodeResult env ((cget kw "encoding").getD (.str "utf-8")) := by
  unfold svgInline svgInlinePlan
  by_cases hk : Free ["kind"] kw
  · rw [refuseNames_free _ _ hk]
    cases callKw inlineForced kw with
    | error e => rfl
    | ok kw' =>
      simp only [Proofs.Except.ok_bind]
      by_cases hf : Free saveReserved kw'
      · rw [savePlan_free _ _ _ hf, save_free _ _ _ _ hf, dispatch_svg_kind]
        exact execute_buffer env "svg" kw' _
      · rw [savePlan_refused _ _ _ hf, save_refused _ _ _ _ hf]
        rfl
  · -- `kind` twice: refused on both sides
    rw [refuseNames_not_free _ _ hk]
    have hnf : ¬ Free saveReserved (inlineForced ++ kw) := fun hf => hk fun k hk' => by
      cases List.mem_singleton.1 hk'
      have := hf "kind" (by decide)
      rwa [cget_append, show cget inlineForced "kind" = none by decide] at this
    unfold callKw
    split
    · rfl
    · show _ = save env _ _ (inlineForced ++ kw) >>= _
      rw [save_refused _ _ _ _ hnf]
      rfl

/-- kernel check over the regenerated signatures (Gen.Sigs): the defaults of `as_png_data_uri` are the defaults of
    `write_png`, and the three keywords it names are keywords of `write_png` -/
theorem png_uri_defaults_agree :
    pngDefaults.all (fun d => !pngPasses.contains d.1 || (dflt asPngDataUriSig.params d.1 == (cget [] d.1).getD d.2)) = true
    ∧ pngPasses.all (hasKey pngDefaults) = true ∧ pngPasses.all (hasKey asPngDataUriSig.params) = true
    ∧ notPassed asPngDataUriSig pngPasses = [] := by decide +kernel

/-- `png_data_uri(**kw)` is `save(BytesIO(), kind='png', **kw)` followed by base64 and the prefix — same PNG bytes
    (zlib, the palette order … are the SAME parameters of `env` on both sides), same refusals -/
theorem png_data_uri_eq_save (env : Env) (kw : Config) (hf : Free saveReserved kw) :
    pngDataUri env kw = save env (.stream true none) (some "png".toList) kw >>= toPngUri := by
  obtain ⟨hDefaults, hKnown, hParams, hAllPassed⟩ := png_uri_defaults_agree
  have hsub := List.all_eq_true.1 hParams
  obtain ⟨b, inner, hth⟩ := through_ok_of asPngDataUriSig pngPasses kw rfl hsub (free_mono hf (by simp [saveReserved, asPngDataUriSig]))
  have hcomp := through_complete "png" asPngDataUriSig pngPasses kw b inner pngDefaults [] hth pngDefaults_eq hsub hDefaults hKnown rfl
  rw [hAllPassed, dropKeys_nil, withDefaults_nil] at hcomp
  unfold pngDataUri pngDataUriPlan
  rw [refuseNames_free _ _ (free_mono hf (by simp [saveReserved])), save_free _ _ _ _ hf, dispatch_png_kind]
  simp only [Proofs.Except.ok_bind, pure_bind, show through asPngDataUriSig ["scale", "border", "compresslevel"] kw = _ from hth, execute_buffer]
  rw [saveCore_congr env .bin "png" hcomp]
  rfl

/-- Whenever `save(BytesIO(), kind='png', **kw)` writes the bytes `png`, the data URI
    is the prefix followed by a text that base64-decodes (reference reader) to exactly `png` -/
theorem png_data_uri_decodes_to_save (env : Env) (kw : Config) (png : List Nat) (hf : Free saveReserved kw)
    (hb : ∀ b ∈ png, b < 256)
    (hs : save env (.stream true none) (some "png".toList) kw = .ok (.written (.bytes png))) :
    ∃ payload, pngDataUri env kw = .ok (.value (dataUriPngHead ++ payload)) ∧ b64decode payload = some png := by
  refine ⟨b64encode png, ?_, base64_decode_encode png hb⟩
  rw [png_data_uri_eq_save env kw hf, hs]
  rfl

/-- kernel check over the regenerated signatures: every keyword `as_svg_data_uri` names is a keyword of `write_svg`
    with the SAME default, except the three of `uriDefaults`; `svg_data_uri` hands on all four of its parameters, agrees
    with `as_svg_data_uri` on their defaults, and `uriDefaults` lists its defaults of `xmldecl` and `nl` -/
theorem svg_uri_defaults_agree :
    svgDefaults.all (fun d => !uriExplicit.contains d.1 || (dflt asSvgDataUriSig.params d.1 == (cget uriDefaults d.1).getD d.2)) = true
    ∧ uriExplicit.all (hasKey svgDefaults) = true ∧ uriExplicit.all (hasKey asSvgDataUriSig.params) = true
    ∧ uriDefaults.all (fun e => uriExplicit.contains e.1) = true
    ∧ notPassed asSvgDataUriSig uriExplicit = ["encode_minimal", "omit_charset"]
    ∧ uriFlags.all (hasKey svgDataUriSig.params) = true ∧ notPassed svgDataUriSig uriFlags = []
    ∧ uriFlags.all (fun k => dflt svgDataUriSig.params k == dflt asSvgDataUriSig.params k) = true
    ∧ uriFlags.all (fun k => ["encode_minimal", "omit_charset"].contains k
        || cget uriDefaults k == some (dflt svgDataUriSig.params k)) = true := by decide +kernel

/-- for `write_svg` an empty `unit` is no unit (`unit = unit or ''`): the `unit=''` default of `as_svg_data_uri`, the one entry of
    `uriDefaults` that is not a visible option, does not show in the document of the model -/
theorem svg_unit_empty_eq_none (M : List (List Nat)) (w h : Nat) (cm : List (Nat × ColorArg)) (o : Svg.Opts) :
    Svg.writeSvg M w h cm { o with unit := some "" } = Svg.writeSvg M w h cm { o with unit := none } := by
  unfold Svg.writeSvg Svg.svgPaths
  rfl

/-- `svg_data_uri(**kw)` is `save(BytesIO(), kind='svg', **uriSaveKw kw)` followed by `_replace_quotes`, the
    percent-encoding and the prefix: same document, same refusals, for every environment and keyword map -/
theorem svg_data_uri_eq_save (env : Env) (kw : Config) (hf : Free saveReserved kw) :
    svgDataUri env kw = save env (.stream true none) (some "svg".toList) (uriSaveKw kw)
      >>= toSvgUri ((cget kw "encoding").getD (.str "utf-8")) (truthy ((cget kw "encode_minimal").getD (.bool false)))
            (truthy ((cget kw "omit_charset").getD (.bool false))) := by
  obtain ⟨hDefaults, hKnown, hParams2, hD, hNotPassed2, hParams1, hAllPassed1, _, hListed⟩ := svg_uri_defaults_agree
  -- first wrapper: QRCode.svg_data_uri; it hands on every parameter it names, so all other keywords pass unchanged
  have hsub1 := List.all_eq_true.1 hParams1
  obtain ⟨b1, call, h1⟩ := through_ok_of svgDataUriSig uriFlags kw rfl hsub1 (free_mono hf (by simp [saveReserved, svgDataUriSig]))
  have hc1 := through_cget svgDataUriSig uriFlags kw b1 call h1 hsub1
  have hcall_other := through_cget_other svgDataUriSig uriFlags kw b1 call h1 hsub1 hAllPassed1
  -- second wrapper: writers.as_svg_data_uri
  have hsub2 := List.all_eq_true.1 hParams2
  have hfree2 : Free asSvgDataUriSig.positional call := fun k hk => by
    rw [hcall_other k ((by decide : ∀ k ∈ asSvgDataUriSig.positional, uriFlags.contains k = false) k hk)]
    exact free_mono hf (by simp [saveReserved, asSvgDataUriSig]) k hk
  obtain ⟨b2, inner, h2⟩ := through_ok_of asSvgDataUriSig uriExplicit call rfl hsub2 hfree2
  have hb2 := through_arg asSvgDataUriSig uriExplicit call b2 inner h2
  have hcomp := through_complete "svg" asSvgDataUriSig uriExplicit call b2 inner svgDefaults uriDefaults h2 svgDefaults_eq hsub2 hDefaults hKnown hD
  rw [hNotPassed2] at hcomp
  have hsame : ∀ k, cget (withDefaults uriDefaults (dropKeys ["encode_minimal", "omit_charset"] call)) k = cget (uriSaveKw kw) k := by
    intro k
    unfold uriSaveKw
    rw [cget_withDefaults, cget_withDefaults, cget_dropKeys, cget_dropKeys]
    cases hd : ["encode_minimal", "omit_charset"].contains k
    · simp only [Bool.false_eq_true, if_false]
      cases hfl : uriFlags.contains k
      · rw [hcall_other k hfl]
      · -- `xmldecl`, `nl`: handed on with the wrapper's default, which `uriDefaults` lists
        have := List.all_eq_true.1 hListed k (by simpa using hfl)
        simp only [hd, Bool.false_or, beq_iff_eq] at this
        rw [hc1 k, hfl, this]
        cases cget kw k <;> rfl
    · rfl
  have hfull : completeKw "svg" inner = completeKw "svg" (uriSaveKw kw) := hcomp.trans (completeKw_of_cget_eq "svg" _ _ hsame)
  have henc : arg b2 "encoding" = (cget kw "encoding").getD (.str "utf-8") := by
    rw [hb2 "encoding" (by decide), hcall_other "encoding" (by decide)]
    rfl
  have hflag : ∀ k ∈ ["encode_minimal", "omit_charset"], arg b2 k = (cget kw k).getD (.bool false) := by
    intro k hk
    simp only [List.mem_cons, List.not_mem_nil, or_false] at hk
    rcases hk with rfl | rfl <;> rw [hb2 _ (by decide), hc1] <;> rfl
  unfold svgDataUri svgDataUriPlan
  rw [save_free _ _ _ _ (free_uriSaveKw kw hf), dispatch_svg_kind]
  simp only [Proofs.Except.ok_bind, pure_bind, show through svgDataUriSig ["xmldecl", "nl", "encode_minimal", "omit_charset"] kw = _ from h1, h2,
    execute_buffer, henc, hflag _ (List.mem_cons_self ..), hflag "omit_charset" (by simp)]
  rw [saveCore_congr env .bin "svg" hfull]
  rfl

/-- Whenever `save(BytesIO(), kind='svg', **uriSaveKw kw)` writes the document `doc`
    (and the charset can be written: `omit_charset`, or `encoding` is a str), the data URI is
    `data:image/svg+xml[;charset=<encoding>],<payload>` and percent-decoding the payload (reference reader) gives
    `doc` up to EXACTLY the D12 rewriting: it is `replaceQuotes doc`; position by position a byte of `doc` or a `"`
    turned into `'`; and it equals `doc` iff `doc` has no `="…"` attribute value (`HasQuotedAttr`).  Both safe sets. -/
theorem svg_data_uri_decodes_to_save (env : Env) (kw : Config) (doc : List Nat) (hf : Free saveReserved kw)
    (hb : ∀ b ∈ doc, b < 256)
    (hs : save env (.stream true none) (some "svg".toList) (uriSaveKw kw) = .ok (.written (.bytes doc)))
    (hcs : truthy ((cget kw "omit_charset").getD (.bool false)) = true ∨ ∃ e, (cget kw "encoding").getD (.str "utf-8") = .str e) :
    ∃ charset payload, svgDataUri env kw = .ok (.value (dataUriSvgHead ++ charset ++ [','] ++ payload))
      ∧ (charset = [] ∨ ∃ e, (cget kw "encoding").getD (.str "utf-8") = .str e ∧ charset = ";charset=".toList ++ e.toList)
      ∧ pctDecode payload = replaceQuotes doc
      ∧ Pointwise QuoteStep doc (pctDecode payload)
      ∧ (pctDecode payload = doc ↔ ¬ HasQuotedAttr doc) := by
  have hrq := replace_quotes_spec doc
  -- whatever the safe set and the charset, the payload decodes to `replaceQuotes doc`, of which `hrq` speaks
  have hdec (m : Bool) : pctDecode (pctEncode (if m then safeMinimal else safeNormal) (replaceQuotes doc)) = replaceQuotes doc :=
    pct_roundtrip _ (by cases m <;> decide) _ (pointwise_lt hrq.1 hb)
  have hpayload (payload : List Char) (h : pctDecode payload = replaceQuotes doc) : pctDecode payload = replaceQuotes doc
      ∧ Pointwise QuoteStep doc (pctDecode payload) ∧ (pctDecode payload = doc ↔ ¬ HasQuotedAttr doc) := ⟨h, h ▸ hrq⟩
  rw [svg_data_uri_eq_save env kw hf, hs]
  simp only [Proofs.Except.ok_bind, toSvgUri]
  cases hom : truthy ((cget kw "omit_charset").getD (.bool false))
  · obtain ⟨e, he⟩ := hcs.resolve_left (by rw [hom]; decide)
    simp only [Bool.false_eq_true, if_false, he]
    exact ⟨_, _, rfl, .inr ⟨e, rfl, rfl⟩, hpayload _ (hdec _)⟩
  · exact ⟨[], _, rfl, .inl rfl, hpayload _ (hdec _)⟩

/-- `cli.main` with an output file is `qr.save(output, **build_config(config, filename=output))` … -/
theorem cli_main_eq_save (env : Env) (extToKw : List (String × List String)) (parsed : Config) (output : String)
    (h : cget parsed "output" = some (.str output)) :
    cliMain env extToKw parsed = save env (.path output.toList) none (cliKwargs extToKw parsed output.toList) := by
  unfold cliMain cliPlan save
  rw [h]

/-- … and without one `qr.terminal(border=config['border'], compact=config.get('compact', False))` on `sys.stdout` -/
theorem cli_main_eq_terminal (env : Env) (extToKw : List (String × List String)) (parsed : Config) (border : PyV)
    (h : cget parsed "output" = some .none) (hb : cget parsed "border" = some border) :
    cliMain env extToKw parsed = terminal env none border ((cget parsed "compact").getD (.bool false)) := by
  unfold cliMain cliPlan terminal
  rw [h, hb]
  rfl

/-- the parsed command line `segno -o out.<kind> content` (no other option): `vars(parse_args(...))` of Gen.Sigs -/
def cliDefaultConfig (kind : String) : Config := cset Gen.CLI_DEFAULT_CONFIG "output" (.str ("out." ++ kind))

/-- kernel check over the regenerated tables, 13 kinds: with the keywords the command line tool passes
    (`Props.C12.defaultKwargs`), `qr.save('out.<kind>', **kw)` and `qr.save('out.<kind>')` bind the same serialiser to
    the same keyword values (svgz: same compression level) -/
theorem cli_plan_eq_api_plan :
    Props.C12.kinds.all (fun kind =>
      planEquiv (savePlan (.path ("out." ++ kind).toList) none (Props.C12.defaultKwargs kind))
        (savePlan (.path ("out." ++ kind).toList) none [])) = true := by
  decide +kernel

/-- For each of the 13 kinds and EVERY serialiser environment (every symbol), the
    file written by `segno -o out.<kind> content` is the file `qr.save('out.<kind>')` writes: no option of the
    command line tool leaks into the document, none is lost (composition of `Model.Cli.buildConfig`, the dispatch
    and the keyword binding of the serialiser) -/
theorem cli_document_eq_api_document (env : Env) (kind : String) (hk : kind ∈ Props.C12.kinds) :
    cliMain env Gen.EXT_TO_KW_MAPPING (cliDefaultConfig kind) = save env (.path ("out." ++ kind).toList) none [] := by
  -- `main` pops `output` before `build_config`: the keywords are those of a command line without options
  have hkw : cliKwargs Gen.EXT_TO_KW_MAPPING (cliDefaultConfig kind) ("out." ++ kind).toList = Props.C12.defaultKwargs kind := by
    unfold Props.C12.defaultKwargs cliKwargs cliDefaultConfig
    rw [mainConfig_cset _ _ _ (by decide)]
  rw [cli_main_eq_save env _ (cliDefaultConfig kind) ("out." ++ kind) (cget_cset_self _ _ _), hkw]
  exact execute_of_planEquiv env _ _ (List.all_eq_true.1 cli_plan_eq_api_plan kind hk)

open Model.RoutesDocs in
/-- what "the document `save(kind='svg')` writes" is for the environment of the document models: the text of
    `Model.Svg.saveSvg` (every character of `write_svg`) for the arguments read from the completed keyword map,
    through the codec of `encoding` -/
theorem save_svg_document (svc : Services) (rt : Runtime) (M : List (List Nat)) (w h : Nat) (other : String → Config → R SerOut)
    (kw c : Config) (a : SvgArgs) (hf : Free saveReserved kw) (hc : completeKw "svg" kw = .ok c) (ha : svgArgs svc w h c = some a) :
    save (docEnv svc rt M w h other) (.stream true none) (some "svg".toList) kw =
      (Svg.saveSvg M w h (some a.dark) (some a.light) a.to a.o) >>= fun s =>
        (rt.codec (a.o.encoding.getD "utf-8") s.toList) >>= fun b => pure (.written (.bytes b)) := by
  rw [save_free _ _ _ _ hf, dispatch_svg_kind]
  simp only [Proofs.Except.ok_bind, saveCore, Bool.false_eq_true, if_false, Env.ser, hc, docEnv, docSem, beq_self_eq_true, if_true, svgSem, ha,
    Option.map_some, svgDoc, OutArg.sink, writable_bin, Proofs.Except.map_eq_bind, bind_assoc, pure_bind, writableBin]

open Model.RoutesDocs in
/-- the instances a reader may want spelled out: for every symbol `M`, all services, every keyword map -/
theorem svg_inline_document (svc : Services) (rt : Runtime) (M : List (List Nat)) (w h : Nat) (other : String → Config → R SerOut) (kw : Config) :
    svgInline (docEnv svc rt M w h other) kw =
      (callKw inlineForced kw >>= fun kw' => save (docEnv svc rt M w h other) (.stream true none) (some "svg".toList) kw')
        >>= decodeResult (docEnv svc rt M w h other) ((cget kw "encoding").getD (.str "utf-8")) :=
  svg_inline_eq_save _ kw

/-! Non-vacuity: the hypotheses are satisfiable, the statements speak about real documents. -/

section examples
open Model.RoutesDocs

def exServices : Services :=
  { floatStr := fun _ _ => "2.5", mulStr := fun _ _ _ => "37.5", setOrder := id, deflate := fun _ b => 120 :: 156 :: b, ppm := fun _ => 11811 }

/-- UTF-8 restricted to ASCII, a recognisable "gzip" -/
def exRuntime : Runtime :=
  { codec := fun _ s => if s.all (·.toNat < 128) then .ok (s.map Char.toNat) else .error .unicodeError,
    decode := fun _ b => .ok (b.map Char.ofNat), defaultEnc := "utf-8",
    gzipCheck := fun l => if l == .int 10 then .error .valueError else .ok (), gzip := fun _ b => 31 :: 139 :: b }

/-- an 11 x 11 matrix (the size of M1) -/
def exMatrix : List (List Nat) :=
  (List.range 11).map (fun i => (List.range 11).map (fun j => if (i * 7 + j * 3) % 5 < 2 then 1 else 0))

def exEnv : Env := docEnv exServices exRuntime exMatrix 11 11 (fun _ _ => .error .assertionError)

def valueOf : R Result → String
  | .ok (.value s) => String.ofList s
  | .ok (.written (.chars s)) => "chars:" ++ String.ofList s
  | .ok (.written (.bytes b)) => "bytes:" ++ String.ofList (b.map Char.ofNat)
  | .error e => "error:" ++ e.name

example : b64encode [1] = "AQ==".toList ∧ b64encode [1, 2] = "AQI=".toList ∧ b64encode [1, 2, 3] = "AQID".toList
    ∧ b64decode "AQI=".toList = some [1, 2] ∧ b64decode "AQ=I".toList = none := by decide +kernel
example : String.ofList (pctEncode safeNormal ("<a b='1'/>".toList.map Char.toNat)) = "%3Ca%20b%3D%271%27%2F%3E"
    ∧ String.ofList (pctEncode safeMinimal ("<a b='1'/>".toList.map Char.toNat)) = "%3Ca b='1'/%3E" := by decide +kernel
example : replaceQuotes ("<p a=\"1\" b=\"\" c=\"x\"y\"/>".toList.map Char.toNat) = "<p a='1' b=\"\" c='x'y\"/>".toList.map Char.toNat := by
  decide +kernel
example : HasQuotedAttr ("<p a=\"1\"/>".toList.map Char.toNat) :=
  ⟨"<p a".toList.map Char.toNat, "=\"1\"/>".toList.map Char.toNat, by decide, [49], "/>".toList.map Char.toNat, by decide, by decide, by decide⟩
example : ¬ HasQuotedAttr ("<p a=''/>".toList.map Char.toNat) := by
  rw [← (replace_quotes_spec _).2]; decide +kernel
example : '.' ∉ "PnG".toList ∧ lower "pNg".toList = lower "PnG".toList := by decide

/-- two 3 x 3 "symbols" -/
def ex3 : Env := docEnv exServices exRuntime [[1, 0, 1], [0, 1, 0], [1, 1, 0]] 3 3 (fun _ _ => .error .assertionError)
def ex3b : Env := docEnv exServices exRuntime [[0, 0, 1], [0, 1, 1], [1, 0, 0]] 3 3 (fun _ _ => .error .assertionError)

/-- `svg_inline` on a document of the model: no XML declaration, no namespace, no line feed (kernel evaluation of
    Model.Svg.writeSvg through the route layer) -/
example : valueOf (svgInline ex3 [("border", .int 0), ("scale", .int 2)])
    = "<svg width=\"6\" height=\"6\" class=\"segno\"><path transform=\"scale(2)\" class=\"qrline\" stroke=\"#000\" d=\"M0 0.5h1m1 0h1m-2 1h1m-2 1h2\"/></svg>" := by
  decide +kernel

/-- `svg_data_uri`: the saved document has `="…"` attribute values, the payload has `='…'` (D12); `encode_minimal`
    leaves blank, `:`, `/`, `=`, `'`; a truthy `omit_charset` (here the int 1) drops the charset -/
example : valueOf (svgDataUri ex3 [("border", .int 0), ("encode_minimal", .bool true), ("omit_charset", .int 1)])
    = "data:image/svg+xml,%3Csvg xmlns='http://www.w3.org/2000/svg' width='3' height='3' class='segno'%3E%3Cpath class='qrline' stroke='%23000' d='M0 0.5h1m1 0h1m-2 1h1m-2 1h2'/%3E%3C/svg%3E" := by
  decide +kernel

/-- a text stream receives the text (`write_txt`); the command line tool with the default border writes the same
    serialiser's file; a sequence of two symbols goes to `my.seq-02-01.txt`, `my.seq-02-02.txt` -/
example : valueOf (save ex3 (.stream false none) (some "TXT".toList) [("border", .int 0)]) = "chars:101\n010\n110\n" := by decide +kernel
example : valueOf (cliMain ex3 Gen.EXT_TO_KW_MAPPING (cliDefaultConfig "txt"))
    = "bytes:0000000\n0000000\n0010100\n0001000\n0011000\n0000000\n0000000\n" := by decide +kernel
example : (match seqSave [ex3, ex3b] (.path "my.seq.txt".toList) none [("border", .int 0)] with
    | .ok l => l.map (fun e => (match e.1 with | .path n => String.ofList n | _ => "?", valueOf (.ok e.2)))
    | .error _ => []) = [("my.seq-02-01.txt", "bytes:101\n010\n110\n"), ("my.seq-02-02.txt", "bytes:001\n011\n100\n")] := by
  decide +kernel
/-- `png_data_uri`: prefix + base64 of the whole PNG file of the model (signature, IHDR, PLTE, IDAT with the `deflate` service, IEND
    and their CRCs); `q.SvgZ`: the gzip service applied to the SVG document (`31, 139` = the marker of `exRuntime.gzip`, then `<svg`) -/
example : valueOf (pngDataUri ex3 [("border", .int 0)])
    = "data:image/png;base64,iVBORw0KGgoAAAANSUhEUgAAAAMAAAADBAMAAACkBqiMAAAAHlBMVEUAAAAAAAAAAAAAAAD////////////////////////t5gLKAAAAC0lEQVR4nAAEAABAQAAAQMIuqo0AAAAASUVORK5CYII=" := by
  decide +kernel
example : (match save ex3 (.path "q.SvgZ".toList) none [("border", .int 0), ("xmldecl", .bool false), ("compresslevel", .int 3)] with
    | .ok (.written (.bytes b)) => b.take 6
    | _ => []) = [31, 139, 60, 115, 118, 103] := by decide +kernel

/-- refusals: gzip refuses the level (runtime service); a NAMED stream `x.svgz` is not compressed but refused -/
example : valueOf (save ex3 (.path "x.svgz".toList) none [("border", .int 0), ("compresslevel", .int 10)]) = "error:ValueError"
    ∧ valueOf (save ex3 (.stream true (some "x.svgz".toList)) none [("border", .int 0)]) = "error:ValueError"
    ∧ valueOf (svgInline ex3 [("nl", .bool true)]) = "error:TypeError"
    ∧ valueOf (save ex3 (.stream true none) none []) = "error:TypeError" := by decide +kernel

end examples

end Props.C12Routes
