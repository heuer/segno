/-
  C03 — every block the model's Reed-Solomon encoder (`Model.rsRemainder`, segno's synthetic
  division on the log / antilog tables) produces is a valid RS codeword: data ++ EC codewords
  vanishes at α⁰ … α^(n-1), for every EC length n of `GEN_POLY` and EVERY data block.
-/
import Props.C03Tables
import Proofs.RSField

namespace Props.C03

/-- multiplication exactly as the encoder performs it: through the log / antilog tables -/
def tmul (a b : Nat) : Nat :=
  if a == 0 || b == 0 then 0 else Gen.GALIOS_EXP.getD (Gen.GALIOS_LOG.getD a 0 + Gen.GALIOS_LOG.getD b 0) 0

/-- Horner evaluation with table multiplication, highest coefficient first -/
def tevalPoly (cs : List Nat) (x : Nat) : Nat := cs.foldl (fun acc c => tmul acc x ^^^ c) 0

/-- C03 core: for every EC length n of GEN_POLY and EVERY data block (any length, any byte values),
    data ++ model-computed EC codewords evaluates to 0 at α^0 … α^(n-1). -/
theorem block_is_codeword (n : Nat) (gen : List Nat) (hg : (n, gen) ∈ Gen.GEN_POLY)
    (data : List Nat) (hd : ∀ d ∈ data, d < 256) (i : Nat) (hi : i < n) :
    tevalPoly (data ++ Model.rsRemainder gen data n) (Gen.GALIOS_EXP.getD i 0) = 0 :=
  Proofs.RSField.block_is_codeword n gen hg data hd i hi

set_option linter.unusedVariables false in
/-- the EC part has exactly n codewords -/
theorem ec_length (n : Nat) (gen : List Nat) (hg : (n, gen) ∈ Gen.GEN_POLY) (data : List Nat) :
    (Model.rsRemainder gen data n).length = n :=
  Proofs.RSField.rsRemainder_length gen data n

set_option linter.unusedVariables false in
/-- and they are bytes -/
theorem ec_bytes (n : Nat) (gen : List Nat) (hg : (n, gen) ∈ Gen.GEN_POLY)
    (data : List Nat) (hd : ∀ d ∈ data, d < 256) : ∀ e ∈ Model.rsRemainder gen data n, e < 256 :=
  Proofs.RSField.rsRemainder_bytes gen data n hd

/-- table multiplication is the field multiplication of GF(2^8)/0x11d -/
theorem table_mul_is_field_mul : ∀ a b, a < 256 → b < 256 → tmul a b = Spec.gmul a b :=
  Proofs.RSField.table_mul_is_field_mul

/-- hence the reference reader's validity test accepts the block -/
theorem block_valid_for_reference_reader (n : Nat) (gen : List Nat) (hg : (n, gen) ∈ Gen.GEN_POLY)
    (data : List Nat) (hd : ∀ d ∈ data, d < 256) :
    Spec.validCodeword (data ++ Model.rsRemainder gen data n) n = true :=
  Proofs.RSField.block_valid_for_reference_reader n gen hg data hd

/-! ### non-vacuity: the hypotheses are satisfiable, the EC codewords are not trivial, and the
    root test discriminates (a corrupted block fails it) -/

example : (5, [113, 164, 166, 119, 10]) ∈ Gen.GEN_POLY := by decide

example : Model.rsRemainder [113, 164, 166, 119, 10] [64, 24, 172, 195, 0] 5 = [134, 13, 34, 174, 48] := by
  decide +kernel

example : (List.range 5).map (fun i => tevalPoly ([64, 24, 172, 195, 0] ++ [134, 13, 34, 174, 48])
    (Gen.GALIOS_EXP.getD i 0)) = [0, 0, 0, 0, 0] := by decide +kernel

example : tevalPoly ([64, 24, 172, 195, 0] ++ [134, 13, 34, 174, 49]) (Gen.GALIOS_EXP.getD 1 0) ≠ 0 := by
  decide +kernel

example : Spec.validCodeword ([64, 24, 172, 195, 0] ++ [134, 13, 34, 174, 49]) 5 = false := by
  decide +kernel

end Props.C03

#print axioms Props.C03.block_is_codeword
#print axioms Props.C03.ec_length
#print axioms Props.C03.ec_bytes
#print axioms Props.C03.table_mul_is_field_mul
#print axioms Props.C03.block_valid_for_reference_reader
