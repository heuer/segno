/-
  C09 — raster and text outputs depict exactly the symbol with its quiet zone.  `Model.*` is the hand-written
  model of segno/utils.py and of the packing code of segno/writers.py (tied to the real code by the
  correspondence runs of `./check C09`), `Spec.*` the hand-written reference (expected grid, format
  readers), `Gen.*` is regenerated from the repository on every run.
-/
import Proofs.Raster
import Proofs.Size
import Spec.Css3
import Gen.Tables

namespace Props.C09

open Model Spec Proofs.Raster

/-- the calls the property wants refused: scale below 1 after truncation, negative or fractional border -/
def Refused (scale : Num) (border : Option Num) : Prop :=
  scale.toInt < 1 ∨ ∃ x, border = some x ∧ (x.isFractional = true ∨ x.isNegative = true)

/-- the border as documented: absent (default of the symbol kind) or an `int` -/
def borderValue (w h : Nat) : Option Num → Option Nat
  | none => some (Gen.get_default_border_size w h).toNat
  | some (.int i) => some i.toNat
  | some (.float ..) => none

/-- a call that is not refused passes the three argument checks of `matrix_iter`, with the border `borderValue` names -/
theorem checks_pass {scale : Num} {border : Option Num} {w h b : Nat} (hnr : ¬ Refused scale border)
    (hb : borderValue w h border = some b) : Proofs.RasterDocs.Admitted w h scale border b := by
  refine ⟨?_, ?_, ?_⟩
  · rw [checkValidScale_eq, if_neg (fun h => hnr (.inl h))]
  · cases border with
    | none => rfl
    | some x =>
      rw [checkValidBorder_some, if_neg]
      rw [Bool.or_eq_true]
      exact fun h => hnr (.inr ⟨x, rfl, h⟩)
  · match border, hb with
    | none, hb | some (.int _), hb => rw [← Option.some.inj hb]; rfl

/-- `matrix_iter` refuses with `ValueError` exactly what the property wants refused:
    a scale that is < 1 after truncation, a negative or fractional border (unbounded). -/
theorem matrix_iter_refused (M : List (List Nat)) (w h : Nat) (scale : Num) (border : Option Num)
    (hr : Refused scale border) : matrixIter M w h scale border = .error .valueError := by
  rcases hr with hs | ⟨x, rfl, hx⟩
  · simp only [matrixIter, checkValidScale_eq, if_pos hs]
    cases border with
    | none => rfl
    | some x => rw [checkValidBorder_some]; split <;> rfl
  · simp only [matrixIter, checkValidBorder_some, if_pos (Bool.or_eq_true _ _ ▸ hx)]; rfl

/-- (unbounded: every matrix, every scale ≥ 1 — a float is truncated —, every
    border ≥ 0 or the default): the iterator yields (h+2b)·s rows of (w+2b)·s values and value
    (x, y) is the module (y div s − b, x div s − b), 0 in the quiet zone; i.e. it yields exactly
    `Spec.grid`. -/
theorem matrix_iter_pixel (M : List (List Nat)) (w h : Nat) (scale : Num) (border : Option Num) (b : Nat)
    (hM : WellFormed M w h) (hnr : ¬ Refused scale border) (hb : borderValue w h border = some b) :
    let s := scale.toInt.toNat
    ∃ rows, matrixIter M w h scale border = .ok rows
      ∧ rows.length = (h + 2 * b) * s
      ∧ (∀ r ∈ rows, r.length = (w + 2 * b) * s)
      ∧ (∀ x y, x < (w + 2 * b) * s → y < (h + 2 * b) * s → (rows.getD y []).getD x 0 = pixelOf (cellL M) s b x y)
      ∧ rows = grid M w h s b := by
  intro s
  open Proofs.RasterDocs in
  refine ⟨grid M w h s b, matrixIter_ok (checks_pass hnr hb) M hM, grid_length M w h s b, grid_row_length M w h s b, ?_, rfl⟩
  intro x y hx hy
  simp [grid, List.getD_eq_getElem?_getD, hx, hy]

/-- the default border `matrix_iter` uses for a symbol of version v is the one ISO prescribes:
    4 modules for QR Codes, 2 for Micro QR Codes -/
theorem default_border_iso (v : Int) (h1 : -3 ≤ v) (h2 : v ≤ 40) :
    borderValue (Spec.size v) (Spec.size v) none = some (Spec.defaultBorder (Spec.size v)) := by
  have hn : Spec.size v ≥ 21 ∨ Spec.size v ≤ 17 := by
    rcases Proofs.Size.size_cases v h1 with h | h <;> omega
  generalize Spec.size v = n at hn
  unfold borderValue Gen.get_default_border_size Spec.defaultBorder
  by_cases h : n < 21
  · have : ¬ ((n : Int) > 17) := by omega
    simp [h, this]
  · have : (n : Int) > 17 := by omega
    simp [h, this]

/-- (unbounded in the width) for bit depth d ∈ {1, 2, 4} the samples read back from
    a packed PNG scanline / PBM row (most significant bits first, last byte zero-filled) are the
    row that was packed, for EVERY row length -/
theorem pack_unpack (d : Nat) (hd : d = 1 ∨ d = 2 ∨ d = 4) (row : List Nat) (hrow : ∀ v ∈ row, v < 2 ^ d) :
    unpackRow d row.length (packRow d row) = row :=
  unpack_packRow d (by rcases hd with rfl | rfl | rfl <;> decide) row hrow

/-- XBM: bits of a byte in reversed order (least significant bit = leftmost pixel) -/
theorem pack_unpack_xbm (row : List Nat) (hrow : ∀ v ∈ row, v < 2) :
    unpackRowXbm row.length (packRowXbm row) = row :=
  unpack_packRowXbm row hrow

/-- the `scale − 1` "Up"-filtered all-zero scanlines `write_png` emits after each row reproduce the
    row above (any row of bytes) -/
theorem up_filter_zero_row (prev : List Nat) (h : ∀ v ∈ prev, v < 256) :
    unfilterUp (List.replicate prev.length 0) prev = prev := by
  unfold unfilterUp
  induction prev with
  | nil => rfl
  | cons a l ih =>
    simp only [List.length_cons, List.replicate_succ, List.zipWith_cons_cons, Nat.zero_add]
    rw [ih (fun v hv => h v (List.mem_cons_of_mem _ hv)), Nat.mod_eq_of_lt (h a (by simp))]

/-- a packed scanline (filter byte stripped) unpacks to the row of colour indexes, any width -/
theorem scanline_unpack (d : Nat) (hd : d = 1 ∨ d = 2 ∨ d = 4) (ft : Nat) (row : List Nat) (hrow : ∀ v ∈ row, v < 2 ^ d) :
    unpackRow d row.length (scanline d ft row).tail = row := by
  unfold scanline
  exact pack_unpack d hd row hrow

/-- the statement of `png_stream_rows` (proved in Props/C09Png.lean, together with the palette / tRNS
    theorems `png_palette_sound`, `png_standin_and_trns` and the composition `png_model_picture`): the
    model stream `pngStream` is the concatenation of (rows + 2b)·s scanlines with filter type 0 or 2 and
    ⌈width·depth/8⌉ bytes each -/
def PngStreamRows : Prop :=
  ∀ (idx : List (List Nat)) (w d s b qz : Nat), (d = 1 ∨ d = 2 ∨ d = 4) → 0 < s → qz < 2 ^ d →
    (∀ r ∈ idx, r.length = w ∧ ∀ v ∈ r, v < 2 ^ d) →
    ∃ lines : List (Nat × List Nat),
      pngStream idx w d s b qz = lines.flatMap (fun l => l.1 :: l.2) ∧
      lines.length = (idx.length + 2 * b) * s ∧
      ∀ l ∈ lines, (l.1 = 0 ∨ l.1 = 2) ∧ l.2.length = ((w + 2 * b) * s * d + 7) / 8

/-- the colour keywords the writers know are exactly the 147 CSS3 keywords with their CSS3 values
    (`writers._NAME2RGB`, regenerated, against the frozen table of the specification) -/
theorem css3_table : Gen.NAME2RGB = Spec.css3 := by decide +kernel

/-! non-vacuity -/
example : ¬ Refused (.float false 2 true) (some (.int 3)) := by
  intro h; rcases h with h | ⟨x, hx, h⟩
  · simp [Num.toInt] at h
  · cases hx; simp [Num.isFractional, Num.isNegative] at h
example : Refused (.float false 0 true) none := Or.inl (by simp [Num.toInt])
example : Refused (.int 1) (some (.float false 1 true)) := Or.inr ⟨_, rfl, Or.inl rfl⟩
example : WellFormed [[1, 0], [0, 1]] 2 2 := by simp [WellFormed]
example : matrixIter [[1, 0], [0, 1]] 2 2 (.float false 2 true) (some (.int 1))
    = .ok (grid [[1, 0], [0, 1]] 2 2 2 1) := by rfl
example : packRow 2 [1, 2, 3, 0, 1] = [0x6c, 0x40] := by decide
example : packRowXbm [1, 1, 0, 0, 0, 0, 0, 0, 1] = [0x03, 0x01] := by decide

end Props.C09
