/-
  C10 — whole documents: the TeX / PGF writer, the PDF file structure, the line breaking of the EPS writer and the
  escaping of text and attribute values in SVG.
  Property theorems about the document models `Model.Tex.writeTex` (Model/Tex.lean), `Model.VectorDocs.pdfFile`, `wrap`
  (Model/VectorDocs.lean) and `Model.Svg.escape` / `quoteattr` (Model/SvgDoc.lean), which are tied to the real `write_tex` / `write_pdf` /
  `write_eps` / `write_svg` by the byte-for-byte document correspondence of harness/vecdocs.py.  Mathlib-free.
-/
import Proofs.TexDocs
import Model.VectorDocs
import Proofs.SvgText
import Proofs.WrapLines

namespace Props.C10Docs
open Model Model.Lines Model.Tex Model.VectorDocs Spec.Vector Proofs.Lines Proofs.TexDocs Proofs.SvgText Proofs.WrapLines

/-- For every matrix of any shape and cell values and every border: the PGF path the model of
    `write_tex` emits is one `\pgfpathmoveto` / `\pgfpathlineto` pair per line; reading the commands back with the
    reference semantics `texRead` gives the model's lines `(x1, y, x2)` (in modules; the factor `scale` is applied when a
    coordinate is printed), the lines are, row by row, a group of runs at y = −(border + i) — the centre line of grid row
    border + i, where the judge expects it (`judgeTex`: "grid row i is centred at y = −i·scale") — and the runs of row i
    expand (judge's `coverAt`) to exactly that row starting at column `border`: every dark module once, no light module,
    nothing left or right of the symbol. -/
theorem tex_picture (m : List (List Nat)) (b : Nat) :
    texRead (texCmds (texLines m b)) = some (texLines m b)
    ∧ ∃ rows : List (List (Nat × Nat)),
        rows.length = m.length
        ∧ texLines m b = texAttach (-(b : Int)) rows
        ∧ ∀ (i : Nat) (h : i < m.length) (h' : i < rows.length),
            (List.range (m[i]).length).map (fun k => coverAt (rows[i]) (b + k)) = (m[i]).map dark01
            ∧ ∀ j, (j < b ∨ b + (m[i]).length ≤ j) → coverAt (rows[i]) j = 0 :=
  ⟨texRead_texCmds _, rowsGo b 1 m, rowsGo_length b m 1, texLines_rows m b, rowsGo_row b m 1⟩

example : texLines [[1, 0, 1], [0, 0, 0], [0, 1, 1]] 2 = [(2, -2, 3), (4, -2, 5), (3, -4, 5)] := by decide
example : texCmds [(2, -2, 3), (4, -2, 5)] = [.moveto 2 (-2), .lineto 3 (-2), .moveto 4 (-2), .lineto 5 (-2)] := by decide

/-- For every integer scale, every coordinate and every unit that does not begin with a digit, `.` or an
    exponent: the text `<v·scale><unit>` the model prints inside `\pgfqpoint{…}{…}` is read by the judge's exact decimal
    reader `numUnit?` as the number v·scale and the unit -/
theorem tex_coordinates_read (o : Tex.Opts) (i : Int) (hs : o.scale = .int i) (v : Int) (hu : unitOk o.unit.toList = true) :
    numUnit? (coordText o v ++ o.unit) = some (((v * i : Int) : Rat), o.unit) := by
  unfold coordText
  rw [hs]
  exact numUnit_int (v * i) o.unit hu

example : unitOk "pt".toList = true ∧ unitOk "mm".toList = true ∧ unitOk "em".toList = true ∧ unitOk "ex".toList = true
    ∧ unitOk "e3".toList = false := by decide

/-- TeX: the judge accepts the model's PGF path of every square 0/1 matrix, every border and every
    positive rational scale.  `judgeTex` (Spec/Vector.lean) has its interpreter inlined in a `for` loop over the request
    tokens; stated here for the semantic core of that loop — `texPath` applies, command by command, the same
    `PathSt.moveTo` / `PathSt.lineTo` to the coordinates x·s, y·s — followed by the judge's own `strokeRects` (half width
    s/2 = the requested line width), `gridSegs` (y-up, top = s/2, tolerance `relTol`) and `checkCoverage`: the result is
    the model's non-empty runs at grid rows border + i, every dark module covered once, no light one.
    Not covered: the splitting of the request line into tokens (`splitOn`), units / colour / line width bookkeeping of
    `judgeTex` (for the coordinate texts see `tex_coordinates_read`). -/
def judge_accepts_model_tex : Prop :=
  ∀ (m : List (List Nat)) (b : Nat) (s : Rat), 0 < s → m ≠ [] → (∀ row ∈ m, row.length = m.length ∧ ∀ c ∈ row, c ≤ 1) →
    ∃ segs,
      (do
        let p ← texPath s (texCmds (texLines m b)) {}
        let rects ← strokeRects (s / 2) p.done
        let segs ← gridSegs s relTol (m.length + 2 * b) true (s / 2) rects
        checkCoverage { m := m, size := m.length, b := b, s := s, dark := some { r := 0, g := 0, b := 0 }, light := none } segs
        pure segs) = Except.ok segs

theorem judge_accepts_model_tex_proved : judge_accepts_model_tex := by
  intro m b s hs _ hm
  exact ⟨_, tex_accept m b s hs (fun row hr => (hm row hr).1)⟩

example : ∃ segs,
    (do
      let p ← texPath (3 / 2) (texCmds (texLines [[1, 0], [0, 1]] 1)) {}
      let rects ← strokeRects ((3 / 2 : Rat) / 2) p.done
      let segs ← gridSegs (3 / 2) relTol (2 + 2 * 1) true ((3 / 2 : Rat) / 2) rects
      checkCoverage { m := [[1, 0], [0, 1]], size := 2, b := 1, s := 3 / 2, dark := some { r := 0, g := 0, b := 0 }, light := none } segs
      pure segs) = Except.ok segs :=
  judge_accepts_model_tex_proved [[1, 0], [0, 1]] 1 (3 / 2) (by decide +kernel) (by decide) (by decide)

/-! ### PDF: the file structure -/

/-- For every page, every compressed stream and every date text: in the file the model of `write_pdf`
    assembles, the i-th recorded offset (`object_pos[i]`, printed as the i-th in-use entry of the cross-reference table by
    `pdfTail`) is the position of the first byte of piece i+1 — the bytes from there on are the remaining objects followed
    by the cross-reference section.  (`Props.C10.pdf_offsets` with the cross-reference section after the pieces.) -/
theorem pdf_file_offsets (p : PdfPage) (graphic : List Nat) (date : String) (i : Nat) (h : i < 6) :
    let pieces := pdfFilePieces p graphic date
    ∃ (h' : i < (pdfObjectPos pieces).length),
      (pdfFile p graphic date).drop ((pdfObjectPos pieces)[i]) = ((pieces.drop (i + 1)).flatten) ++ pdfTail (pdfObjectPos pieces) := by
  intro pieces
  have hi : i < pieces.length := h
  refine ⟨by unfold pdfObjectPos; rw [prefixSums_length, List.length_map]; exact hi, ?_⟩
  -- not `exact`: that compares the file with `[] ++ …` by evaluating both, byte by byte, as far as the page's texts
  have := drop_prefixSums pieces (pdfTail (pdfObjectPos pieces)) [] i hi
  rwa [List.nil_append] at this

/-- The number after `startxref` (the last recorded position, `xref_location`) is the position of the
    keyword `xref`: the file from there on is exactly the cross-reference section, trailer and `startxref` -/
theorem pdf_startxref (p : PdfPage) (graphic : List Nat) (date : String) :
    let pieces := pdfFilePieces p graphic date
    (pdfFile p graphic date).drop ((pdfObjectPos pieces).getLastD 0) = pdfTail (pdfObjectPos pieces) := by
  intro pieces
  obtain ⟨h', hd⟩ := pdf_file_offsets p graphic date 5 (by omega)
  have hl : (pdfObjectPos pieces).length = 6 := by
    unfold pdfObjectPos; rw [prefixSums_length, List.length_map]; rfl
  rw [getLastD_eq _ 0 5 hl, hd]
  have : (pieces.drop (5 + 1)).flatten = [] := by
    have hlen : pieces.length = 6 := rfl
    rw [List.drop_of_length_le (by omega)]; rfl
  rw [this, List.nil_append]

/-- The number printed after `/Length` is the number of bytes between `stream\r\n` and
    `\r\nendstream` (object 4 is built around the stream it is given) -/
theorem pdf_stream_length (p : PdfPage) (graphic : List Nat) (date : String) :
    (pdfFilePieces p graphic date)[4]? = some (asciiBytes ("4 0 obj <</Length " ++ toString graphic.length ++ " /Filter /FlateDecode>>\r\nstream\r\n")
      ++ graphic ++ asciiBytes "\r\nendstream\r\nendobj\r\n") := rfl

/-- the offsets of the model's file for a concrete page: a 22-byte stream, date of 21 characters -/
example : pdfObjectPos (pdfFilePieces { width := "29", height := "29", content := "" } (List.replicate 22 0) "20260930120000+00'00'")
    = [16, 65, 122, 207, 303, 465] := by decide +kernel

/-- With the default colours at scale 1 the content stream of the model's document is the token
    stream `Model.Lines.pdfOps` (the one `Props.C10.judge_accepts_model_pdf_scale1_proved` speaks about) joined by blanks,
    and the page is (size + 2·border) square -/
theorem pdf_content_default (m : List (List Nat)) (w h : Nat) (b : Nat) :
    pdfContent m w h { border := some (b : Int) }
      = .ok { width := toString (((w + 2 * b : Nat) : Int) * 1), height := toString (((h + 2 * b : Nat) : Int) * 1),
              content := " ".intercalate (pdfOps m b) } := by
  have hb : ¬ ((b : Int) < 0) := by omega
  have hblack : Svg.isBlack (.str "#000") = true := by decide +kernel
  simp [pdfContent, hb, VColor.isNone, VColor.isBlack, hblack, Svg.Scale.notOne, bind, Except.bind, pure, Except.pure]

/-! ### EPS: the line breaking (`textwrap.wrap(content, 254)`, "Postscript: Max. 255 characters per line") -/

/-- For every text: the model of `write_line` breaks a text into lines without losing, duplicating or
    reordering a word — the words (maximal runs of non-blank characters) of all lines, in order, are the words of the text; so
    the PostScript token stream of the wrapped program is the token stream before wrapping (`Model.Lines.epsPath`, the one
    `Props.C10.judge_accepts_model_eps_proved` speaks about) -/
theorem eps_wrap_keeps_words (s : String) :
    wrap 254 s = (wrapLines 254 ((chunksOf s.toList).length + 1) true (chunksOf s.toList)).map (fun l => String.ofList l.flatten)
    ∧ wordsOf (wrapLines 254 ((chunksOf s.toList).length + 1) true (chunksOf s.toList)).flatten = wordsOf (chunksOf s.toList) :=
  ⟨rfl, (wrapLines_spec 254 _ true _ (Nat.lt_succ_self _)).1⟩

/-- For every text without a word of more than 254 characters: no line the model writes is longer than 254
    characters -/
theorem eps_lines_short (s : String) (h : ∀ ch ∈ chunksOf s.toList, ch.length ≤ 254) : ∀ line ∈ wrap 254 s, line.length ≤ 254 := by
  intro line hl
  unfold wrap wrapChunks at hl
  simp only [List.mem_map] at hl
  obtain ⟨l, hmem, rfl⟩ := hl
  have := (wrapLines_spec 254 _ true _ (Nat.lt_succ_self _)).2 h l hmem
  simpa [total, List.length_flatten] using this

example : wrap 12 "1 2.5 moveto 7 0 l 1 0 m 1 0 l" = ["1 2.5 moveto", "7 0 l 1 0 m", "1 0 l"] := by decide +kernel

/-! ### SVG: the text of `<title>`, `<desc>` and of the attribute values -/

/-- For every title / description: what the model of `write_svg` writes between `<title>` and `</title>`
    (`xml.sax.saxutils.escape`) contains no `<` and no `>` — it cannot end the element or open another one —, and the
    reference decoder of XML character data (`xmlDecode`: `&amp;` `&lt;` `&gt;` …) reads the original text back -/
theorem svg_text_escaped (s : List Char) :
    xmlDecode (Svg.escape s) = s ∧ ∀ c ∈ Svg.escape s, c ≠ '<' ∧ c ≠ '>' := by
  rw [escape_eq]
  exact ⟨decode_flatMap false false s, fun c hc => let h := mem_flatMap_enc false false s c hc; ⟨h.1, h.2.1⟩⟩

/-- For every class / id / encoding / version / colour / opacity text: `quoteattr` produces
    `q body q` with q one of the two quote characters, q does not occur in the body, the body contains no `<`, `>`, and no
    literal line break or tab (they would be normalised away by an XML reader), and decoding the body gives the original
    value back -/
theorem svg_attribute_quoted (s : String) :
    ∃ (q : Char) (body : List Char), (Svg.quoteattr s).toList = q :: body ++ [q] ∧ (q = '"' ∨ q = '\'') ∧ q ∉ body
      ∧ (∀ c ∈ body, c ≠ '<' ∧ c ≠ '>' ∧ c ≠ '\n' ∧ c ≠ '\r' ∧ c ≠ '\t') ∧ xmlDecode body = s.toList := by
  -- in each of the three cases the body is `enc true qm` of every character (`enc attr qm c`: what the passes of
  -- `quoteattr` make of the character `c`; `stage2_eq`, `stage3_eq` fuse the passes into it)
  have body : ∀ qm : Bool, (∀ c ∈ s.toList.flatMap (enc true qm), c ≠ '<' ∧ c ≠ '>' ∧ c ≠ '\n' ∧ c ≠ '\r' ∧ c ≠ '\t')
      ∧ xmlDecode (s.toList.flatMap (enc true qm)) = s.toList := fun qm =>
    ⟨fun c hc => let ⟨h1, h2, _, h3⟩ := mem_flatMap_enc true qm _ c hc; ⟨h1, h2, h3 rfl⟩, decode_flatMap true qm _⟩
  unfold Svg.quoteattr
  simp only [stage2_eq]
  split
  · split
    · rw [stage3_eq]
      exact ⟨'"', _, String.toList_ofList, .inl rfl, fun hm => (mem_flatMap_enc true true _ _ hm).2.2.1 rfl rfl, body true⟩
    · next h => exact ⟨'\'', _, String.toList_ofList, .inr rfl, fun hm => h (List.contains_iff_mem.2 hm), body false⟩
  · next h => exact ⟨'"', _, String.toList_ofList, .inl rfl, fun hm => h (List.contains_iff_mem.2 hm), body false⟩

example : Svg.quoteattr "a\"b" = "'a\"b'" ∧ Svg.quoteattr "a\"'<b" = "\"a&quot;'&lt;b\"" := by decide

end Props.C10Docs
