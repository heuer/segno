/-
  C16 — helper factories emit payloads whose fields parse back to the given values (lemmas: Proofs/Helpers*.lean).
  `Gen.*` = the `str.translate` tables and EPC constants of segno/helpers.py, regenerated on every run;
  `Model.Helpers.*` = the hand-written model of the builders (tied to the code by the correspondence check);
  `Spec.Helpers.*` = the property as the judge evaluates it on the real payloads.
-/
import Proofs.HelpersModel
import Proofs.HelpersNum
import Proofs.HelpersVcard
import Proofs.HelpersGeo
import Proofs.HelpersMail
import Proofs.HelpersEpc
import Gen.Helpers

namespace Props.C16
open Spec.Helpers Model.Helpers Proofs.Helpers

/-- `_MECARD_ESCAPE` puts a backslash before `\ ; : "` and leaves every other character alone -/
theorem mecard_table_escapes : Escaping escMecard mecardSpecial where
  special := by
    intro c h
    rcases h with rfl | rfl | rfl | rfl <;> decide
  other := by
    intro c h
    apply escOf_of_not_key
    simp only [Gen.MECARD_ESCAPE, List.forall_mem_cons]
    exact ⟨fun e => h (.inl e), fun e => h (.inr (.inl e)), fun e => h (.inr (.inr (.inl e))), fun e => h (.inr (.inr (.inr e))),
      fun _ hp => absurd hp List.not_mem_nil⟩
  backslash := Or.inl rfl

/-- removing the backslash escapes from an escaped value gives the value back, for every string -/
theorem unescape_escape (s : List Char) : unescape (escapeMecard s) = some s :=
  Proofs.Helpers.unescape_escape mecard_table_escapes s

/-- No value can forge or terminate a field: for each delimiter `d` of the syntax (`;`, `:`, `"`) an
    escaped value is a single piece when split at the unescaped `d`, and when it is followed by `d`
    that `d` ends the piece — also when the value ends in a backslash — and the text after it is
    split independently of the value. -/
theorem escaped_has_no_unescaped_delimiter (d : Char) (hd : d = ';' ∨ d = ':' ∨ d = '"') (s rest : List Char) :
    splitUnescaped d (escapeMecard s) = [escapeMecard s]
    ∧ splitUnescaped d (escapeMecard s ++ d :: rest) = escapeMecard s :: splitUnescaped d rest :=
  mecard_table_escapes.split_escaped (Or.inr hd) (by rcases hd with rfl | rfl | rfl <;> decide) s rest

example : splitUnescaped ';' (escapeMecard ['a', '\\'] ++ ';' :: ['P', ':', 'x']) = [['a', '\\', '\\'], ['P', ':', 'x']] := by decide

/-- **WIFI round trip** — for every SSID and password (any characters) and every authentication type
    whose written form contains none of `\ ; : "` (in particular the documented WEP / WPA / nopass):
    the payload built by `make_wifi_data` splits at the unescaped `;` into exactly the supplied
    fields `T`, `S`, `P`, `H` in order, each value recovered verbatim. -/
theorem wifi_roundtrip (a : WifiArgs) (hsec : ∀ s, a.security = some s → ∀ c ∈ wifiToken s, ¬ mecardSpecial c) :
    wifiOk (wifiData a) a = true := by
  unfold wifiOk
  rw [wifiData_eq mecard_table_escapes a hsec]
  exact fieldsOk_render mecard_table_escapes (Or.inr (Or.inl rfl)) _ _ (wifi_keys a) _ (by cases a.hidden <;> simp)

example : wifiOk (wifiData { ssid := ['a', ';', '\\'], password := some [':', '"'], security := some ['w', 'p', 'a'], hidden := true })
    { ssid := ['a', ';', '\\'], password := some [':', '"'], security := some ['w', 'p', 'a'], hidden := true } = true := by decide

/-- **MeCard round trip** — for every name, reading, memo, nickname, address part and every (multi-)
    value of phone / videophone / e-mail / URL (any characters, any number of values), and a birthday
    whose text contains none of `\ ; : "` (documented: `YYYYMMDD`): the payload built by
    `make_mecard_data` splits at the unescaped `;` into exactly the supplied fields in the documented
    order (`N`, `SOUND`, `TEL`*, `TELAV`*, `EMAIL`*, `NICKNAME`, `BDAY`, `URL`*, `ADR`, `MEMO`), each
    value recovered verbatim (`ADR`: the seven parts joined by commas), followed by the empty
    terminating field. -/
theorem mecard_roundtrip (a : MecardArgs) (hb : ∀ b, a.birthday = some b → ∀ c ∈ b, ¬ mecardSpecial c) :
    mecardOk (mecardData a) a = true := by
  unfold mecardOk
  rw [mecardData_eq mecard_table_escapes a hb]
  exact fieldsOk_render mecard_table_escapes (Or.inr (Or.inl rfl)) _ _ (mecard_keys a) _ (Or.inr rfl)

example : mecardOk (mecardData { name := ['\\'], email := .list [[';'], []], city := some [',', '"'], birthday := some ['1', '9'] })
    { name := ['\\'], email := .list [[';'], []], city := some [',', '"'], birthday := some ['1', '9'] } = true := by decide

/-- the vCard tables in full: `_VCARD_ESCAPE` writes `,` and `;` with a backslash, LF as backslash + `n`,
    drops CR and leaves every other character alone (in particular the backslash itself: the
    docstring of `_escape_vcard` promises more than the table does); `_VCARD_LINEBREAK_ESCAPE` (used for
    the structured `N` property) only rewrites LF and CR -/
theorem vcard_tables_documented (c : Char) :
    escOf Gen.VCARD_ESCAPE c = (if c = ',' ∨ c = ';' then ['\\', c] else if c = '\n' then ['\\', 'n'] else if c = '\r' then [] else [c])
    ∧ escOf Gen.VCARD_LINEBREAK_ESCAPE c = (if c = '\n' then ['\\', 'n'] else if c = '\r' then [] else [c]) := by
  by_cases h1 : c = ','
  · subst h1; decide
  by_cases h2 : c = ';'
  · subst h2; decide
  by_cases h3 : c = '\n'
  · subst h3; decide
  by_cases h4 : c = '\r'
  · subst h4; decide
  rw [escOf_of_not_key, escOf_of_not_key, if_neg (fun h => h.elim h1 h2), if_neg h3, if_neg h4]
  · exact ⟨rfl, rfl⟩
  · simp only [Gen.VCARD_LINEBREAK_ESCAPE, List.forall_mem_cons]
    exact ⟨h3, h4, fun _ hp => absurd hp List.not_mem_nil⟩
  · simp only [Gen.VCARD_ESCAPE, List.forall_mem_cons]
    exact ⟨h1, h2, h3, h4, fun _ hp => absurd hp List.not_mem_nil⟩
/-- `_VCARD_LINEBREAK_ESCAPE` never lets a CR or LF through: LF is written as backslash + `n`, CR is dropped -/
theorem vcard_name_table_no_linebreak (c : Char) : ∀ x ∈ escOf Gen.VCARD_LINEBREAK_ESCAPE c, x ≠ '\r' ∧ x ≠ '\n' := by
  rw [(vcard_tables_documented c).2]
  intro x hx
  split at hx
  · revert x; decide
  next hn =>
    split at hx
    · cases hx
    next hr => rw [List.mem_singleton.mp hx]; exact ⟨hr, hn⟩

/-- nor does `_VCARD_ESCAPE`, which treats the other characters in the same way -/
theorem vcard_table_no_linebreak (c : Char) : ∀ x ∈ escOf Gen.VCARD_ESCAPE c, x ≠ '\r' ∧ x ≠ '\n' := by
  rw [(vcard_tables_documented c).1]
  split
  next h => rcases h with rfl | rfl <;> decide
  · rw [← (vcard_tables_documented c).2]; exact vcard_name_table_no_linebreak c

/-- an escaped vCard value contains no CR and no LF, whatever the value is: it cannot start a line -/
theorem vcard_one_line (s : List Char) :
    (∀ x ∈ escapeVcard s, x ≠ '\r' ∧ x ≠ '\n') ∧ (∀ x ∈ escapeVcardName s, x ≠ '\r' ∧ x ≠ '\n') :=
  ⟨translate_noBreak _ vcard_table_no_linebreak s, translate_noBreak _ vcard_name_table_no_linebreak s⟩

example : escapeVcard ['a', '\r', '\n', 'E', 'N', 'D', ';'] = ['a', '\\', 'n', 'E', 'N', 'D', '\\', ';'] := by decide

/-- **every vCard value occupies exactly one content line** — for all arguments (any characters in any
    value, any number of values of the multi-valued properties; `lat` / `lng` printed by Python as
    numbers, i.e. without line breaks): whenever `make_vcard_data` returns a payload, it consists of
    CRLF-terminated lines without a bare CR or LF, namely BEGIN:VCARD, VERSION:3.0, exactly one content
    line per supplied value carrying the documented property name in the documented order, END:VCARD.
    (A `birthday` / `rev` text with a line break is refused: `_looks_like_datetime` is a full match.) -/
theorem vcard_lines (a : VcardArgs) (hlat : NoBreak (a.lat.getD [])) (hlng : NoBreak (a.lng.getD []))
    (p : Str) (h : vcardData a = some p) : vcardOk p a = true :=
  vcardOk_model vcard_table_no_linebreak vcard_name_table_no_linebreak a hlat hlng p h

def vcardExample : VcardArgs :=
  { name := ['a', '\n'], displayname := [';'], memo := some ['\r', '\n', 'E', 'N', 'D'], email := Arg.list [['x'], []],
    birthday := some ['2', '0', '2', '0', '-', '0', '1', '-', '0', '1'] }
example : (vcardData vcardExample).isSome = true := by decide

/-- **geo round trip** — for all numbers (exact values `±num/den`, e.g. every finite float and every
    int): the payload of `make_geo_data` is `geo:<lat>,<lng>`; each number is written as
    `[-]digits[.digits]` with at most 8 decimals and no trailing zero, and equals the given number
    rounded to 8 decimals (|written − given| ≤ 0.5·10⁻⁸). -/
theorem geo_roundtrip (lat lng : Rat') (h1 : lat.den ≠ 0) (h2 : lng.den ≠ 0) :
    geoOk (geoData lat lng) lat lng = true := by
  unfold geoOk geoData
  have e : ['g', 'e', 'o', ':'] ++ floatToStr lat ++ [','] ++ floatToStr lng
      = geoPrefix ++ (floatToStr lat ++ ',' :: floatToStr lng) := by simp [geoPrefix]
  rw [e, stripPrefix_append]
  simp only
  rw [splitPlain_two ',' _ _ (floatToStr_no_comma lat) (floatToStr_no_comma lng)]
  simp only [geoNumberOk, floatToStr_parse, Bool.true_and, Bool.and_eq_true]
  exact ⟨isRounding_roundHalfEven 8 lat h1, isRounding_roundHalfEven 8 lng h2⟩

/-- decoding the percent-encoding of `quote(text.encode('utf-8'))` gives back the UTF-8 bytes of the
    text, for every text -/
theorem percent_roundtrip (s : Str) : pctDecode (quoteUtf8 s) = some (Spec.Helpers.utf8 s) := pctDecode_quoteUtf8 s

/-- **mailto round trip** — for every subject and body (any characters) and all recipients / cc / bcc
    whose addresses consist of URI characters other than `% ? & =` (`AddrOk`): whenever
    `make_make_email_data` returns a URI, it consists of RFC 3986 characters only, has the form
    `mailto:<to>[?key=value(&key=value)*]` with the keys cc, bcc, subject, body in this order exactly
    for the supplied values, and the percent-decoded values are the UTF-8 bytes of the inputs; and it
    refuses (ValueError) exactly when `to` is empty. -/
theorem mailto_roundtrip (a : EmailArgs) (hto : ∀ s ∈ a.to.multi, AddrOk s) (hcc : ∀ s ∈ a.cc.multi, AddrOk s)
    (hbcc : ∀ s ∈ a.bcc.multi, AddrOk s) :
    (∀ p, emailData a = some p → mailtoOk p a = true) ∧ (emailData a = none ↔ mailtoMustRefuse a = true) := by
  refine ⟨fun p h => mailtoOk_model a hto hcc hbcc p h, ?_⟩
  rw [emailData_eq]
  unfold mailtoMustRefuse
  cases a.to.multi.isEmpty <;> simp

def emailExample : EmailArgs :=
  { to := Arg.str ['a', '@', 'b'], subject := some ['?', '&', ' ', 'ä'], body := some [] }
example : (emailData emailExample).isSome = true ∧ (∀ s ∈ emailExample.to.multi, AddrOk s) := by
  refine ⟨by decide, ?_⟩
  intro s hs
  simp [emailExample, Arg.multi] at hs
  subst hs
  intro c hc
  simp at hc
  rcases hc with rfl | rfl | rfl <;> decide

/-- the constants of `_make_epc_qr_data` / `make_epc_qr` are those of EPC069-12: character sets in the
    order of their numbers, amount range 0.01 … 999 999 999.99, 331 bytes, level M without boosting,
    version ≤ 13 -/
theorem epc_constants :
    Gen.EPC_ENCODINGS = epcEncodings ∧ Gen.EPC_MIN_AMOUNT_CENTS = epcMinCents ∧ Gen.EPC_MAX_AMOUNT_CENTS = epcMaxCents
    ∧ Gen.EPC_MAX_BYTES = epcMaxBytes ∧ (Gen.EPC_ERROR = "m" ∨ Gen.EPC_ERROR = "M") ∧ Gen.EPC_BOOST_ERROR = false ∧ Gen.EPC_MAX_VERSION = 13 := by
  decide

/-- for every amount of `cents`/100 in the admitted range the text `EUR#.##` produced by
    `f'EUR{amount:.2f}'.rstrip('0').rstrip('.')` is read back by the specification's parser as exactly
    `cents` (numerically equal), and is in the range of the standard -/
theorem epc_amount (cents : Nat) (h1 : Gen.EPC_MIN_AMOUNT_CENTS ≤ cents) (h2 : cents ≤ Gen.EPC_MAX_AMOUNT_CENTS) :
    parseAmountCents (fmtAmount cents) = some cents ∧ epcMinCents ≤ cents ∧ cents ≤ epcMaxCents :=
  ⟨parseAmount_fmtAmount cents, by simpa [Gen.EPC_MIN_AMOUNT_CENTS, epcMinCents] using h1,
    by simpa [Gen.EPC_MAX_AMOUNT_CENTS, epcMaxCents] using h2⟩

example : parseAmountCents (fmtAmount 1000) = some 1000 := (epc_amount 1000 (by decide) (by decide)).1

/-- the amount written for an exactly known input `x ≥ 0` (Decimal quantised to two places, ties to
    even) is a nearest cent: the text parses to `c` with |c/100 − x| ≤ 0.005; for an input with at most
    two decimals this is equality -/
theorem epc_amount_value (x : Rat') (hd : x.den ≠ 0) (hn : x.neg = false) :
    ∃ c, parseAmountCents (fmtAmount (roundHalfEven (100 * x.num) x.den)) = some c ∧ isRounding 2 false c x = true :=
  ⟨_, parseAmount_fmtAmount _, isRounding_cents x hd hn⟩

/-- a payload of at most 331 bytes fits a version 13 symbol at level M in byte mode
    (4 mode bits + 16 count bits + 8 bits per byte ≤ 2672 data bits of Table 7) -/
theorem epc_fits_13M (n : Nat) (h : n ≤ Gen.EPC_MAX_BYTES) :
    Spec.capacityOf 13 0 = some 2672 ∧ Spec.cciBits 4 13 = some 16 ∧ Spec.modeBits 13 = 4
    ∧ 4 + 16 + 8 * n ≤ 2672
    ∧ Spec.fits 13 0 [{ mode := 4, count := n, eci := false }] false = true := by
  have hc : Spec.capacityOf 13 0 = some 2672 := by decide +kernel
  have hcc : Spec.cciBits 4 13 = some 16 := by decide +kernel
  have hm : Spec.modeBits 13 = 4 := by decide
  have hn : n ≤ 331 := h
  refine ⟨hc, hcc, hm, by omega, ?_⟩
  simp [Spec.fits, hc, Spec.neededBits, hcc, hm, Spec.payloadBits]
  omega

/-- **EPC layout** — whenever `_make_epc_qr_data` (model) returns the payload text `t` with character set
    number `k` for arguments without line feeds (the EPC character set excludes line breaks): `t` splits
    at LF into exactly the lines of the EPC069-12 version 002 layout in order — `BCD`, `002`, the
    character set number, `SCT`, BIC, name, IBAN, amount, purpose, structured reference and (only if
    given) the unstructured text (`Model.Helpers.epcLines`: the supplied values, BIC / name without
    surrounding and reference / text without trailing whitespace) —; the amount line parses to a
    number of cents that is a nearest cent of the supplied amount and lies in 0.01 … 999 999 999.99. -/
theorem epc_layout (a : EpcArgs) (canName : String → Bool) (k : Nat) (t : Str) (h : epcData a canName = some (k, t))
    (hname : ∀ s, a.name = some s → NoLF s) (hiban : ∀ s, a.iban = some s → NoLF s) (htext : ∀ s, a.text = some s → NoLF s)
    (href : ∀ s, a.reference = some s → NoLF s) (hbic : ∀ s, a.bic = some s → NoLF s) (hpur : ∀ s, a.purpose = some s → NoLF s) :
    ∃ cents, splitPlain '\n' t = epcLines a k cents
      ∧ (epcLines a k cents).take 4 = [['B', 'C', 'D'], ['0', '0', '2'], (if k = 0 then [] else decDigits k), ['S', 'C', 'T']]
      ∧ (epcLines a k cents)[7]? = some (fmtAmount cents)
      ∧ parseAmountCents (fmtAmount cents) = some cents ∧ isRounding 2 false cents a.amount = true
      ∧ epcMinCents ≤ cents ∧ cents ≤ epcMaxCents := by
  obtain ⟨_, _, hl, _⟩ := (epcData_eq_some_iff a canName k t).mp h
  obtain ⟨hd, hn, hmin, hmax⟩ := epc_amount_accepted a (by decide) hl
  have hpos : 0 < a.amount.den := Nat.pos_of_ne_zero hd
  exact ⟨roundHalfEven (100 * a.amount.num) a.amount.den, epc_split a canName k t h hname hiban htext href hbic hpur,
    rfl, rfl, parseAmount_fmtAmount _, isRounding_cents a.amount hd hn,
    Nat.le_trans ((Nat.le_div_iff_mul_le hpos).mpr hmin) (le_roundHalfEven _ _), roundHalfEven_le _ _ _ hpos hmax⟩

/-- The full statement about the EPC refusals, proved in Props/C16Epc.lean (`epc_refusals`): the model
    refuses only inputs that violate a documented limit however surrounding whitespace is counted, and
    accepts only inputs that violate none; and for an accepted input the character set number is the
    requested one, else the first of 2..8 that can represent the text, else 1, and the encoded payload has
    at most 331 bytes.  The judge's cent rounding is ties-to-even, like the code's: see the example at the
    end of Props/C16Epc.lean. -/
def epc_refusals_statement : Prop :=
  ∀ (a : EpcArgs),
    let canName := fun (n : String) => match epcEncodings.idxOf? n with | some i => a.can.getD i false | none => false
    (∀ k t, epcData a canName = some (k, t) → epcMustRefuse a = none
      ∧ (match epcRequested a.encoding with | .ok req => k = epcCharset req a.can | .error _ => False)
      ∧ (if k = 1 then Spec.Helpers.utf8Len t else t.length) ≤ epcMaxBytes)
    ∧ (epcData a canName = none → epcMustAccept a = false)

end Props.C16
