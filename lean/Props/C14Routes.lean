/-
  C14, the route layer and the command line tool: documented arguments never produce anything but the result, ValueError, or an
  error of the codec service (`RouteClean`; UnicodeError, and LookupError unless the codec knows its encodings: `CodecKnows`).
  The TypeErrors that remain are Python's own, raised by the keyword binding before any code of segno runs, and the documented
  misuses (a stream without `name` and `kind`, a text serialiser on a binary stream or the reverse, `svg_inline` with a keyword it sets).
-/
import Proofs.C14Route
import Proofs.C14Cli
import Props.C14NoCrash
import Props.C12Routes

namespace Props.C14Routes

open Model Model.Cli Model.Routes Model.RoutesDocs Model.RoutesVec Model.Args
open Proofs.C14Ser Proofs.C14Route Proofs.Routes Proofs.Png

/-- what `RouteClean` excludes: every crash class of the models' error type -/
theorem clean_never_crashes {α : Type} (r : R α) (hc : RouteClean r) (e : PyErr) (he : r = .error e) :
    e ≠ .typeError ∧ e ≠ .indexError ∧ e ≠ .keyError ∧ e ≠ .assertionError ∧ e ≠ .dataOverflow := by
  rcases hc with ⟨x, hx⟩ | hx | hx | hx <;> rw [hx] at he <;> cases he <;> simp

section
variable (svc : Services) (vs : VecServices) (rt : Runtime) (M : List (List Nat)) (w h : Nat) (rest : String → Config → R SerOut)

/-- every symbol-shaped matrix, all services that keep their contract: on documented arguments
    `QRCode.save` (file name / named stream / `kind`; every kind incl. svgz), `svg_inline`, `svg_data_uri`, `png_data_uri` and
    `QRCode.terminal` end with their result, with ValueError, or with UnicodeError / LookupError of the codec service -/
theorem route_no_crash (hs : SymbolShaped M w h) (hset : SetOrderOK svc.setOrder) (hrt : RuntimeOK rt) :
    (∀ out kind kw, DocumentedSave svc M w h out kind kw → RouteClean (save (fullEnv svc vs rt M w h rest) out kind kw))
    ∧ (∀ kw, DocumentedInline kw → RouteClean (svgInline (fullEnv svc vs rt M w h rest) kw))
    ∧ (∀ kw, DocumentedSvgUri kw → RouteClean (svgDataUri (fullEnv svc vs rt M w h rest) kw))
    ∧ (∀ kw, DocumentedSer "png" kw → PngFits svc M w h kw → RouteClean (pngDataUri (fullEnv svc vs rt M w h rest) kw))
    ∧ (∀ out border compact, DocumentedTerminal out border → RouteClean (terminal (fullEnv svc vs rt M w h rest) out border compact)) :=
  ⟨fun out kind kw hd => save_clean svc vs rt M w h rest hs hset hrt out kind kw hd,
   fun kw hd => svgInline_clean svc vs rt M w h rest hs hset hrt kw hd,
   fun kw hd => svgDataUri_clean svc vs rt M w h rest hs hset hrt kw hd,
   fun kw hd hf => pngDataUri_clean svc vs rt M w h rest hs hset hrt kw hd hf,
   fun out border compact hd => terminal_clean svc vs rt M w h rest hs hset hrt out border compact hd⟩

/-- the plan level, for every route at once: a plan whose serialiser call is documented, whose target suits the serialiser and
    whose post-processing has a buffer and a str encoding executes cleanly; with a codec that knows its encodings not even
    LookupError is left -/
theorem plan_no_crash (hs : SymbolShaped M w h) (hset : SetOrderOK svc.setOrder) (hrt : RuntimeOK rt) (p : Plan)
    (hdoc : DocumentedSer p.key p.kw) (hfit : p.key = "png" → PngFits svc M w h p.kw) (ht : TargetOK p) (hp : PostOK p) :
    RouteClean (execute (fullEnv svc vs rt M w h rest) p)
    ∧ (CodecKnows rt → execute (fullEnv svc vs rt M w h rest) p ≠ .error .lookupError) :=
  ⟨execute_clean svc vs rt M w h rest hs hset hrt p hdoc hfit ht hp,
   fun hk => execute_clean_known svc vs rt M w h rest hs hset hrt hk p hdoc hfit ht hp⟩

end

/-- `QRCodeSequence.save`: if saving every symbol to its n-th name is clean (`route_no_crash` for each symbol of the sequence),
    so is the whole loop -/
theorem sequence_save_no_crash (envs : List Env) (out : OutArg) (kind : Option Str) (kw : Config)
    (hall : ∀ env ∈ envs, ∀ n, RouteClean (save env (seqOut out envs.length n) kind kw)) :
    RouteClean (seqSave envs out kind kw) :=
  seqSaveGo_clean envs.length out kind kw envs 1 hall

/-! ### the TypeErrors Python itself raises -/

/-- the keyword binding of a serialiser call fails — with TypeError — iff some keyword is not an option of the serialiser -/
theorem keyword_binding_exact (key : String) (kw : Config) (hk : key ∈ kinds) :
    completeKw key kw = .error .typeError ↔ ∃ e ∈ kw, ∀ p ∈ optTypes key, p.1 ≠ e.1 := by
  rw [completeKw_eq key hk]
  by_cases h : kw.all (fun e => (optTypes key).any (·.1 == e.1)) = true
  · rw [if_pos h]
    refine ⟨fun hx => (by cases hx), fun ⟨e, he, hne⟩ => ?_⟩
    obtain ⟨p, hp, hpe⟩ := List.any_eq_true.1 (List.all_eq_true.1 h e he)
    exact absurd (beq_iff_eq.1 hpe) (hne p hp)
  · rw [if_neg h]
    refine ⟨fun _ => ?_, fun _ => rfl⟩
    obtain ⟨e, he, hn⟩ := List.all_eq_false.1 (Bool.not_eq_true _ ▸ h)
    exact ⟨e, he, fun p hp hpe => hn (List.any_eq_true.2 ⟨p, hp, beq_iff_eq.2 hpe⟩)⟩

/-- **unknown keyword**: a keyword that is not an option of the serialiser makes the serialiser call end in TypeError
    ("got an unexpected keyword argument"), whatever the environment -/
theorem route_unknown_keyword (env : Env) (key : String) (kw : Config) (hk : key ∈ kinds)
    (hu : ∃ e ∈ kw, ∀ p ∈ optTypes key, p.1 ≠ e.1) : env.ser key kw = .error .typeError := by
  unfold Env.ser
  rw [(keyword_binding_exact key kw hk).2 hu]
  rfl

/-- a keyword that names a parameter of `QRCode.save` / `writers.save` (`self`, `out`, `kind`, `matrix`, `matrix_size`):
    "got multiple values for argument" -/
theorem save_reserved_keyword (env : Env) (out : OutArg) (kind : Option Str) (kw : Config) (h : ¬ Free saveReserved kw) :
    save env out kind kw = .error .typeError :=
  save_refused env out kind kw h

section cli
variable (svc : Services) (vs : VecServices) (rt : Runtime) (M : List (List Nat)) (w h : Nat) (rest : String → Config → R SerOut)

/-- the serialisation stage of the command line tool (`cli.main` after `make_code`): for every namespace the argparse table can produce
    (`ArgparseAccepted`: Gen.CLI_ARGS, Gen.CLI_ARG_TYPES — argparse itself is a runtime service), `main` ends by writing the output —
    the file `output`, or the terminal text on stdout — or with ValueError (a serialiser refusal: `--scale 0`, `--border -1`,
    `--dark "#12"`, an unknown extension) resp. an error of the codec service; `build_config` never hands over a keyword the
    serialiser does not know or a value of an undocumented type -/
theorem cli_no_crash (hs : SymbolShaped M w h) (hset : SetOrderOK svc.setOrder) (hrt : RuntimeOK rt) (parsed : Config)
    (hp : ArgparseAccepted parsed)
    (hfit : ∀ out, cget parsed "output" = some (.str out) → PngFits svc M w h (cliKwargs Gen.EXT_TO_KW_MAPPING parsed out.toList)) :
    RouteClean (cliMain (fullEnv svc vs rt M w h rest) Gen.EXT_TO_KW_MAPPING parsed)
    ∧ ∀ r, cliMain (fullEnv svc vs rt M w h rest) Gen.EXT_TO_KW_MAPPING parsed = .ok r → ∃ wr, r = .written wr := by
  obtain ⟨hout, b, hb⟩ := cli_output_cases parsed hp
  rcases hout with hnone | ⟨o, ho⟩
  · -- no output file: the terminal
    rw [Props.C12Routes.cli_main_eq_terminal _ _ _ b hnone hb]
    refine ⟨terminal_clean svc vs rt M w h rest hs hset hrt none b _ ⟨cli_border_typed parsed hp b hb, fun nm hx => by cases hx⟩, ?_⟩
    intro r hr
    exact execute_written (terminalPlan none b ((cget parsed "compact").getD (.bool false))) rfl r _ hr
  · rw [Props.C12Routes.cli_main_eq_save _ _ _ o ho]
    have hdoc : DocumentedSave svc M w h (.path o.toList) none (cliKwargs Gen.EXT_TO_KW_MAPPING parsed o.toList) := by
      refine ⟨fun _ b hx => (by cases hx), cli_kwargs_free parsed o.toList, ?_⟩
      intro key gz hd
      have hd' : dispatch validKeys o.toList false none = .ok (key, gz) := hd
      obtain ⟨h1, h2⟩ := cliKwargs_documented parsed hp o.toList key gz hd'
      refine ⟨?_, rfl, ?_, fun _ => hfit o ho⟩
      · cases gz with
        | false => simp only [Bool.false_eq_true, if_false]; exact h1
        | true => simp only [if_true]; exact documented_cpop key _ _ h1
      · intro _
        refine ⟨by simp [OutArg.sink], ?_⟩
        intro v hv
        rw [h2] at hv; cases hv
    exact ⟨save_clean svc vs rt M w h rest hs hset hrt _ none _ hdoc,
      fun r hr => save_written _ _ _ _ (cli_kwargs_free parsed o.toList) r hr⟩

/-- how a run of `cli.main` ends -/
inductive CliEnd where
  /-- `return 0` after the output was written -/
  | exit0 (written : Written)
  /-- a refusal while the symbol is created: `sys.stderr.writelines([str(ex), …]); sys.exit(1)` -/
  | exit1Message
  /-- an exception leaves `main`: the interpreter prints the traceback, whose last line is the message, and exits with status 1 -/
  | escapes (e : PyErr)

/-- `main`: `make_code(config)` inside `try … except ValueError` (DataOverflowError and UnicodeError are ValueErrors), then the
    serialisation stage -/
def cliRun (make : R Outcome) (serialise : R Result) : CliEnd :=
  match make with
  | .error e => if e == .valueError || e == .dataOverflow || e == .unicodeError then .exit1Message else .escapes e
  | .ok _ =>
    match serialise with
    | .ok (.written wr) => .exit0 wr
    | .ok (.value _) => .escapes .assertionError      -- `main` never computes a value (excluded by `cli_no_crash`)
    | .error e => .escapes e

/-- a whole run of `cli.main` (the make stage by `Props.C14.no_crash`, the serialisation stage by `cli_no_crash`): for a documented
    call of the make family `c` (what `make_code` issues for the namespace) and a namespace argparse can produce, `cli.main` ends with
    exit status 0 AFTER the output was written, or with status 1 and the library's message — printed by `main` for a refusal of the
    make stage; as the last line of the traceback for a ValueError of a serialiser (`--scale 0`), a UnicodeError of the codec, or a
    LookupError for an unknown codec name (`--encoding` / `--svgencoding`).  No TypeError, IndexError, KeyError or AssertionError. -/
theorem cli_run_no_crash (hs : SymbolShaped M w h) (hset : SetOrderOK svc.setOrder) (hrt : RuntimeOK rt) (c : Call) (hc : Props.C14.Documented c)
    (parsed : Config) (hp : ArgparseAccepted parsed)
    (hfit : ∀ out, cget parsed "output" = some (.str out) → PngFits svc M w h (cliKwargs Gen.EXT_TO_KW_MAPPING parsed out.toList)) :
    match cliRun (api c) (cliMain (fullEnv svc vs rt M w h rest) Gen.EXT_TO_KW_MAPPING parsed) with
    | .exit0 _ => True
    | .exit1Message => ∃ e, api c = .error e ∧ (e = .valueError ∨ e = .dataOverflow ∨ e = .unicodeError)
    | .escapes e => e = .valueError ∨ e = .unicodeError ∨ e = .lookupError := by
  obtain ⟨hclean, hwr⟩ := cli_no_crash svc vs rt M w h rest hs hset hrt parsed hp hfit
  unfold cliRun
  cases ha : api c with
  | error e =>
    have hcr := Props.C14.no_crash c hc e ha
    cases e <;> simp_all [Props.C14.isCrash]
  | ok sym =>
    simp only
    cases hm : cliMain (fullEnv svc vs rt M w h rest) Gen.EXT_TO_KW_MAPPING parsed with
    | error e =>
      rw [hm] at hclean
      rcases hclean with ⟨x, hx⟩ | hx | hx | hx <;> cases hx <;> simp
    | ok r =>
      obtain ⟨wr, rfl⟩ := hwr r hm
      trivial

end cli

/-! ### non-vacuity: the hypotheses are satisfiable, the routes run (kernel evaluation through the keyword binding and the document models) -/

section examples
open Props.C14Ser

example : RuntimeOK exRt :=
  ⟨fun _ _ => Or.inl ⟨_, rfl⟩, fun _ _ => Or.inl ⟨_, rfl⟩, fun _ => Or.inl rfl⟩
example : CodecKnows exRt := ⟨fun _ _ h => (by cases h), fun _ _ h => (by cases h)⟩

/-- namespaces argparse can produce: `segno -o out.png …`, `segno --scale 2.5 --border 0 --dark transparent -o x.svgz …`, `segno --compact …` -/
def exParsed (over : Config) : Config := over.foldl (fun c e => cset c e.1 e.2) Gen.CLI_DEFAULT_CONFIG
example : ArgparseAccepted (exParsed [("output", .str "out.png")])
    ∧ ArgparseAccepted (exParsed [("output", .str "x.svgz"), ("scale", .float 5 2), ("border", .int 0), ("dark", .str "transparent"), ("micro", .none)])
    ∧ ArgparseAccepted (exParsed [("compact", .bool true)])
    ∧ ¬ ArgparseAccepted (exParsed [("svgencoding", .none)]) ∧ ¬ ArgparseAccepted (exParsed [("xmldecl", .none)]) := by
  unfold ArgparseAccepted; decide +kernel

def clsR (r : R Result) : String :=
  match r with
  | .ok (.written (.bytes _)) => "written:bytes" | .ok (.written (.chars _)) => "written:chars" | .ok (.value _) => "value"
  | .error e => e.name

/-- the routes on the version 1 symbol of Props/C14Serializers.lean: accepted requests … -/
example : [clsR (save exEnv (.stream true none) (some "PNG".toList) [("scale", .int 2)]), clsR (save exEnv (.path "q.svgz".toList) none [("compresslevel", .int 3)]),
           clsR (save exEnv (.stream false (some "a.b.EPS".toList)) none []), clsR (svgInline exEnv [("scale", .float 5 2)]),
           clsR (svgDataUri exEnv [("encode_minimal", .bool true)]), clsR (pngDataUri exEnv []), clsR (terminal exEnv none (.int 1) (.bool true)),
           clsR (cliMain exEnv Gen.EXT_TO_KW_MAPPING (exParsed [("output", .str "out.pbm"), ("scale", .int 2)])),
           clsR (cliMain exEnv Gen.EXT_TO_KW_MAPPING (exParsed []))]
    = ["written:bytes", "written:bytes", "written:chars", "value", "value", "value", "written:chars", "written:bytes", "written:chars"] := by
  decide +kernel
/-- … refusals (ValueError), and the TypeErrors of Python's keyword binding and of the documented misuses -/
example : [clsR (save exEnv (.path "q.foo".toList) none []), clsR (save exEnv (.stream true none) (some "png".toList) [("scale", .int 0)]),
           clsR (svgInline exEnv [("border", .float 3 2)]), clsR (terminal exEnv none (.int (-1)) (.bool false)),
           clsR (cliMain exEnv Gen.EXT_TO_KW_MAPPING (exParsed [("output", .str "out.png"), ("dark", .str "#12")])),
           clsR (save exEnv (.stream true none) none []), clsR (save exEnv (.stream true none) (some "eps".toList) []),
           clsR (save exEnv (.path "q.png".toList) none [("unit", .str "mm")]), clsR (svgInline exEnv [("nl", .bool true)]),
           clsR (save exEnv (.path "q.png".toList) none [("kind", .str "png")])]
    = ["ValueError", "ValueError", "ValueError", "ValueError", "ValueError", "TypeError", "TypeError", "TypeError", "TypeError", "TypeError"] := by
  decide +kernel

end examples

end Props.C14Routes
