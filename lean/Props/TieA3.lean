/-
  Tie A — data masking, module placement and the bit stream of one segment against the translation of the current source.

  `Gen/Funcs3.lean` is written by the AST translator (tools/pytolean.py, grammar: docs/TRANSLATOR.md) from the
  CURRENT source of the repository on every run:
  * `apply_mask(matrix, mask_pattern, width, height, is_encoding_region)` — the two callables are parameters of the
    translation (`mask_pattern : Int → Int → Bool`, declared not to raise; `is_encoding_region : Int → Int → M Bool`,
    declared to raise possibly); `row[j] ^= mask_pattern(i, j)` is `Py.setItem2 … (Py.bxor cell (if … then 1 else 0))`;
  * `is_encoding_region(i, j)`, the closure of `find_and_apply_best_mask` over its local `function_matrix`
    (`function_matrix[i][j] > 0x1`), translated on its own with the closure variable as a parameter;
  * `get_data_mask_functions(is_micro)` and its nested `fn0 … fn7` — functions as VALUES: the tuple is a `List (Int → Int → Bool)`;
  * `find_and_apply_best_mask(matrix, width, height, proposed_mask)` — function-valued locals (`is_better = lt`, `eval_mask =
    evaluate_mask`, both re-bound for Micro QR Codes), the closure `is_encoding_region` passed on to `apply_mask`, the copy
    `[ba[:] for ba in matrix]`, the loop over `enumerate(mask_patterns)` with the state (best_matrix, best_pattern, best_score);
    `best_pattern` is first assigned inside the loop: unbound (`none`) until then, read through `Py.unbound`
    (`UnboundLocalError`).  `make_matrix(width, height)` is an OPAQUE read (parameter `function_matrix0`); `sys.maxsize` is
    read from the running interpreter at generation time (9223372036854775807);
  * `add_codewords(matrix, codewords, version)` — three nested loops with the state (idx, matrix); the loop variable
    `right` is rebound inside the loop (`right -= 1`), `upwards ^= j < 6` is `!=` on Booleans, `row = matrix[i]` a view.
  Each theorem states, for all arguments of the documented domain (every n × n matrix, every symbol size), that the
  hand-written model function (`lean/Model/Encoder.lean`) is equal to the translation.  The mask conditions themselves
  (`get_data_mask_functions.fn0 … fn7`) are regenerated into `Gen/Arith.lean` (`Gen.fn0 …`, `Model.maskFn`).
  Translation validation: `Gen/Funcs3Check.lean` (imported here).
-/
import Gen.Funcs3Check
import Proofs.TieA3Mask
import Proofs.TieA3Place
import Proofs.TieA3Fns
import Proofs.TieA3Best
import Proofs.TieA3Segment
import Proofs.TieA3Bound
import Proofs.TieA3Numeric
import Proofs.TieA3Alnum

namespace Props.TieA3
open Gen.Py Proofs.TieA Proofs.TieA2 Proofs.TieA3 Model

/-! ## C06: data masking -/

/-- `is_encoding_region(i, j)` of `find_and_apply_best_mask`, closed over an n × n function matrix: inside the matrix it is
    "the function matrix holds a value > 1" (`Model.applyMask` tests `get2 fm i j > 1`) and does not raise -/
theorem is_encoding_region_tie (fm : Matrix) (n : Nat) (hf : Sq fm n) (i j : Nat) (hi : i < n) (hj : j < n) :
    Gen.Funcs3.is_encoding_region (mI fm) (i : Int) (j : Int) = .ok (decide (get2 fm i j > 1)) :=
  region_cell hf i j hi hj

/-- `apply_mask(matrix, mask_patterns[p], n, n, is_encoding_region)` for EVERY n × n matrix, every n × n function matrix
    and every mask pattern number: the matrix afterwards is `Model.applyMask m fm p`; nothing is raised.  The mask
    pattern passed in is the regenerated condition `Model.maskFn p` (`Gen.fn0 … Gen.fn7`), the region test is the
    translated closure over the function matrix. -/
theorem apply_mask_tie (m fm : Matrix) (n p : Nat) (hs : Sq m n) (hf : Sq fm n) :
    Gen.Funcs3.apply_mask (mI m) (fun i j => maskFn p i.toNat j.toNat) (n : Int) (n : Int) (Gen.Funcs3.is_encoding_region (mI fm))
      = .ok (mI (Model.applyMask m fm p)) :=
  apply_mask_fn m fm n p hs hf _ (fun i j => by simp only [Int.toNat_natCast])

/-- a 2 × 2 matrix, pattern 1 (`i % 2 == 0`: the first row), every module in the encoding region but (1, 1) -/
example : Gen.Funcs3.apply_mask [[0, 1], [1, 1]] (fun i j => maskFn 1 i.toNat j.toNat) 2 2 (Gen.Funcs3.is_encoding_region [[2, 2], [2, 1]])
      = .ok [[1, 0], [1, 1]]
    ∧ Gen.Funcs3.apply_mask [[0, 1], [1, 1]] (fun i j => maskFn 1 i.toNat j.toNat) 3 2 (Gen.Funcs3.is_encoding_region [[2, 2], [2, 1]])
      = .error .indexError := by decide +kernel

/-- the hypotheses are satisfiable: the 21 × 21 matrix of `make_matrix` as matrix and as function matrix -/
example : Sq (Model.makeMatrix 21) 21 := sq_makeMatrix 21

/-- the eight mask conditions as translated into Gen/Funcs3.lean (Python integers, `&` on two's complement) are the conditions the
    arithmetic translator regenerates into Gen/Arith.lean (naturals), on all coordinates i, j ≥ 0 -/
theorem mask_conditions_tie (i j : Nat) :
    Gen.Funcs3.fn0 i j = Gen.fn0 i j ∧ Gen.Funcs3.fn1 i j = Gen.fn1 i j ∧ Gen.Funcs3.fn2 i j = Gen.fn2 i j
    ∧ Gen.Funcs3.fn3 i j = Gen.fn3 i j ∧ Gen.Funcs3.fn4 i j = Gen.fn4 i j ∧ Gen.Funcs3.fn5 i j = Gen.fn5 i j
    ∧ Gen.Funcs3.fn6 i j = Gen.fn6 i j ∧ Gen.Funcs3.fn7 i j = Gen.fn7 i j :=
  mask_conditions_nat i j

/-- `get_data_mask_functions(is_micro)` is, element by element, `Model.maskPatterns` (QR: 0 … 7, Micro QR: 1, 4, 6, 7) -/
theorem get_data_mask_functions_tie (isMicro : Bool) :
    Rel2 IsMask (Gen.Funcs3.get_data_mask_functions isMicro) (Model.maskPatterns isMicro) :=
  mask_functions isMicro

/-- N1 + N2 + N3 + N4 of an n × n matrix of 0 / 1 modules, n ≤ 177, is below 10⁷ -/
theorem penalty_below_maxsize (m : Matrix) (n : Nat) (hs : Sq m n) (hn : n ≤ 177) (hbits : ∀ i j, get2 m i j ≤ 1) :
    Model.evaluateMask m < 10000000 := by
  have h := evaluateMask_le m n hs hbits
  have h1 : n * n ≤ 177 * 177 := Nat.mul_le_mul hn hn
  have h2 : (n - 1) * ((n - 1) * 3) ≤ 177 * (177 * 3) := Nat.mul_le_mul (by omega) (Nat.mul_le_mul (by omega) (Nat.le_refl _))
  have h3 : n * (40 * (n + 1)) ≤ 177 * (40 * 178) := Nat.mul_le_mul hn (Nat.mul_le_mul (Nat.le_refl _) (by omega))
  omega

/-- `find_and_apply_best_mask(matrix, n, n, proposed_mask)` for EVERY n × n matrix of modules 0 / 1 of a symbol size
    (n ≥ 9; n < 25 or n = 4·ver + 17 ≤ 177, as for `add_alignment_patterns_tie`) and every proposed mask number or `None`,
    with `make_matrix(n, n)` = `Model.makeMatrix n`: the same pattern index and the same masked matrix as
    `Model.findAndApplyBestMask` — the function matrix (finder and alignment patterns, dark module), `IndexError` for a proposed
    mask outside the tuple, the strict comparison (`gt` from −1 for Micro QR Codes, `lt` from `sys.maxsize` for QR Codes: the
    first best candidate wins), composed with `evaluate_mask_tie` / `evaluate_micro_mask_tie` / `apply_mask_tie`.  The matrix
    parameter comes back masked when a mask is proposed (it is masked in place) and unchanged otherwise (the candidates are
    copies).  The model starts from "no candidate", the code from `sys.maxsize` = 2⁶³ − 1: `penalty_below_maxsize` shows that
    every penalty score of such a matrix is below 10⁷. -/
theorem find_and_apply_best_mask_tie (m : Matrix) (n : Nat) (hs : Sq m n) (hn : 9 ≤ n) (hal : n < 25 ∨ (n % 4 = 1 ∧ n ≤ 177))
    (hbits : ∀ i j, get2 m i j ≤ 1) (proposed : Option Nat) :
    toR (Gen.Funcs3.find_and_apply_best_mask (mI m) n n (proposed.map Int.ofNat) (mI (Model.makeMatrix n)))
      = (Model.findAndApplyBestMask m proposed).map
          (fun r => (if proposed.isSome then mI r.2 else mI m, ((r.1 : Int), some (mI r.2)))) :=
  best_mask_eq m n hs hn hal (fun _ fm p => by
    have := penalty_below_maxsize (applyMask m fm p) n (sq_applyMask fm p hs) (by omega) (applyMask_bits m fm p hbits)
    omega) proposed

/-- the function matrix is square, as the tie needs it -/
example : Sq (Model.makeMatrix 177) 177 := sq_makeMatrix 177

/-! ## C01 / C02 / C03: module placement -/

/-- `add_codewords(matrix, codewords, version)` for EVERY n × n matrix with n odd (all symbol sizes 11 … 17, 21 … 177 are
    odd), every bit list and every version number: the matrix afterwards is that of `Model.addCodewords` (the fold over
    `Model.codewordCoords`: two-module columns from the right, the column of the vertical timing pattern skipped for QR
    Codes, upwards / downwards, M1 / M3 starting upwards at the same corner), `ValueError` exactly when bits remain.
    The state of the translation is (idx, matrix), that of the model (matrix, remaining bits): `bits.drop idx`. -/
theorem add_codewords_tie (m : Matrix) (bits : List Nat) (v : Int) (n : Nat) (hs : Sq m n) (hodd : n % 2 = 1) :
    toR (Gen.Funcs3.add_codewords (mI m) (toI bits) v) = (Model.addCodewords m bits v).map mI := by
  rw [add_codewords_py m bits v n hs hodd, Proofs.Placement2.addCodewords_eq]
  dsimp only
  rw [addCodewords_fold, hs.size]
  unfold sim
  cases (bits.drop ((List.range (n / 2)).foldl (rightF bits n v) (m, 0)).2).isEmpty <;> rfl

/-- a 3 × 3 matrix with free modules (value 2).  M4 numbering (0): the right column pair downwards, three bits; a fourth
    bit does not fit (`ValueError`).  Version 1: the column pair is shifted left of the timing column, upwards for j < 6.
    M3 (-1): upwards.  (The values are those of the real function.) -/
example : Gen.Funcs3.add_codewords [[2, 0, 2], [2, 1, 2], [0, 0, 2]] [1, 1, 0] 0 = .ok [[2, 0, 1], [2, 1, 1], [0, 0, 0]]
    ∧ Gen.Funcs3.add_codewords [[2, 0, 2], [2, 1, 2], [0, 0, 2]] [1, 1, 0, 1] 0 = .error .valueError
    ∧ Gen.Funcs3.add_codewords [[2, 0, 2], [2, 1, 2], [0, 0, 2]] [1, 0] 1 = .ok [[1, 0, 2], [0, 1, 2], [0, 0, 2]]
    ∧ Gen.Funcs3.add_codewords [[2, 0, 2], [2, 1, 2], [0, 0, 2]] [1, 1, 0] (-1) = .ok [[2, 0, 0], [2, 1, 1], [0, 0, 1]]
    ∧ Model.addCodewords #[#[2, 0, 2], #[2, 1, 2], #[0, 0, 2]] [1, 1, 0] 0 = .ok #[#[2, 0, 1], #[2, 1, 1], #[0, 0, 0]] := by
  decide +kernel

/-! ## C01 / C13: the bit stream of one segment -/

/-- `write_segment(buff, segment, ver, ver_range, eci)` as `_encode` calls it (`ver` = None for a QR Code, `ver_range` the
    version of a Micro QR Code / `version_range(version)`), for EVERY buffer, segment, version number and ECI flag: the
    buffer afterwards is the old buffer followed by the bits of `Model.writeSegment` — ECI header (mode 7 and the assignment
    number, only for a byte segment in another encoding than ISO 8859-1), mode indicator (4 bits + the Hanzi subset indicator;
    `ver + 3` bits of the mapped mode for M2 … M4; none for M1), character count indicator, data bits; `ValueError` (no ECI
    number) and `KeyError` (mode without Micro QR mapping / without character count length) in the same cases.
    `get_eci_assignment_number(segment.encoding)` is an OPAQUE read (`codecs.lookup` is a runtime service): `eciM` supplies it
    from the model's ECI table parameter. -/
theorem write_segment_tie (buff : List Nat) (s : Segment) (v : Int) (eci : Bool) (eciNumber : String → Option Nat) :
    toR (Gen.Funcs3.write_segment (toI buff) s.mode s.encoding s.charCount (toI s.bits) (verArg v) (verRangeOf v) eci
        (eciM eciNumber s.encoding))
      = (Model.writeSegment s v eci eciNumber).map (fun bs => toI (buff ++ bs)) := by
  unfold Gen.Funcs3.write_segment Model.writeSegment verArg verRangeOf eciM
  simp only [cci_then, micro_mode_lookup]
  have hb : ((s.mode : Int) == (4 : Int)) = (s.mode == Gen.MODE_BYTE) := by
    rw [Bool.eq_iff_iff]; simp [Gen.MODE_BYTE]; omega
  have hh : ((s.mode : Int) == (13 : Int)) = (s.mode == Gen.MODE_HANZI) := by
    rw [Bool.eq_iff_iff]; simp [Gen.MODE_HANZI]; omega
  have hcond : (eci && (((s.mode : Int) == (4 : Int)) && !(s.encoding == some "iso-8859-1")))
      = (eci && s.mode == Gen.MODE_BYTE && s.encoding != some Gen.DEFAULT_BYTE_ENCODING) := by
    rw [hb, Bool.and_assoc]; rfl
  have a4 : ∀ x : Nat, Gen.Py.appendBits (x : Int) (4 : Int) = toI (Model.appendBits x 4) := fun x => appendBits_nat x 4
  have a8 : ∀ x : Nat, Gen.Py.appendBits (x : Int) (8 : Int) = toI (Model.appendBits x 8) := fun x => appendBits_nat x 8
  have a7 : Gen.Py.appendBits (7 : Int) (4 : Int) = toI (Model.appendBits 7 4) := a4 7
  have a1 : Gen.Py.appendBits (1 : Int) (4 : Int) = toI (Model.appendBits 1 4) := a4 1
  rw [hcond, hh]
  -- The ECI header: `ValueError` on both sides when there is no assignment number.  The translation repeats the rest of the
  -- function after the header; the two copies are treated by the same steps: Micro QR with / without mode indicator, QR.
  by_cases hE : (eci && s.mode == Gen.MODE_BYTE && s.encoding != some Gen.DEFAULT_BYTE_ENCODING) = true
  on_goal 1 => cases eciNumber (s.encoding.getD "")
  on_goal 1 => simp [hE, Bind.bind, Except.bind, Except.map, Proofs.Except.throw_eq_error, exc]
  all_goals
    simp only [hE, bind_ok]
    -- each look-up (character count, on Micro QR also the mode) is absent, `KeyError` on both sides, or a value written by `appendBits`
    by_cases hv : v < 1
    · simp only [hv, if_true]
      by_cases hv3 : v > -3
      · have hlen : ∀ mm : Nat, Gen.Py.appendBits (mm : Int) (v + 3) = toI (Model.appendBits mm (v + 3).toNat) :=
          fun mm => appendBits_lit mm (v + 3).toNat _ _ rfl (by omega)
        cases assoc Gen.MODE_TO_MICRO_MODE_MAPPING s.mode <;> cases cciLen s.mode v <;>
          simp [hv3, appendBits_nat, a7, a8, hlen, ofOption, Gen.VERSION_M1, Gen.MODE_ECI, Except.map, Bind.bind, Except.bind,
            Pure.pure, Except.pure, Proofs.Except.throw_eq_error, exc]
      · cases cciLen s.mode v <;>
          simp [hv3, appendBits_nat, a7, a8, ofOption, Gen.VERSION_M1, Gen.MODE_ECI, Except.map, Bind.bind, Except.bind,
            Pure.pure, Except.pure, Proofs.Except.throw_eq_error, exc]
    · simp only [hv, if_false]
      cases cciLen s.mode (Gen.version_range v) <;> by_cases hz : (s.mode == Gen.MODE_HANZI) = true <;>
        simp [hz, appendBits_nat, a4, a1, a7, a8, ofOption, Gen.MODE_ECI, Except.map, Bind.bind, Except.bind, Pure.pure,
          Except.pure, Proofs.Except.throw_eq_error, exc]

/-- version 1, a numeric segment "12" (7 bits): mode 0001, count 0000000010; M2 (-2): mode 0 in one bit, count in 4 bits;
    a UTF-8 byte segment with ECI: 0111 00011010 0100 … -/
example : Gen.Funcs3.write_segment [] 1 none 2 [0, 0, 0, 1, 1, 0, 0] none 1 false (.ok 0)
      = .ok [0, 0, 0, 1, 0, 0, 0, 0, 0, 0, 0, 0, 1, 0, 0, 0, 0, 1, 1, 0, 0]
    ∧ Gen.Funcs3.write_segment [1] 1 none 2 [0, 0, 0, 1, 1, 0, 0] (some (-2)) (-2) false (.ok 0)
      = .ok [1, 0, 0, 0, 1, 0, 0, 0, 0, 1, 1, 0, 0]
    ∧ Gen.Funcs3.write_segment [] 4 (some "utf-8") 0 [] none 1 true (.ok 26)
      = .ok [0, 1, 1, 1, 0, 0, 0, 1, 1, 0, 1, 0, 0, 1, 0, 0, 0, 0, 0, 0, 0, 0, 0, 0]
    ∧ Gen.Funcs3.write_segment [] 13 none 1 [] (some (-1)) (-1) false (.ok 0) = .error .keyError := by decide +kernel

/-! ## C07 / C13: `make_segment`

  The theorems from here on, and those of Props/TieA3Kanji.lean, all conclude
  `toR (make_segment …) = (Model.makeSegment …).map segI`, for sets of (requested mode, mode found, length) that together cover
  every case but one corner: `make_segment_tie_partial` (byte, numeric, alphanumeric), `make_segment_tie_alnum_digits`,
  `make_segment_tie_odd`, `make_segment_tie_refused` here, `make_segment_tie_other_even`, `make_segment_tie_kanji_hanzi` there.
  `make_segment_tie_full_partial` (Props/TieA3Kanji.lean) puts the six together, `make_segment_tie_modes` is its corollary for the
  documented modes, and `make_segment_tie_statement_false` shows that the corner cannot be included. -/

/-- what translated code returns for a segment of the model: `_Segment(bits, char_count, mode, encoding)` -/
def segI (s : Segment) : List Int × Int × Int × Option String := (toI s.bits, (s.charCount : Int), (s.mode : Int), s.encoding)

/-- FULL STATEMENT (false as it stands: `make_segment_tie_statement_false` in Props/TieA3Kanji.lean; what holds is
    `make_segment_tie_full_partial` there): `make_segment(data, mode, encoding)` for every
    byte string, every requested mode (or None) and codec name.  OPAQUE reads of the translation: `data_to_bytes(data, encoding)`
    (text codecs: the bytes, their number and the codec name used), `find_mode(segment_data)` (its tie is `find_mode_tie`, the
    regular expression behind `is_alphanumeric` is opaque there), and the builtin `int` applied to a chunk of ≤ 3 bytes (decimal
    parsing; required to agree with `Model.digitsVal` on non-empty digit strings). -/
def make_segment_tie_statement : Prop :=
  ∀ (raw : String) (data : List Nat) (mode : Option Nat) (enc : Option String) (encName : String) (intOf : List Int → M Int),
    (∀ b ∈ data, b < 256) →
    (∀ c : List Nat, c ≠ [] → (∀ b ∈ c, 48 ≤ b ∧ b ≤ 57) → intOf (toI c) = .ok (Int.ofNat (digitsVal c))) →
    toR (Gen.Funcs3.make_segment raw (mode.map Int.ofNat) enc (.ok (toI data, (data.length : Int), encName)) (findMode data : Int) intOf)
      = (Model.makeSegment data mode encName).map segI

/-- PROVED PART: byte mode (requested, or found by `find_mode` when no mode is requested), numeric mode and alphanumeric mode
    (found by `find_mode`; requested or not): the segment of `Model.makeSegment`, for every byte string — 8 bits per byte, the
    codec name kept; groups of three digits in 10 bits, a rest of two / one digit in 7 / 4 bits (`data[i:i + 3]` over
    `range(0, n, 3)` against `Model.chunks 3`, the opaque `int` against `Model.digitsVal`); pairs of characters in 11 bits, a single
    one in 6 (`consts.ALPHANUMERIC_CHARS.find` against `Model.alnumIndex`, for the 45 characters of the table).
    The kanji and hanzi branches (pairs of bytes against `Model.pairs`, with their `ValueError`s) are
    `make_segment_tie_kanji_hanzi` in Props/TieA3Kanji.lean. -/
theorem make_segment_tie_partial (raw : String) (data : List Nat) (mode : Option Nat) (enc : Option String) (encName : String)
    (intOf : List Int → M Int)
    (hint : ∀ c : List Nat, c ≠ [] → (∀ b ∈ c, 48 ≤ b ∧ b ≤ 57) → intOf (toI c) = .ok (Int.ofNat (digitsVal c)))
    (hmode : (mode = some 4 ∨ (mode = none ∧ findMode data = 4)) ∨ (findMode data = 1 ∧ (mode = none ∨ mode = some 1))
      ∨ (findMode data = 2 ∧ (mode = none ∨ mode = some 2))) :
    toR (Gen.Funcs3.make_segment raw (mode.map Int.ofNat) enc (.ok (toI data, (data.length : Int), encName)) (findMode data : Int) intOf)
      = (Model.makeSegment data mode encName).map segI := by
  rcases hmode with hb | ⟨hg, hn⟩ | ⟨hg, hn⟩
  · rw [make_segment_byte_py raw data mode enc encName intOf hb, make_segment_byte_model data mode encName hb]
    rfl
  · rw [make_segment_numeric_py raw data mode enc encName intOf hint hg hn, make_segment_numeric_model data mode encName hg hn]
    rfl
  · rw [make_segment_alnum_py raw data mode enc encName intOf hg hn, make_segment_alnum_model data mode encName hg hn]
    rfl

/-- alphanumeric mode requested for digits-only data (`find_mode` finds numeric; digits are in the alphanumeric table) -/
theorem make_segment_tie_alnum_digits (raw : String) (data : List Nat) (enc : Option String) (encName : String)
    (intOf : List Int → M Int) (hg : findMode data = 1) :
    toR (Gen.Funcs3.make_segment raw (some (2 : Int)) enc (.ok (toI data, (data.length : Int), encName)) (findMode data : Int) intOf)
      = (Model.makeSegment data (some 2) encName).map segI := by
  obtain ⟨h1, h2⟩ := make_segment_alnum_digits raw data enc encName intOf hg
  rw [h1, h2]
  rfl

/-- kanji / hanzi requested for an odd number of bytes: `ValueError` on both sides -/
theorem make_segment_tie_odd (raw : String) (data : List Nat) (md : Nat) (enc : Option String) (encName : String)
    (intOf : List Int → M Int) (hmd : md = 8 ∨ md = 13) (hodd : data.length % 2 = 1) :
    toR (Gen.Funcs3.make_segment raw (some (md : Int)) enc (.ok (toI data, (data.length : Int), encName)) (findMode data : Int) intOf)
      = (Model.makeSegment data (some md) encName).map segI := by
  obtain ⟨h1, h2⟩ := make_segment_odd raw data md enc encName intOf hmd hodd
  rw [h1, h2]
  rfl

/-- … and a requested mode (other than byte) below the mode `find_mode` finds is refused with `ValueError` on both sides -/
theorem make_segment_tie_refused (raw : String) (data : List Nat) (md : Nat) (enc : Option String) (encName : String)
    (intOf : List Int → M Int) (hmd : md ≠ 4) (hlt : md < findMode data) :
    toR (Gen.Funcs3.make_segment raw (some (md : Int)) enc (.ok (toI data, (data.length : Int), encName)) (findMode data : Int) intOf)
      = (Model.makeSegment data (some md) encName).map segI := by
  obtain ⟨h1, h2⟩ := make_segment_refused raw data md enc encName intOf hmd hlt
  rw [h1, h2]
  rfl

/-- "ab" in byte mode; "12" without a requested mode is numeric (the opaque `int` is the decimal value here) -/
example : Gen.Funcs3.make_segment "ab" (some 4) none (.ok ([97, 98], 2, "iso-8859-1")) 4 (fun _ => .ok 0)
      = .ok ([0, 1, 1, 0, 0, 0, 0, 1, 0, 1, 1, 0, 0, 0, 1, 0], 2, 4, some "iso-8859-1")
    ∧ Gen.Funcs3.make_segment "12" none none (.ok ([49, 50], 2, "iso-8859-1")) 1 (fun _ => .ok 12)
      = .ok ([0, 0, 0, 1, 1, 0, 0], 2, 1, none) := by decide +kernel

end Props.TieA3
