/-
  C12 — all output routes give the same document.

  What is logic is proved here on the model (Model/Cli.lean) over the tables regenerated from the
  repository (Gen/Sigs.lean); byte identity of the documents is judged on the implementation itself
  (harness/p_routes.py + Spec/Routes.lean).
-/
import Model.Cli
import Proofs.CliLemmas
import Proofs.Routes

namespace Props.C12
open Model Model.Cli Gen Proofs.CliLemmas

/-- the 13 documented output kinds -/
def kinds : List String := ["svg", "svgz", "png", "eps", "txt", "pdf", "ans", "pbm", "pam", "ppm", "tex", "xbm", "xpm"]

def serializerOf (kind : String) : String := if kind == "svgz" then "svg" else kind

/-- keywords and defaults of the serialiser behind a kind (inspect.signature, Gen.Sigs) -/
def sigDefaults (kind : String) : List (String × PyV) :=
  ((Gen.SERIALIZER_DEFAULTS.find? (·.1 == serializerOf kind)).map (·.2)).getD []

/-- the call `serializer(matrix, size, out, **kw)`: `none` = TypeError (unexpected keyword), otherwise the
    value every keyword parameter receives -/
def complete (defaults kw : List (String × PyV)) : Option (List (String × PyV)) :=
  if kw.all (fun kv => defaults.any (·.1 == kv.1)) then
    some (defaults.map (fun d => (d.1, (cget kw d.1).getD d.2)))
  else none

/-- what `segno -o out.<kind> content` (no other option) passes to `QRCode.save` -/
def defaultKwargs (kind : String) : Config :=
  cliKwargs Gen.EXT_TO_KW_MAPPING Gen.CLI_DEFAULT_CONFIG ("out." ++ kind).toList

/-- for every kind, the keywords `build_config` lets through for a command line without
    options, completed with the serialiser's defaults, are the serialiser's own defaults: the command line tool
    calls the serialiser exactly like `qr.save('out.<kind>')`.  (Kernel check over the regenerated signatures; it
    fails for any CLI default that survives the filtering and differs from the serialiser's default — the defect
    D11 `unit=None` for LaTeX — and for a surviving keyword the serialiser does not know.) -/
theorem cli_kwargs_eq_api :
    kinds.all (fun kind => complete (sigDefaults kind) (defaultKwargs kind) == some (sigDefaults kind)) = true := by
  decide +kernel

/-- the keyword table of the command line tool lists only real keywords of the serialisers -/
theorem ext_mapping_sound :
    Gen.EXT_TO_KW_MAPPING.all (fun e => e.2.all (fun k => (sigDefaults e.1).any (·.1 == k))) = true
    ∧ Gen.EXT_TO_KW_MAPPING.map (·.1) = Gen.VALID_SERIALIZERS.map (·.1) := by
  decide +kernel

/-- `build_config` passes only keywords listed for the extension — for EVERY configuration and file name;
    together with `ext_mapping_sound`: the command line tool can never cause "unexpected keyword argument" -/
theorem kwargs_supported (m : List (String × List String)) (config : Config) (fname : Str) (kv : String × PyV)
    (h : kv ∈ buildConfig m config (some fname)) :
    (supportedKeywords m (configExt fname)).contains kv.1 = true := by
  simp only [buildConfig, filterConfig] at h
  split at h
  · simp only [cpop, List.mem_filter] at h
    exact h.1.2
  · simp only [List.mem_filter] at h
    exact h.2

/-- `unit=None` is never passed on (finding D11), whatever the command line -/
theorem unit_none_never_passed (m : List (String × List String)) (config : Config) (fname : Str) :
    cget (buildConfig m config (some fname)) "unit" ≠ some PyV.none := by
  simp only [buildConfig, filterConfig]
  split
  · intro hc
    rw [Proofs.Routes.cget_cpop, if_pos rfl] at hc
    exact absurd hc (by simp)
  · rename_i h
    intro hc
    rw [hc] at h
    simp at h

/-- the file name matters only through its extension: same keywords for `stem.EXT` in any letter case, `svgz` = `svg` -/
theorem kwargs_extension_only (m : List (String × List String)) (config : Config) (stem stem' ext ext' : Str)
    (hd : '.' ∉ ext) (hc : lower ext' = lower ext) :
    buildConfig m config (some (stem' ++ '.' :: ext')) = buildConfig m config (some (stem ++ '.' :: ext)) := by
  have hd' := dot_not_mem_of_lower_eq hd hc
  simp only [buildConfig, filterConfig, configExt, afterLastDot_append _ _ hd, afterLastDot_append _ _ hd', hc]

/-! ### dispatch of `writers.save` (unbounded over strings) -/

/-- **dispatch** — a file name `stem.EXT` selects the same serialiser whatever the letter case of the extension … -/
theorem dispatch_case_insensitive (valid : List String) (stem stem' ext ext' : Str)
    (hd : '.' ∉ ext) (hc : lower ext' = lower ext) :
    dispatch valid (stem' ++ '.' :: ext') false none = dispatch valid (stem ++ '.' :: ext) false none := by
  have hd' := dot_not_mem_of_lower_eq hd hc
  simp only [dispatch, dispatchKey, afterLastDot_append _ _ hd, afterLastDot_append _ _ hd', hc]

/-- … and `kind=EXT` (any letter case, any `out`) selects the same serialiser as the file name `stem.ext` -/
theorem dispatch_kind_eq_extension (valid : List String) (stem out ext kind : Str) (isStream : Bool)
    (hd : '.' ∉ ext) (hc : lower kind = lower ext) :
    dispatch valid out isStream (some kind) = dispatch valid (stem ++ '.' :: ext) false none := by
  simp only [dispatch, dispatchKey, afterLastDot_append _ _ hd, hc]

/-- the extension is what follows the LAST dot -/
theorem dispatch_last_dot (valid : List String) (stem ext : Str) (hd : '.' ∉ ext) :
    dispatch valid (stem ++ '.' :: ext) false none = dispatch valid ('x' :: '.' :: ext) false none := by
  have := afterLastDot_append ['x'] ext hd
  simp only [List.cons_append, List.nil_append] at this
  simp only [dispatch, dispatchKey, afterLastDot_append _ _ hd, this]

/-- an unknown extension / kind is refused with ValueError … -/
theorem dispatch_unknown (valid : List String) (out : Str) (isStream : Bool) (kind : Option Str)
    (h : valid.contains (dispatchKey out isStream kind).1 = false) :
    dispatch valid out isStream kind = .error PyErr.valueError := by
  have h' : (dispatchKey out isStream kind).1 ∉ valid := by simpa using h
  simp only [dispatch, List.contains_iff_mem, h', if_false]
  rfl

/-- … and a known one is never refused -/
theorem dispatch_known (valid : List String) (out : Str) (isStream : Bool) (kind : Option Str)
    (h : valid.contains (dispatchKey out isStream kind).1 = true) :
    dispatch valid out isStream kind = .ok (dispatchKey out isStream kind) := by
  simp only [dispatch, h, if_true]; rfl

-- Boolean forms of `r = .ok a` and `r = .error e`, so that the kernel checks below are single Boolean evaluations
def okIs {α : Type} [BEq α] (r : R α) (a : α) : Bool := match r with | .ok x => x == a | .error _ => false
def errIs {α : Type} (r : R α) (e : PyErr) : Bool := match r with | .ok _ => false | .error x => x == e

/-- on the regenerated tables: the 12 serialisers plus `svgz` (gzip-compressed SVG, file names and `kind=` only) -/
theorem dispatch_table :
    kinds.all (fun k => okIs (dispatch (Gen.VALID_SERIALIZERS.map (·.1)) ("a." ++ k).toList false none) (serializerOf k, k == "svgz")) = true
    ∧ errIs (dispatch (Gen.VALID_SERIALIZERS.map (·.1)) "a.svgz".toList true none) PyErr.valueError = true
    ∧ okIs (dispatch (Gen.VALID_SERIALIZERS.map (·.1)) "a.svgz".toList true (some "SVGZ".toList)) ("svg", true) = true := by
  decide +kernel

def digit (n : Nat) : Char := Char.ofNat (48 + n % 10)
/-- two decimal digits -/
def two (n : Nat) : Str := [digit (n / 10), digit n]

theorem fmt02_two : ∀ n, n < 100 → fmt02 n = two n := by decide +kernel

/-- what the bound 16 of Structured Append is needed for: both numbers have two digits -/
theorem seqFileName_two (stem ext : Str) (m n : Nat) (hd : '.' ∉ ext) (hm : 2 ≤ m) (hm100 : m < 100) (hn : n < 100) :
    seqFileName (stem ++ '.' :: ext) m n = stem ++ ['-'] ++ two m ++ ['-'] ++ two n ++ '.' :: ext := by
  have h1 : m > 1 := by omega
  simp only [seqFileName, h1, if_true, splitLastDot_append _ _ hd, fmt02_two m hm100, fmt02_two n hn]

/-- the n-th of m symbols (1 ≤ n ≤ m ≤ 16, m ≥ 2) saved to `stem.ext` goes to
    `stem-MM-NN.ext` with two-digit numbers, for every stem and extension (braces, blanks, further dots in the
    stem included); a single symbol keeps the name -/
theorem sequence_names (stem ext : Str) (m n : Nat) (hd : '.' ∉ ext) (hm : 2 ≤ m) (hm16 : m ≤ 16) (hn : n ≤ m) :
    seqFileName (stem ++ '.' :: ext) m n = stem ++ ['-'] ++ two m ++ ['-'] ++ two n ++ '.' :: ext :=
  seqFileName_two stem ext m n hd hm (by omega) (by omega)

theorem sequence_single (out : Str) (n : Nat) : seqFileName out 1 n = out := by
  simp [seqFileName]

/-- different symbols of a sequence never share a file -/
theorem sequence_names_injective (stem ext : Str) (m n n' : Nat) (hd : '.' ∉ ext) (hm : 2 ≤ m) (hm16 : m ≤ 16)
    (hn : n ≤ m) (hn' : n' ≤ m) (h : seqFileName (stem ++ '.' :: ext) m n = seqFileName (stem ++ '.' :: ext) m n') : n = n' := by
  rw [sequence_names stem ext m n hd hm hm16 hn, sequence_names stem ext m n' hd hm hm16 hn'] at h
  have h2 : two n = two n' := by
    have := List.append_cancel_left (as := stem ++ ['-'] ++ two m ++ ['-']) (by simpa [List.append_assoc] using h)
    simpa [two] using this
  have hall : ∀ a, a < 17 → ∀ b, b < 17 → two a = two b → a = b := by decide +kernel
  exact hall n (by omega) n' (by omega) h2

/-! ### non-vacuity -/

example : okIs (dispatch (Gen.VALID_SERIALIZERS.map (·.1)) "my.qr.PnG".toList false none) ("png", false) = true := by decide +kernel
example : errIs (dispatch (Gen.VALID_SERIALIZERS.map (·.1)) "x.foo".toList false none) PyErr.valueError = true := by decide +kernel
example : seqFileName "x{0}.b.png".toList 12 3 = "x{0}.b-12-03.png".toList := by decide +kernel
example : (defaultKwargs "tex") = [("border", .none), ("scale", .int 1)] := by decide +kernel
example : cget (cliKwargs Gen.EXT_TO_KW_MAPPING (cset Gen.CLI_DEFAULT_CONFIG "unit" (.str "mm")) "a.tex".toList) "unit" = some (.str "mm") := by
  decide +kernel

end Props.C12
