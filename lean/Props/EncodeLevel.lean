/-
  ENCODE LEVEL (C04, C05, C06, C07 stated about the whole model of `encode`): the version, error level,
  mask and modes of the returned symbol are the ones the ISO specification prescribes, computed by
  the independent `Spec` definitions from the content alone.
-/
import Spec.Sizing
import Spec.Penalty
import Model.Encoder
import Props.C04
import Props.C05
import Props.C06
import Props.C07
import Props.EndToEnd
import Proofs.EncodeLevel
import Proofs.EncodeLevelMask

namespace Props.EncodeLevel
open Props.C04

/-- what the specification sees of the returned segments -/
def infos (eci : Bool) (c : Model.Code) : List Spec.SegInfo := c.segments.map (info eci)

/-- **C04 (automatic version)**: without a requested version the returned version is the first
    admissible one (M1 < … < M4 < 1 < … < 40; Micro only if micro ≠ False and no ECI; M1 only without a
    requested level) whose capacity at the requested level (default L) holds the content -/
theorem encode_version_is_first_fit (parts : List Model.Part) (error : Option Nat) (mode mask : Option Nat)
    (eci : Bool) (micro : Option Bool) (boost : Bool) (f : String → Option Nat) (c : Model.Code)
    (hp : Props.EndToEnd.PartsOk parts)
    (h : Model.encode parts error none mode mask eci micro boost f = .ok c) :
    Spec.expectedVersion micro eci error (infos eci c) false = some c.version := by
  open Model Proofs.EncodeLevel in
  have a := Proofs.EncodeStages.encode_accepted h
  obtain ⟨g, hfind, hv⟩ := a.found
  have hver : g = c.version := Except.ok.inj hv
  have hmic := a.combo.micro_ne_true
  have hE := Proofs.ArgsLemmas.micro_of_eci micro eci hmic
  have hff := Proofs.Sizing.findVersion_is_first_fit c.segments error eci _ false
    (prepareData_wf_of_partsOk parts _ hp a.prep) (prepareData_ne_nil parts _ hp.1 a.prep) hE
  rw [hfind, expectedVersion_micro micro eci error _ false hmic] at hff
  rw [infos, ← hver]
  show Spec.expectedVersion micro eci error (c.segments.map (Proofs.Sizing.info eci)) false = some g
  split at hff
  · rename_i hw; cases hff; exact hw
  · cases hff

/-- **C04 (overflow)**: without a requested version, a call of `encode` that ends in DataOverflowError has no
    admissible version that holds the content; one that succeeds has one (`encode_version_is_first_fit`).  So among
    the calls not refused for another reason `encode` overflows exactly when no admissible version fits. -/
theorem encode_overflow_iff (parts : List Model.Part) (error : Option Nat) (mode mask : Option Nat)
    (eci : Bool) (micro : Option Bool) (boost : Bool) (f : String → Option Nat) (segs : List Model.Segment)
    (hp : Props.EndToEnd.PartsOk parts) (hs : Model.prepareData parts = .ok segs)
    (h : Model.encode parts error none mode mask eci micro boost f = .error Model.PyErr.dataOverflow) :
    Spec.expectedVersion (if eci && micro.isNone then some false else micro) eci error (segs.map (info eci)) false = none := by
  open Model Proofs.EncodeLevel in
  obtain ⟨hcombo, segs', hs', hfind⟩ := encode_auto_overflow _ _ _ _ _ _ _ _ h
  cases hs.symm.trans hs'
  have hmic := hcombo.micro_ne_true
  have hff := Proofs.Sizing.findVersion_is_first_fit segs error eci _ false
    (prepareData_wf_of_partsOk parts segs hp hs) (prepareData_ne_nil parts segs hp.1 hs) (Proofs.ArgsLemmas.micro_of_eci micro eci hmic)
  rw [hfind] at hff
  show Spec.expectedVersion _ eci error (segs.map (Proofs.Sizing.info eci)) false = none
  split at hff
  · cases hff
  · assumption

/-- **C05**: the returned level is the one the specification prescribes: with boosting (single segment)
    the highest level defined for the version, not below the request, whose capacity holds the content;
    otherwise exactly the requested / default level -/
theorem encode_level_is_expected (parts : List Model.Part) (error : Option Nat) (version : Option Int)
    (mode mask : Option Nat) (eci : Bool) (micro : Option Bool) (boost : Bool) (f : String → Option Nat) (c : Model.Code)
    (hp : Props.EndToEnd.PartsOk parts) (herr : error ∈ [none, some 0, some 1, some 2, some 3])
    (h : Model.encode parts error version mode mask eci micro boost f = .ok c) :
    Model.lvlKey c.error = Spec.expectedLevel c.version error boost (infos eci c) false := by
  open Model Proofs.EncodeLevel in
  have a := Proofs.EncodeStages.encode_accepted h
  -- M1 has no level
  have hm1 : c.version ≠ -3 ∨ error = none := by
    cases error with
    | none => exact .inr rfl
    | some e =>
      obtain ⟨cap, -, hcap, -⟩ := a.fits
      exact .inl ((Proofs.EncodeStages.capacity_facts hcap).2.2.2 rfl)
  exact boost_step_expected c.version error (Proofs.ArgsLemmas.defaultLevel error c.version) c.error boost c.segments eci
    (prepareData_wf_of_partsOk parts _ hp a.prep) (Proofs.Sizing.lvl_eq error c.version hm1) a.fits a.boost_eq

/-- **C06 (requested mask)** -/
theorem encode_requested_mask (parts : List Model.Part) (error : Option Nat) (version : Option Int)
    (mode : Option Nat) (k : Nat) (eci : Bool) (micro : Option Bool) (boost : Bool) (f : String → Option Nat) (c : Model.Code)
    (h : Model.encode parts error version mode (some k) eci micro boost f = .ok c) : c.mask = k := by
  open Model Proofs.EncodeLevel in
  obtain ⟨-, -, r, -⟩ := Proofs.EndToEnd.encode_run _ _ _ _ _ _ _ _ _ _ h
  exact requested_mask_inv _ _ _ _ r.tail.chain.hm2

set_option linter.unusedVariables false in
/-- **C06 (automatic mask)**: without a requested mask, the mask of the returned symbol is the
    lowest-numbered pattern with the minimal ISO 7.8.3.1 penalty (Micro: maximal 7.8.3.2 score), where
    every candidate is evaluated as the specification says — data modules masked with the candidate,
    format information (with the dark module) and version information still light, computed by
    `Spec.bestMask` from the FINAL matrix alone -/
theorem encode_auto_mask_is_iso_optimum (parts : List Model.Part) (error : Option Nat) (version : Option Int)
    (mode : Option Nat) (eci : Bool) (micro : Option Bool) (boost : Bool) (f : String → Option Nat) (c : Model.Code)
    (hp : Props.EndToEnd.PartsOk parts)
    (h : Model.encode parts error version mode none eci micro boost f = .ok c) :
    (Spec.bestMask c.version c.matrix c.mask).1 = c.mask := by
  open Model Proofs.EncodeLevel in
  obtain ⟨-, -, r, hfit⟩ := Proofs.EndToEnd.encode_run _ _ _ _ _ _ _ _ _ _ h
  exact auto_mask_chain _ _ _ _ _ r.tail.chain r.tail.range.1 r.tail.range.2 r.tail.final_bin (r.tail.final_length hfit)

/-- **C07**: a single part without a requested mode is encoded in the first applicable mode of
    numeric, alphanumeric, kanji, byte -/
theorem encode_single_auto_mode (data : List Nat) (enc : String) (error : Option Nat) (version : Option Int)
    (mask : Option Nat) (eci : Bool) (micro : Option Bool) (boost : Bool) (f : String → Option Nat) (c : Model.Code)
    (h : Model.encode [{ data := data, mode := none, encoding := enc }] error version none mask eci micro boost f = .ok c) :
    c.segments.map (·.mode) = [Spec.autoMode data] := by
  open Model Proofs.EncodeLevel in
  obtain ⟨s, hs, hc⟩ := encode_single_inv _ _ _ _ _ _ _ _ _ _ _ _ h
  obtain ⟨s', hs', hm⟩ := Props.C07.makeSegment_auto data enc
  rw [hs] at hs'
  cases hs'
  rw [hc]
  simp [hm]

/-- **C07**: a requested mode is honoured exactly when the content is representable in it -/
theorem encode_single_requested_mode (data : List Nat) (m : Nat) (enc : String) (error : Option Nat) (version : Option Int)
    (mask : Option Nat) (eci : Bool) (micro : Option Bool) (boost : Bool) (f : String → Option Nat)
    (hm : m ∈ [1, 2, 4, 8, 13]) :
    (∀ c, Model.encode [{ data := data, mode := some m, encoding := enc }] error version (some m) mask eci micro boost f = .ok c →
        c.segments.map (·.mode) = [m] ∧ Spec.representable m data = true)
    ∧ (Spec.representable m data = false →
        Model.encode [{ data := data, mode := some m, encoding := enc }] error version (some m) mask eci micro boost f
          = .error Model.PyErr.valueError) := by
  open Model Proofs.EncodeLevel in
  obtain ⟨hyes, hno⟩ := Props.C07.makeSegment_requested data m enc hm
  constructor
  · intro c h
    obtain ⟨s, hs, hc⟩ := encode_single_inv _ _ _ _ _ _ _ _ _ _ _ _ h
    cases hr : Spec.representable m data with
    | false => rw [hno hr] at hs; cases hs
    | true =>
      obtain ⟨s', hs', hm'⟩ := hyes hr
      rw [hs] at hs'
      cases hs'
      rw [hc]
      simp [hm']
  · intro hr
    rw [Proofs.ArgsLemmas.encode_eq]
    cases hcombo : Model.Args.comboChecks version error (some m) eci micro with
    | error e => rw [Proofs.ArgsLemmas.comboChecks_err _ _ _ _ _ _ hcombo]; rfl
    | ok u =>
      unfold Proofs.ArgsLemmas.encTail
      rw [Proofs.Modes.prepareData_single, hno hr]
      rfl

/-! ### non-vacuity -/

/-- the hypotheses are satisfiable and the conclusions are computed to hold: "123" is accepted as an M1 symbol
    without level, in numeric mode, with the automatic mask the specification computes from the final matrix -/
example : (match Model.encode [⟨[49, 50, 51], none, "iso-8859-1"⟩] none none none none false none true (fun _ => none) with
    | .ok c => Spec.expectedVersion none false none (infos false c) false == some c.version && c.version == -3
        && Model.lvlKey c.error == Spec.expectedLevel c.version none true (infos false c) false
        && (Spec.bestMask c.version c.matrix c.mask).1 == c.mask
        && c.segments.map (·.mode) == [Spec.autoMode [49, 50, 51]]
    | .error _ => false) = true := by decide +kernel

end Props.EncodeLevel

#print axioms Props.EncodeLevel.encode_version_is_first_fit
#print axioms Props.EncodeLevel.encode_overflow_iff
#print axioms Props.EncodeLevel.encode_level_is_expected
#print axioms Props.EncodeLevel.encode_requested_mask
#print axioms Props.EncodeLevel.encode_auto_mask_is_iso_optimum
#print axioms Props.EncodeLevel.encode_single_auto_mode
#print axioms Props.EncodeLevel.encode_single_requested_mode
