/-
  Tie A — the segment list against the translation of the current source.

  `Gen/Funcs6.lean` is written by the AST translator (tools/pytolean.py, grammar: docs/TRANSLATOR.md) from the CURRENT
  source of the repository on every run: `Segments.add_segment(self, segment)` — a METHOD that updates `self` (`self.segments`,
  `self.bit_length`, `self.modes`) — as the function from the state triple (segments, bit_length, modes) and the segment to the
  new triple (spec key `self_state`; `del xs[-1]`, `{…}.get(key, default)` on a dict display, `%` by a computed divisor inside a
  chained `and`, construction of the `_Segment` tuple).  `Model.addSegment` is the hand model (a list of segments; the model
  derives the bit length and the modes from the list, `Model.bitLengthWithOverhead`).
  Translation validation: `Gen/Funcs6Check.lean` (imported here): 54 kernel-checked results of the real method.
-/
import Gen.Funcs6Check
import Proofs.TieA6Segments
import Proofs.Except
import Props.TieA3Kanji

namespace Props.TieA6
open Gen.Py Proofs.TieA Proofs.TieA2 Proofs.TieA6 Model

/-- (the segment tuple here is the one the `make_segment_tie…` theorems speak about) -/
theorem segT_eq_segI : segT = Props.TieA3.segI := rfl

/-- `Segments.add_segment`: for EVERY state that satisfies the class invariant (`bit_length` = Σ |bits|, `modes` = the modes of
    the segments) whose segments are images of model segments, and every segment, the translation returns — without raising —
    the state that belongs to the segments of `Model.addSegment` -/
theorem add_segment_tie (segs : List Segment) (s : Segment) (bitLength : Int) (modes : List Int)
    (hinv : StateInv (segs.map segT, bitLength, modes)) :
    Gen.Funcs6.add_segment (segs.map segT) bitLength modes (segT s) = .ok (stateOf ((Model.addSegment segs s).map segT)) := by
  rw [← addSegT_model]
  exact add_segment_inv (segs.map segT, bitLength, modes) (segT s) hinv

/-- … its three components spelled out: the segments, `bit_length` = the sum of the lengths of their bit strings,
    `modes` = their modes -/
theorem add_segment_tie_components (segs : List Segment) (s : Segment) (bitLength : Int) (modes : List Int)
    (hinv : StateInv (segs.map segT, bitLength, modes)) :
    Gen.Funcs6.add_segment (segs.map segT) bitLength modes (segT s)
      = .ok ((Model.addSegment segs s).map segT,
             (((Model.addSegment segs s).map (fun x => (x.bits.length : Int))).sum),
             (Model.addSegment segs s).map (fun x => (x.mode : Int))) := by
  rw [add_segment_tie segs s bitLength modes hinv]
  simp [stateOf, bitSum, segT, toI, Function.comp_def]

/-- the invariant is preserved — for ARBITRARY states of the translation (any integers as character counts / modes, not only
    images of model segments): from a state with `bit_length` = Σ |bits| and `modes` = map mode the method does not raise and
    the state it leaves satisfies the invariant again -/
theorem add_segment_invariant (st : State) (seg : Seg) (hinv : StateInv st) :
    ∃ st', Gen.Funcs6.add_segment st.1 st.2.1 st.2.2 seg = .ok st' ∧ StateInv st' ∧ st'.1 = addSegT st.1 seg :=
  ⟨stateOf (addSegT st.1 seg), add_segment_inv st seg hinv, stateInv_stateOf _, rfl⟩

-- the invariant is needed: with `modes` empty next to a non-empty list of segments the real method (and the translation)
-- raises IndexError at `del self.modes[-1]` (a sample of `Gen/Funcs6Check.lean`, repeated here)
set_option synthInstance.maxSize 512 in
example : Gen.Funcs6.add_segment [([0, 1, 1, 0, 0, 0, 0, 1], 1, 4, some "iso-8859-1")] 0 []
    ([0, 1, 1, 0, 0, 0, 0, 1], 1, 4, some "iso-8859-1") = .error .indexError := rfl

/-! The loop of `prepare_data`.  First the loop over `add_segment` alone, for segments that are given (`add_segments_fold_tie`,
    `prepare_data_segments_fold`); then, at the end of the file, with the translated `make_segment` in the loop body
    (`prepare_data_tie_partial`, which covers parts that raise as well). -/

/-- `prepare_data`'s loop over `add_segment`, from the state of `Segments.__init__` (`[]`, 0, `[]`) -/
def addSegments (ss : List Seg) : M State :=
  Gen.Py.foldlM ss (([], 0, []) : State) (fun st seg => Gen.Funcs6.add_segment st.1 st.2.1 st.2.2 seg)

/-- the loop over `add_segment` from the state of any accumulated list of model segments -/
theorem foldlM_add_segment (ss : List Segment) (acc : List Segment) :
    Gen.Py.foldlM (ss.map segT) (stateOf (acc.map segT)) (fun st seg => Gen.Funcs6.add_segment st.1 st.2.1 st.2.2 seg)
      = .ok (stateOf ((ss.foldl Model.addSegment acc).map segT)) :=
  (Yields.list_loop (P := fun _ => True) (fun acc => stateOf (acc.map segT)) Model.addSegment segT ss trivial
    fun s _ acc _ => ⟨add_segment_tie acc s _ _ (stateInv_stateOf _), trivial⟩).eq

/-- folding `add_segment` over a list of segments from the empty `Segments` object: the segments are those of the model's
    fold, `bit_length` and `modes` belong to them; nothing is raised -/
theorem add_segments_fold_tie (ss : List Segment) :
    addSegments (ss.map segT) = .ok (stateOf ((ss.foldl Model.addSegment []).map segT)) :=
  foldlM_add_segment ss []

/-- the model's `prepareData` is that fold when every part yields a segment -/
theorem prepareData_eq_fold (parts : List Part) (ss : List Segment)
    (h : parts.mapM (fun p => Model.makeSegment p.data p.mode p.encoding) = .ok ss) :
    Model.prepareData parts = .ok (ss.foldl Model.addSegment []) := by
  rw [Proofs.Modes.prepareData_eq, h]
  rfl

/-- when every part yields a segment (`hseg`), folding the regenerated `add_segment` over these segments from the empty state
    gives the state that belongs to `Model.prepareData parts` (the version with the regenerated `make_segment` in the loop, and
    with parts that raise, is `prepare_data_tie_partial` below) -/
theorem prepare_data_segments_fold (parts : List Part) (ss : List Segment)
    (hseg : parts.mapM (fun p => Model.makeSegment p.data p.mode p.encoding) = .ok ss) :
    ∃ segs, Model.prepareData parts = .ok segs ∧ addSegments (ss.map segT) = .ok (stateOf (segs.map segT)) :=
  ⟨_, prepareData_eq_fold parts ss hseg, add_segments_fold_tie ss⟩

/-- `prepare_data`'s loop body as the translated callees compose it: `add_segment(make_segment(seg_content, seg_mode,
    seg_encoding))` for every part, from the state of `Segments.__init__`; the opaque reads of `make_segment` are fed
    per part as there: `data_to_bytes(…)` = (the bytes of the part, their number, the codec name), `find_mode(…)` = the model's
    `findMode`, the builtin `int` = `intOf` -/
def prepareDataT (raw : Part → String) (enc : Part → Option String) (intOf : List Int → M Int) (parts : List Part) (init : State) : M State :=
  Gen.Py.foldlM parts init (fun st p =>
    Gen.Py.bind (Gen.Funcs3.make_segment (raw p) (p.mode.map Int.ofNat) (enc p) (.ok (toI p.data, (p.data.length : Int), p.encoding))
        (findMode p.data : Int) intOf)
      (fun seg => Gen.Funcs6.add_segment st.1 st.2.1 st.2.2 seg))

/-- the fold, from any accumulated list of segments, for parts on each of which `make_segment` is tied (`htie`): nothing else
    about the parts is used -/
theorem prepareDataT_acc (raw : Part → String) (enc : Part → Option String) (intOf : List Int → M Int) (parts : List Part)
    (htie : ∀ p ∈ parts,
      toR (Gen.Funcs3.make_segment (raw p) (p.mode.map Int.ofNat) (enc p) (.ok (toI p.data, (p.data.length : Int), p.encoding))
          (findMode p.data : Int) intOf)
        = (Model.makeSegment p.data p.mode p.encoding).map Props.TieA3.segI)
    (acc : List Segment) :
    toR (prepareDataT raw enc intOf parts (stateOf (acc.map segT)))
      = (parts.foldlM (fun segs p => do
          let s ← Model.makeSegment p.data p.mode p.encoding
          pure (Model.addSegment segs s)) acc : R (List Segment)).map (fun segs => stateOf (segs.map segT)) := by
  induction parts generalizing acc with
  | nil => rfl
  | cons p rest ih =>
    have hpy : prepareDataT raw enc intOf (p :: rest) (stateOf (acc.map segT))
        = Gen.Py.bind (Gen.Funcs3.make_segment (raw p) (p.mode.map Int.ofNat) (enc p) (.ok (toI p.data, (p.data.length : Int), p.encoding))
            (findMode p.data : Int) intOf)
          (fun seg => Gen.Py.bind (Gen.Funcs6.add_segment (acc.map segT) (stateOf (acc.map segT)).2.1 (stateOf (acc.map segT)).2.2 seg)
            (fun st => prepareDataT raw enc intOf rest st)) :=
      Gen.Py.bind_assoc _ _ _
    rw [hpy, List.foldlM_cons, LawfulMonad.bind_assoc]
    refine toR_bind_map (htie p (List.mem_cons_self ..)) (fun sg _ => ?_)
    have h := add_segment_tie acc sg (stateOf (acc.map segT)).2.1 (stateOf (acc.map segT)).2.2 (stateInv_stateOf _)
    rw [show Props.TieA3.segI sg = segT sg from rfl, h, Gen.Py.bind_ok, pure_bind]
    exact ih (fun q hq => htie q (List.mem_cons_of_mem _ hq)) (Model.addSegment acc sg)

/-- `prepare_data`, list branch, as the fold of the REGENERATED `make_segment` and `add_segment` over
    already-split parts (bytes < 256, a documented mode request or none, the builtin `int` reads digit strings): the final state of
    the `Segments` object — or the exception a part raises — is that of `Model.prepareData`; `bit_length` and `modes` are those that
    belong to the model's segments.
    MISSING (hence the fold is stated in Lean, `prepareDataT`, and not regenerated): the statements of `prepare_data` around the two
    calls — `Segments()`, the bound method, `isinstance(content, (str, bytes, int))`, the unpacking of `item` with `item[1] or mode`. -/
theorem prepare_data_tie_partial (raw : Part → String) (enc : Part → Option String) (intOf : List Int → M Int)
    (hint : ∀ c : List Nat, c ≠ [] → (∀ b ∈ c, 48 ≤ b ∧ b ≤ 57) → intOf (toI c) = .ok (Int.ofNat (digitsVal c)))
    (parts : List Part)
    (hparts : ∀ p ∈ parts, (∀ b ∈ p.data, b < 256) ∧
      (p.mode = none ∨ p.mode = some 1 ∨ p.mode = some 2 ∨ p.mode = some 4 ∨ p.mode = some 8 ∨ p.mode = some 13)) :
    toR (prepareDataT raw enc intOf parts ([], 0, []))
      = (Model.prepareData parts).map (fun segs => stateOf (segs.map segT)) :=
  prepareDataT_acc raw enc intOf parts
    (fun p hp => Props.TieA3.make_segment_tie_modes (raw p) p.data p.mode (enc p) p.encoding intOf (hparts p hp).1 hint (hparts p hp).2) []

end Props.TieA6
