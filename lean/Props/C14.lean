/-
  C14 — arguments are honoured or refused with ValueError; nothing else escapes.
  The theorems speak about the model (Model/Args.lean composed with Model.encode) over the tables regenerated from the
  repository; the implementation is tied to the model by the correspondence run of harness/p_args.py and judged directly
  by Spec/Args.lean.
-/
import Model.Args
import Proofs.ArgsLemmas
import Proofs.SegmentErr
import Proofs.EncodeStages

namespace Props.C14
open Model Model.Args Model.Cli Gen Proofs.ArgsLemmas Proofs.EncodeStages

/-- outcomes the property allows: the ValueError family and LookupError -/
def isRefusal : PyErr → Bool
  | .valueError | .dataOverflow | .unicodeError | .lookupError => true
  | _ => false

/-- outcomes the property forbids -/
def isCrash : PyErr → Bool
  | .indexError | .keyError | .typeError | .assertionError => true
  | _ => false

/-! ## spelling invariance -/

/-- error levels in any letter case (unbounded over case patterns) -/
theorem error_level_case (s s' : String) (h : upper s'.toList = upper s.toList) :
    normalizeErrorLevel (.str s') = normalizeErrorLevel (.str s) := by
  unfold normalizeErrorLevel
  dsimp only
  rw [h]

/-- mode names in any letter case (unbounded over case patterns) -/
theorem mode_case (s s' : String) (h : lower s'.toList = lower s.toList) :
    normalizeMode (.str s') = normalizeMode (.str s) := by
  unfold normalizeMode
  dsimp only [asInt, Option.bind]
  rw [h]

/-- every case pattern of a Micro QR version name ("m1", "M1", …) -/
theorem version_name_case (s : Str) (d : Char) (hd : d = '1' ∨ d = '2' ∨ d = '3' ∨ d = '4') (h : upper s = ['M', d]) :
    normalizeVersion (.str (String.ofList s)) = normalizeVersion (.str (String.ofList ['M', d])) := by
  obtain ⟨c1, _, rfl, h1, c2, rfl, h2⟩ : ∃ c1 t, s = c1 :: t ∧ upperC c1 = 'M' ∧ ∃ c2, t = [c2] ∧ upperC c2 = d := by
    simpa [upper, List.map_eq_cons_iff] using h
  obtain rfl : c2 = d := upperC_digit c2 d (by rcases hd with h | h | h | h <;> subst h <;> decide) h2
  rcases upperC_eq_M c1 h1 with h1 | h1 <;> subst h1 <;> rcases hd with h | h | h | h <;> subst h <;> decide +kernel

/-- a version given as a numeric string is the version given as that integer -/
theorem version_numeric_string (s : String) (i : Int) (h : intOfStr s.toList = some i) :
    normalizeVersion (.str s) = normalizeVersion (.int i) := by
  unfold normalizeVersion pyInt
  dsimp only
  rw [h]

/-- … in particular "1" … "40" -/
theorem version_decimal : ∀ n : Nat, n < 41 → 1 ≤ n →
    normalizeVersion (.str (toString n)) = .ok (some (n : Int)) := by decide +kernel

/-- a mask given as a numeric string is the mask given as that integer -/
theorem mask_numeric_string (s : String) (i : Int) (h : intOfStr s.toList = some i) :
    maskRequest (.str s) = maskRequest (.int i) := by
  unfold maskRequest pyInt
  dsimp only
  rw [h]

theorem mask_decimal : ∀ n : Nat, n < 8 → maskRequest (.str (toString n)) = .value (n : Int) := by decide +kernel

/-- the public functions depend on `version`, `error`, `mode`, `mask` only through their
    normalised values: any spelling that normalises alike (by the lemmas above: names and levels in any letter case,
    numeric strings) gives the same outcome — the same symbol or the same refusal -/
theorem spelling_invariance (c : Call) (version' error' mode' mask' : PyV)
    (hv : normalizeVersion version' = normalizeVersion c.version)
    (he : normalizeErrorLevel error' = normalizeErrorLevel c.error)
    (hm : normalizeMode mode' = normalizeMode c.mode)
    (hk : maskRequest mask' = maskRequest c.mask) :
    api { c with version := version', error := error', mode := mode', mask := mask' } = api c := by
  unfold api apiEncode apiSequence normalizeMask encodeLookup
  dsimp only
  rw [hv, he, hm, hk]

/-! ## excluded combinations are refused -/

/-- version outside 1 … 40 -/
theorem version_out_of_range (i : Int) (h : i < 1 ∨ 40 < i) : normalizeVersion (.int i) = .error .valueError := by
  simp only [normalizeVersion, pyInt]
  by_cases h1 : i < 1
  · simp [h1, Proofs.Except.throw_eq_error]
  · have h3 : ¬ (i < 41) := by omega
    have h4 : i ∉ Gen.MICRO_VERSIONS := by simp [Gen.MICRO_VERSIONS]; omega
    simp [h1, h3, h4, Proofs.Except.throw_eq_error]

/-- a version that is neither a number nor a Micro QR name -/
theorem version_unknown_name (s : String) (h1 : intOfStr s.toList = none)
    (h2 : assocStr Gen.MICRO_VERSION_MAPPING (upper s.toList) = none) :
    normalizeVersion (.str s) = .error .valueError := by
  simp [normalizeVersion, pyInt, h1, h2, Proofs.Except.throw_eq_error]

/-- a refused version is refused by every public function -/
theorem api_refuses_version (c : Call) (h : normalizeVersion c.version = .error .valueError) :
    api c = .error .valueError := by
  unfold api apiEncode apiSequence
  rw [h]
  split <;> rfl

def isMicroVersion (v : Option Int) : Bool :=
  match v with | some x => Gen.MICRO_VERSIONS.contains x | none => false

/-- level H with Micro QR (micro=True or a Micro version) -/
theorem combo_H_micro (v : Option Int) (m : Option Nat) (eci : Bool) (micro : Option Bool)
    (hmicro : micro = some true ∨ isMicroVersion v = true) :
    comboChecks v (some Gen.ERROR_LEVEL_H) m eci micro = .error .valueError :=
  comboChecks_refuses fun h => by
    have := (comboChecks_ok_iff.1 h).levelH
    rcases hmicro with rfl | hv
    · simp at this
    · simp [show isMicroVer v = true from hv] at this

/-- ECI with Micro QR -/
theorem combo_eci_micro (v : Option Int) (er m : Option Nat) (micro : Option Bool)
    (hmicro : micro = some true ∨ isMicroVersion v = true) :
    comboChecks v er m true micro = .error .valueError :=
  comboChecks_refuses fun h => by
    have := (comboChecks_ok_iff.1 h).eciMicro
    rcases hmicro with rfl | hv
    · simp at this
    · simp [show isMicroVer v = true from hv] at this

/-- a mode that the requested version does not offer -/
theorem combo_mode_version (x : Int) (md : Nat) (er : Option Nat) (eci : Bool) (micro : Option Bool)
    (hs : isModeSupported md x ≠ some true) :
    comboChecks (some x) er (some md) eci micro = .error .valueError :=
  comboChecks_refuses fun h => hs ((comboChecks_ok_iff.1 h).modeSupported md x rfl rfl)

/-- `micro=False` with a Micro QR version, `micro=True` with a QR Code version -/
theorem combo_micro_conflict (x : Int) (er m : Option Nat) (eci : Bool) (micro : Option Bool)
    (hc : (micro = some false ∧ Gen.MICRO_VERSIONS.contains x = true) ∨ (micro = some true ∧ Gen.MICRO_VERSIONS.contains x = false)) :
    comboChecks (some x) er m eci micro = .error .valueError :=
  comboChecks_refuses fun h => by
    have ok := comboChecks_ok_iff.1 h
    rcases hc with ⟨rfl, hx⟩ | ⟨rfl, hx⟩
    · have h1 := ok.microFalse
      rw [show isMicroVer (some x) = true from hx] at h1; cases h1
    · have h2 := ok.microTrue
      rw [show isMicroVer (some x) = false from hx] at h2; cases h2

/-- which modes the Micro QR versions offer, on the regenerated tables: M1 numeric; M2 + alphanumeric; M3, M4 + byte,
    kanji; hanzi in none of them; every QR Code version offers all five -/
theorem mode_table :
    (Gen.MICRO_VERSIONS.all fun x => isModeSupported Gen.MODE_HANZI x == some false) = true
    ∧ isModeSupported Gen.MODE_ALPHANUMERIC Gen.VERSION_M1 = some false
    ∧ isModeSupported Gen.MODE_BYTE Gen.VERSION_M1 = some false ∧ isModeSupported Gen.MODE_BYTE Gen.VERSION_M2 = some false
    ∧ isModeSupported Gen.MODE_KANJI Gen.VERSION_M1 = some false ∧ isModeSupported Gen.MODE_KANJI Gen.VERSION_M2 = some false
    ∧ ([Gen.MODE_NUMERIC, Gen.MODE_ALPHANUMERIC, Gen.MODE_BYTE, Gen.MODE_KANJI, Gen.MODE_HANZI].all fun md =>
         isModeSupported md 1 == some true) = true := by decide +kernel

/-- make, make_qr, make_micro: level H, ECI or a mode the version does not offer (hanzi in
    particular) with Micro QR, and contradictory `micro` / `version`, are refused with ValueError -/
theorem excluded_refused (c : Call) (micro : Option Bool) (eci : Bool) (v : Option Int) (er m : Option Nat)
    (hv : normalizeVersion c.version = .ok v) (he : normalizeErrorLevel c.error = .ok er) (hm : normalizeMode c.mode = .ok m)
    (hex : (er = some Gen.ERROR_LEVEL_H ∧ (micro = some true ∨ isMicroVersion v = true))
         ∨ (eci = true ∧ (micro = some true ∨ isMicroVersion v = true))
         ∨ (∃ x md, v = some x ∧ m = some md ∧ isModeSupported md x ≠ some true)
         ∨ (∃ x, v = some x ∧ ((micro = some false ∧ Gen.MICRO_VERSIONS.contains x = true)
                               ∨ (micro = some true ∧ Gen.MICRO_VERSIONS.contains x = false)))) :
    apiEncode c micro eci = .error .valueError := by
  have hcombo : comboChecks v er m eci micro = .error .valueError := by
    rcases hex with ⟨rfl, h⟩ | ⟨rfl, h⟩ | ⟨x, md, rfl, rfl, h⟩ | ⟨x, rfl, h⟩
    · exact combo_H_micro _ _ _ _ h
    · exact combo_eci_micro _ _ _ _ h
    · exact combo_mode_version _ _ _ _ _ h
    · exact combo_micro_conflict _ _ _ _ _ h
  unfold apiEncode
  rw [hv, he, hm]
  show (comboChecks v er m eci micro >>= _) = _
  rw [hcombo]
  rfl

/-- **mask out of range** — an integer mask (or numeric string) below 0 or above 7 never yields a symbol -/
theorem mask_out_of_range_refused (c : Call) (micro : Option Bool) (eci : Bool) (i : Int)
    (hk : maskRequest c.mask = .value i) (hr : i < 0 ∨ 8 ≤ i) (o : Outcome) :
    apiEncode c micro eci ≠ .ok o := by
  intro h
  unfold apiEncode at h
  simp only [Proofs.Except.bind_ok, hk] at h
  obtain ⟨v, -, er, -, m, -, -, -, parts, -, code, hc, -⟩ := h
  have hc' := encodeLookup_ok _ _ _ _ _ _ _ _ _ hc
  refine encode_bad_mask _ _ _ _ _ _ _ _ _ ?_ _ hc'
  by_cases h0 : 0 ≤ i
  · simp only [h0, if_true]; omega
  · simp only [h0, if_false, badMask]; omega

/-- Structured Append with a Micro QR version -/
theorem sequence_refuses_micro_version (c : Call) (x : Int) (hv : normalizeVersion c.version = .ok (some x)) (hx : x < 1) :
    apiSequence c = .error .valueError := by
  simp [apiSequence, sequenceVersionCheck, hv, hx, bind, Except.bind, Proofs.Except.throw_eq_error]

/-- neither version nor symbol count -/
theorem sequence_requires_version_or_count (c : Call) (hv : normalizeVersion c.version = .ok none) (hc : c.symbolCount = .none) :
    apiSequence c = .error .valueError := by
  simp [apiSequence, sequenceVersionCheck, hv, hc, bind, Except.bind, Proofs.Except.throw_eq_error]

/-- **symbol_count outside 1 … 16** -/
theorem sequence_refuses_symbol_count (c : Call) (i : Int) (hc : c.symbolCount = .int i) (hr : i < 1 ∨ 16 < i) :
    apiSequence c = .error .valueError := by
  have hs : symbolCountCheck (.int i) = .error .valueError := by
    have h1 : ¬ (1 ≤ i ∧ i ≤ 16) := by omega
    simp [symbolCountCheck, asInt, h1, Proofs.Except.throw_eq_error]
  unfold apiSequence
  refine (normalizeVersion_err _).bind_eq_error fun v => (sequenceVersionCheck_err _ _).bind_eq_error fun _ => ?_
  rw [hc, hs]
  rfl

/-- the `assert not (eci and micro)` of `find_version` is unreachable from the public functions: the only
    AssertionError of the model is guarded by a check that refuses the same condition with ValueError first -/
theorem assert_unreachable (parts : List Part) (er : Option Nat) (v : Option Int) (m mask : Option Nat)
    (eci : Bool) (micro : Option Bool) (boost : Bool) (f : String → Option Nat)
    (h : (eci && micro == some true) = true) :
    encode parts er v m mask eci micro boost f = .error .valueError := by
  obtain ⟨rfl, h2⟩ : eci = true ∧ micro = some true := by simpa using h
  rw [encode_eq, combo_eci_micro _ _ _ _ (Or.inl h2)]
  rfl

/-- conversely, `find_version` reaches its assertion under that condition only -/
theorem findVersion_assert (segs : List Segment) (er : Option Nat) (eci : Bool) (micro : Option Bool)
    (h : (eci && micro == some true) = false) : findVersion segs er eci micro ≠ .error .assertionError := by
  intro hf
  rcases findVersion_err _ _ _ _ _ hf with h1 | h1 | ⟨-, h2⟩
  · cases h1
  · cases h1
  · rw [h] at h2; cases h2

/-! ## nothing but refusals escapes

`Fits segs er eci v`, `MaskOk v mask` (Proofs/EncodeStages): the segments fit version `v` at the level the encoder
starts from; a requested mask is one of the patterns of `v`.  `badMask` (Model/Args): a mask request `encode` refuses. -/

/-- the documented domain, as far as crashes are concerned: the codec service converts the content
    (str / bytes / int) or refuses it with UnicodeError / LookupError; `mask` is None or something `int()` converts or
    rejects with ValueError (int, bool, float, str); `symbol_count` is None or an integer.  (Decidable for every
    concrete call.) -/
def Documented (c : Call) : Prop :=
  maskRequest c.mask ≠ .typeError
  ∧ (c.symbolCount = .none ∨ (asInt c.symbolCount).isSome = true)
  ∧ (∀ e, c.parts = .error e → isCrash e = false)

/-- `_encode` (`Model.encodeCore`: error level boosting, bit stream, padding, Reed–Solomon blocks, matrix, mask, format /
    version information) on segments that were built by `prepare_data`, fit into the version (`Fits`: the capacity of the
    version at the starting level is defined and not exceeded), a mask in range and a valid level ends in a symbol or in a
    refusal (`encodeCore_crash_free`, Props/C14NoCrash.lean).  Everything before `_encode` — normalisation, combination
    checks, `prepare_data`, `find_version`, the capacity check of a requested version, `normalize_mask` — raises refusals
    only (Proofs/ApiRaises.lean). -/
def EncodeCoreCrashFree : Prop :=
  ∀ (ps : List Part) segs er v mask eci boost f e, prepareData ps = .ok segs → Fits segs er eci v → MaskOk v mask →
    (∀ x, er = some x → x ∈ Gen.ERROR_MAPPING.map (·.2)) →
    encodeCore segs (defaultLevel er v) v mask eci boost f = .error e → isCrash e = false

/-- C14 for the public functions (`api`: make / make_qr / make_micro / make_sequence): a documented call does not end in
    IndexError, KeyError, TypeError or AssertionError -/
def NoCrash : Prop := ∀ c : Call, Documented c → ∀ e, api c = .error e → isCrash e = false

/-! ## non-vacuity -/

example : normalizeVersion (.str "m3") = .ok (some (-1)) ∧ normalizeVersion (.str "M3") = .ok (some (-1))
    ∧ normalizeVersion (.str "07") = .ok (some 7) ∧ normalizeVersion (.int 41) = .error .valueError
    ∧ normalizeVersion (.str "M5") = .error .valueError ∧ normalizeVersion (.bool true) = .ok (some 1) := by decide +kernel
example : normalizeErrorLevel (.str "h") = .ok (some Gen.ERROR_LEVEL_H) ∧ normalizeMode (.str "KaNjI") = .ok (some Gen.MODE_KANJI)
    ∧ maskRequest (.str "3") = .value 3 ∧ maskRequest (.str "a") = .valueError ∧ maskRequest (.other "[1]") = .typeError := by
  decide +kernel
/-- a call in the documented domain that is refused, and one that is excluded -/
example : Documented { fn := .makeMicro, parts := .ok [{ data := [49], mode := none, encoding := "iso-8859-1" }], error := .str "h" } := by
  refine ⟨by decide, Or.inl rfl, ?_⟩
  intro e h; cases h
example : apiEncode { fn := .makeMicro, parts := .ok [], error := .str "h" } (some true) false = .error .valueError :=
  excluded_refused _ _ _ none (some Gen.ERROR_LEVEL_H) none (by decide +kernel) (by decide +kernel) (by decide +kernel)
    (Or.inl ⟨rfl, Or.inl rfl⟩)

end Props.C14
