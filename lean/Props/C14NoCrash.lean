/-
  C14 (completion of `no_crash`) — `_encode` (Model.encodeCore) never ends in IndexError / KeyError /
  TypeError / AssertionError on segments that fit (`encodeCore_crash_free`, `encodeCore_value_error_only`), and the full
  statement `NoCrash`: `Proofs.ApiRaises.api_raises_only` at the class "no crash", which reaches `_encode` through the
  same lemma `Proofs.EncodeCoreTotal.encodeCore_err` and not through the two statements here.
-/
import Props.C14
import Proofs.ApiRaises

namespace Props.C14
open Model Proofs.ArgsLemmas Proofs.EncodeStages
open Proofs.Except (RaisesOnly)

/-- `_encode` on fitting segments, a mask in range and a valid level ends in a symbol or in a refusal
    (the only refusal possible is ValueError, see below) -/
theorem encodeCore_crash_free : EncodeCoreCrashFree := by
  intro ps segs er v mask eci boost f e _ hfit hmask _ h
  rw [Proofs.EncodeCoreTotal.encodeCore_err segs er v mask eci boost f hfit hmask e h]
  rfl

/-- sharper form: the only error `_encode` can end in on such input is ValueError — an unknown ECI assignment
    number in `write_segment`; the two other ValueErrors of the model (`levels.index(error)` in `boost_error_level`
    for a level the version does not know, bits left over in `add_codewords`) are not excluded here, they are
    refusals, not crashes.  Neither the origin of the segments (`prepareData`) nor the validity of the level
    constant is needed: `Fits` alone gives the version range, the character count indicators and the table rows. -/
theorem encodeCore_value_error_only (segs : List Segment) (er : Option Nat) (v : Int) (mask : Option Nat)
    (eci boost : Bool) (f : String → Option Nat) (e : PyErr) (hfit : Fits segs er eci v) (hmask : MaskOk v mask)
    (h : encodeCore segs (defaultLevel er v) v mask eci boost f = .error e) : e = .valueError :=
  Proofs.EncodeCoreTotal.encodeCore_err segs er v mask eci boost f hfit hmask e h

/-- `api_raises_only` at the smallest class: with `mask` and `symbol_count` of the documented types the public functions
    raise ValueError, DataOverflowError, LookupError (ECI with a codec Python does not know), or what the codec service
    raised for the content — nothing else -/
example (c : Args.Call) (hmask : Args.maskRequest c.mask ≠ .typeError)
    (hcount : c.symbolCount = .none ∨ (Args.asInt c.symbolCount).isSome = true) :
    RaisesOnly (fun e => e = .valueError ∨ e = .dataOverflow ∨ e = .lookupError ∨ c.parts = .error e) (Args.api c) :=
  Proofs.ApiRaises.api_raises_only (.inl rfl) (.inr (.inl rfl)) (.inr (.inr (.inl rfl))) c hmask hcount fun _ he => .inr (.inr (.inr he))

/-- **no crash**: on the documented argument domain the model of make / make_qr / make_micro /
    make_sequence never ends in IndexError, KeyError, TypeError or AssertionError -/
theorem no_crash : NoCrash := fun c hd =>
  Proofs.ApiRaises.api_raises_only (P := (isCrash · = false)) rfl rfl rfl c hd.1 hd.2.1 hd.2.2

end Props.C14

#print axioms Props.C14.encodeCore_crash_free
#print axioms Props.C14.encodeCore_value_error_only
#print axioms Props.C14.no_crash
