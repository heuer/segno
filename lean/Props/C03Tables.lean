/-
  C03 — the tables the Reed-Solomon encoder computes with are the ISO ones.
  `Gen.*` = regenerated from segno/consts.py on every run.
-/
import Spec.GF
import Spec.Tables
import Spec.Decode
import Gen.Tables

namespace Props.C03

/-- powers of α: 1, α, α², … (n entries) -/
def alphaPowers : Nat → Nat → List Nat
  | 0, _ => []
  | n + 1, a => a :: alphaPowers n (Spec.xtime a)

/-- `GALIOS_EXP` (510 entries) is α⁰, α¹, …, α⁵⁰⁹ in GF(2⁸)/0x11d -/
theorem exp_table_is_alpha_powers : Gen.GALIOS_EXP = alphaPowers 510 1 := by decide +kernel

/-- reading a list through `getD` at the indices 0, 1, … in turn is one pass over it -/
theorem all_range_getD {α : Type} (d : α) (l : List α) (s : Nat) (p : Nat → α → Bool) :
    (List.range l.length).all (fun k => p (k + s) (l.getD k d)) = (l.zipIdx s).all (fun x => p x.2 x.1) := by
  induction l generalizing s with
  | nil => rfl
  | cons a l ih =>
    rw [List.length_cons, List.range_succ_eq_map, List.all_cons, List.all_map, List.zipIdx_cons,
      List.all_cons, ← ih (s + 1)]
    simp [Function.comp_def, Nat.add_assoc, Nat.add_comm 1 s]

/-- `GALIOS_LOG` inverts it on 1..255, with logarithms < 255 -/
theorem log_table_is_inverse :
    (List.range 255).all (fun k => let a := k + 1
      Gen.GALIOS_LOG.getD a 999 < 255 && Gen.GALIOS_EXP.getD (Gen.GALIOS_LOG.getD a 999) 0 == a) = true
    ∧ Gen.GALIOS_LOG.length = 256 := by
  -- evaluated as one pass over the table: `getD (k + 1)` for each k would walk it 255 times
  have h : (Gen.GALIOS_LOG.tail.zipIdx 1).all
        (fun x => decide (x.1 < 255) && Gen.GALIOS_EXP.getD x.1 0 == x.2) = true
      ∧ Gen.GALIOS_LOG.length = 256 := by decide +kernel
  refine ⟨?_, h.2⟩
  have hl : Gen.GALIOS_LOG.tail.length = 255 := by rw [List.length_tail, h.2]
  rw [← h.1, ← all_range_getD 999 _ 1 (fun a v => decide (v < 255) && Gen.GALIOS_EXP.getD v 0 == a), hl]
  simp only [List.getD_eq_getElem?_getD, List.getElem?_tail]

/-- every generator polynomial of `GEN_POLY` (stored as logarithms, leading coefficient omitted) is
    ∏_{i<n} (x − αⁱ) -/
theorem gen_poly_is_product_of_roots :
    Gen.GEN_POLY.all (fun (n, g) => g.map (fun l => Gen.GALIOS_EXP.getD l 0) == (Spec.genPoly n).tail
      && g.all (· < 255) && g.length == n) = true := by decide +kernel

/-- every EC length occurring in Table 9 has a generator polynomial -/
theorem gen_poly_covers_table9 :
    Gen.ECC.all (fun e => e.2.2.all (fun b => (Gen.GEN_POLY.find? (·.1 == b.2.1 - b.2.2)).isSome)) = true := by
  decide +kernel

/-- Table 9 as segno holds it = frozen ISO copy -/
theorem ecc_table_is_iso : Gen.ECC = Spec.eccTable := by decide +kernel

/-- Table 7 as segno holds it = frozen ISO copy -/
theorem capacity_table_is_iso : Gen.SYMBOL_CAPACITY = Spec.capacityTable := by decide +kernel

/-- Table 7 is derived from Table 9: capacity = 8 · Σ data codewords (− 4 bits in M1/M3) -/
theorem capacity_is_8_times_data :
    Spec.eccTable.all (fun e =>
      Spec.capacityOf e.1 e.2.1 ==
        some (8 * (e.2.2.map (fun b => b.1 * b.2.2)).foldl (· + ·) 0 - (if Spec.fourBitFinal e.1 then 4 else 0))) = true
    ∧ Spec.eccTable.length = Spec.capacityTable.length := by decide +kernel

/-- structure of Table 9: at most two groups, the second has one more data codeword and the same
    number of EC codewords; every block has at most 255 codewords and at least 2 EC codewords -/
theorem table9_group_structure :
    Spec.eccTable.all (fun e =>
      match e.2.2 with
      | [(c, t, d)] => c ≥ 1 && d < t && t ≤ 255 && t - d ≥ 2
      | [(c1, t1, d1), (c2, t2, d2)] =>
          c1 ≥ 1 && c2 ≥ 1 && d1 < t1 && t2 ≤ 255 && d2 == d1 + 1 && t2 == t1 + 1 && t1 - d1 ≥ 2
      | _ => false) = true := by decide +kernel

end Props.C03
