/-
  C10 — vector outputs (SVG, EPS, PDF, LaTeX/PGF) paint exactly the dark modules.
  `Model.Lines` is the hand-written model of `utils.matrix_to_lines` and of the path emitters, tied to the code by the
  correspondence run of harness/p_vector.py; `Spec.Vector` is the judge's reference semantics (coverage counting, relative
  path commands, affine maps over exact rationals).
  Vertical coordinates are doubled throughout (`y2`, step `inc2` = 2·incby), so that the centre line y = i + ½ of a row
  is an integer; `lb` is `last_bit`, the module before the current one (1 at the start of the first row, 0 at the
  start of every other); `rowsGo x lb m` are the runs `(x1, x2)` of every row, `attach` gives group i its y, `dark01`
  is 1 for a dark and 0 for a light module (all three in Proofs/Lines.lean).
-/
import Proofs.Lines

namespace Props.C10
open Model.Lines Spec.Vector Proofs.Lines

/-- For every matrix of any shape and any cell values, every start column, every y / incby:
    the lines of `matrix_to_lines` are, row by row, a group of runs placed at y = y0 + i·incby, and the
    expansion of the runs of row i back to cells is exactly that row: every dark cell is covered exactly
    once, no light cell, nothing left or right of the row.  (`coverAt` is the judge's own counting function.)
    The `last_bit` carry-over between rows and its initial value 1 do not matter for this. -/
theorem runs_cover (m : List (List Nat)) (x : Nat) (y2 inc2 : Int) :
    ∃ rows : List (List (Nat × Nat)),
      rows.length = m.length
      ∧ matrixToLines m x y2 inc2 = attach inc2 (y2 - inc2) rows
      ∧ ∀ (i : Nat) (h : i < m.length) (h' : i < rows.length),
          (List.range (m[i]).length).map (fun k => coverAt (rows[i]) (x + k)) = (m[i]).map dark01
          ∧ ∀ j, (j < x ∨ x + (m[i]).length ≤ j) → coverAt (rows[i]) j = 0 :=
  ⟨rowsGo x 1 m, rowsGo_length x m 1, linesGo_rows x inc2 m (y2 - inc2) 1, rowsGo_row x m 1⟩

example : matrixToLines [[1, 0, 1], [0, 0, 0], [0, 1, 1]] 2 5 2 = [(2, 5, 3), (4, 5, 5), (3, 9, 5)] := by decide
/-- the first-row quirk (`last_bit = 0x1` initially): a light first module yields an empty run, which covers nothing -/
example : matrixToLines [[0, 1]] 0 0 2 = [(0, 0, 0), (1, 0, 2)] := by decide

/-- For a size × size matrix, every border and every row i, the coverage counts that the
    judge's own `rowCover` computes from the model's runs of that row (start column = border) equal the page row
    `pageRow` the judge expects (quiet zone, then 1 for every dark / 0 for every light module, then quiet zone) — i.e.
    the comparison `got == want` of `Spec.Vector.checkCoverage` succeeds on the model, row by row. -/
theorem raster_row (m : List (List Nat)) (size b lb i : Nat) (hi : i < m.length) (hlen : (m[i]).length = size) (his : i < size) :
    rowCover (size + 2 * b) (rowRuns b lb (m[i])).1 = pageRow m size b (b + i) := by
  have e : size + 2 * b = b + (m[i]).length + b := by omega
  rw [e, rowCover_runs, pageRow_inside m size b i hi hlen his]

example : rowCover (3 + 2 * 1) (rowRuns 1 0 [1, 0, 1]).1 = [0, 1, 0, 1, 0] := by decide

/-- Within each row consecutive runs are separated by at least one column
    (`sep`: next start ≥ previous end + 1) and lie at or right of the start column; together with `runs_cover` (every
    dark cell exactly once, no light cell) this makes them exactly the maximal runs of dark modules.  From the
    second row on no run is empty; in the first row the only possible empty run is the quirk of `last_bit = 0x1`. -/
theorem runs_maximal (m : List (List Nat)) (x : Nat) (y2 inc2 : Int) :
    matrixToLines m x y2 inc2 = attach inc2 (y2 - inc2) (rowsGo x 1 m)
    ∧ (∀ (i : Nat) (h : i < (rowsGo x 1 m).length), sep x ((rowsGo x 1 m)[i]))
    ∧ (∀ (i : Nat) (h : i + 1 < (rowsGo x 1 m).length), ∀ r ∈ (rowsGo x 1 m)[i + 1], r.1 < r.2) :=
  ⟨linesGo_rows x inc2 m (y2 - inc2) 1, rowsGo_sep x m 1, rowsGo_nonempty x m 1⟩

example : sep 2 [(2, 3), (4, 5)] := by simp [sep]

/-- SVG: absolutising the relative moves `m dx dy h len` that `write_svg` emits gives the lines back
    (telescoping sums), for every list of lines and every pen position. -/
theorem rel_abs (lines : List (Int × Int × Int)) (px py : Int) : svgAbs px py (svgRel px py lines) = lines := by
  induction lines generalizing px py with
  | nil => rfl
  | cons r rest ih =>
    obtain ⟨x1, y, x2⟩ := r
    simp only [svgRel, svgAbs]
    have e1 : px + (x1 - px) = x1 := by omega
    have e2 : py + (y - py) = y := by omega
    have e4 : x1 + (x2 - x1) = x2 := by omega
    rw [e1, e2, e4, ih]

/-- `rel_abs` for the model's SVG path of a whole matrix: pen starts at (0, 0), first row at y = border + ½ -/
theorem rel_abs_svg (m : List (List Nat)) (b : Nat) :
    svgAbs 0 0 (svgRel 0 0 (toInt (matrixToLines m b (2 * (b : Int) + 1) 2))) = toInt (matrixToLines m b (2 * (b : Int) + 1) 2) :=
  rel_abs _ 0 0

/-- `rel_abs` (EPS).  `write_eps` prints the first line absolutely and every later one relative to
    `(x2 of the previous line, y)`, where for the first relative move `y` is the *initial* y (top row), not the
    y of the first line.  The two agree: the first row always yields a line (`last_bit = 0x1` initially — for a light
    first module the empty one), so the first line lies at the initial y and absolutising the rest from the pen
    position after the first line gives the remaining lines back. -/
theorem rel_abs_eps (row : List Nat) (rest : List (List Nat)) (b : Nat) (y2 : Int) :
    ∃ x1 x2 tail, toInt (matrixToLines (row :: rest) b y2 (-2)) = (x1, y2, x2) :: tail
      ∧ epsAbs x2 y2 (epsRel x2 y2 tail) = tail := by
  have hrows : matrixToLines (row :: rest) b y2 (-2) = attach (-2) (y2 - (-2)) (rowsGo b 1 (row :: rest)) :=
    linesGo_rows b (-2) (row :: rest) (y2 - (-2)) 1
  have hpar := attach_parity (-2) (by decide) (rowsGo b 1 (row :: rest)) (y2 - (-2))
  rw [← hrows] at hpar
  obtain ⟨ab, more, hr⟩ := List.exists_cons_of_ne_nil (rowRuns_ne_nil b 1 row (by decide))
  obtain ⟨tl, hl⟩ : ∃ tl, matrixToLines (row :: rest) b y2 (-2) = (ab.1, y2, ab.2) :: tl := by
    rw [hrows]
    simp only [rowsGo, attach, hr, List.map_cons, List.cons_append, Int.sub_add_cancel]
    exact ⟨_, rfl⟩
  refine ⟨(ab.1 : Int), (ab.2 : Int), toInt tl, by rw [hl]; rfl, ?_⟩
  apply epsAbs_epsRel
  intro r hr'
  obtain ⟨t, ht, rfl⟩ := List.mem_map.1 hr'
  have := hpar t (by rw [hl]; exact List.mem_cons_of_mem _ ht)
  simp; omega

example : ∃ c ∈ [1, 1, 1, 0, 1], c ≠ 0 := ⟨1, by simp, by decide⟩

/-- PS / PDF flip: a line of matrix row `r` is drawn at y = (size + border − ½) − r in a y-up page of height
    size + 2·border; seen from the top that is the centre line (border + r) + ½ of grid row border + r.
    (All quantities doubled.) -/
theorem y_flip (size b r : Nat) :
    2 * ((size : Int) + 2 * b) - ((2 * ((size : Int) + b) - 1) + (-2) * (r : Int)) = 2 * ((b : Int) + r) + 1 := by
  omega

/-- Under the document's own transform `scale(s)` the background rectangle
    `M0 0 h n v n h−n z` (n = size + 2·border modules) has the corners (0, 0) and (n·s, n·s) = the page, and a run that
    ends inside the symbol (x2 ≤ border + size) stays inside the page. -/
theorem page_box (size b : Nat) (s : Rat) (hs : 0 ≤ s) :
    let n : Rat := ((size + 2 * b : Nat) : Rat)
    Xf.app { sx := s, sy := s } (0, 0) = (0, 0)
    ∧ Xf.app { sx := s, sy := s } (n, n) = (n * s, n * s)
    ∧ ∀ x2 : Nat, x2 ≤ b + size → (Xf.app { sx := s, sy := s } ((x2 : Rat), 0)).1 ≤ n * s := by
  refine ⟨?_, ?_, ?_⟩
  · simp [Xf.app, Rat.mul_zero, Rat.add_zero]
  · simp [Xf.app, Rat.add_zero, Rat.mul_comm]
  · intro x2 h
    simp only [Xf.app, Rat.add_zero]
    have h1 : ((x2 : Nat) : Rat) ≤ ((size + 2 * b : Nat) : Rat) := Rat.natCast_le_natCast.mpr (by omega)
    have := Rat.mul_le_mul_of_nonneg_left h1 hs
    rw [Rat.mul_comm ((size + 2 * b : Nat) : Rat) s]
    exact this

example : (0 : Rat) ≤ ((33 : Nat) : Rat) / 10 := by decide +kernel

/-- If the file is the concatenation of pieces (header, object 1, object 2, …) and the
    recorded offsets are the prefix sums of the piece lengths — which is what `Model.Lines.pdfPositions` computes —
    then the bytes at the i-th recorded offset are exactly the pieces after piece i, i.e. the offset points at the
    first byte of the next object ("N 0 obj"). -/
theorem pdf_offsets (pieces : List (List Nat)) (i : Nat) (h : i < pieces.length)
    (h' : i < (prefixSums 0 (pieces.map List.length)).length) :
    (pieces.flatten).drop ((prefixSums 0 (pieces.map List.length))[i]) = (pieces.drop (i + 1)).flatten := by
  have := drop_prefixSums pieces [] [] i h
  simpa using this

/-- the model's xref entries are these prefix sums (definitional) -/
theorem pdf_positions_are_prefix_sums (wlen hlen glen dlen clen : Nat) :
    pdfPositions wlen hlen glen dlen clen = prefixSums 0 (pdfPieces wlen hlen glen dlen clen) := rfl

example : pdfPositions 2 2 487 21 39 = [16, 65, 122, 207, 769, 931] := by decide +kernel

/-- The judge accepts the model's SVG document of every
    symbol-shaped matrix at every positive scale.  Proved in Props/C10Accept.lean (`judge_accepts_model_svg_proved`;
    helpers in Proofs/VectorAccept*.lean): the link through the *token* level — the judge's interpreter
    `Spec.Vector.svgPath` over strings parsed by `parseDecimal` computes `svgAbs` on the model's tokens —, the
    geometry (`snap 0 ((s·k)/s) = k` on the rational grid) and the coverage (the lemmas behind `runs_cover` and
    `raster_row`: `rowRuns_cover`, `rowCover_runs`, `pageRow_inside`).  The analogous statements for the EPS and PDF token streams
    (`judge_accepts_model_eps`, `judge_accepts_model_pdf`, over `psRun` / `pdfRun`) are stated and proved there too.
    On the real code this statement is what `judge svg|eps|pdf|tex` evaluates document by document. -/
def judge_accepts_model_svg : Prop :=
  ∀ (m : List (List Nat)) (b : Nat) (s : Rat), 0 < s → m ≠ [] → (∀ row ∈ m, row.length = m.length ∧ ∀ c ∈ row, c ≤ 1) →
    ∃ segs,
      (do
        let subs ← Spec.Vector.svgPath { sx := s, sy := s } (Model.Lines.svgPath m b)
        let rs ← strokeRects (s / 2) subs
        let black : Color := { r := 0, g := 0, b := 0 }
        let P : Rat := ((m.length + 2 * b : Nat) : Rat) * s
        judgePaints { m := m, size := m.length, b := b, s := s, dark := some black, light := none }
          (some (P, P)) false 0 0 [Paint.stroke rs black]) = Except.ok segs

end Props.C10
