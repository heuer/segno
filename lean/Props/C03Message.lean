/-
  C03 (part 3) — the final message: block split, Reed-Solomon blocks, interleaving, M1/M3 half
  codeword and remainder bits as the model of make_final_message / make_blocks builds them are read
  back by the reference de-interleaver as valid RS blocks carrying exactly the data stream.
-/
import Spec.Decode
import Model.Encoder
import Proofs.Message

namespace Props.C03

/-- round-robin interleaving (shorter blocks run out first) is undone by the reference de-interleaver,
    for EVERY list of blocks -/
theorem deinterleave_interleave (blocks : List (List Nat)) :
    Spec.deinterleave (blocks.map List.length) (Model.interleave blocks) = blocks :=
  Proofs.Message.deinterleave_interleave blocks

/-- 8-bit codewords and bit strings convert back and forth -/
theorem chunk8_of_codeword_bits (cws : List Nat) (h : ∀ c ∈ cws, c < 256) :
    Spec.chunk8 cws.length ((cws.map (fun x => Model.appendBits x 8)).flatten) = cws :=
  Proofs.Message.chunk8_bitsOf cws h

theorem toInts_bits (bits : List Nat) (hb : ∀ b ∈ bits, b ≤ 1) (h8 : bits.length % 8 = 0) :
    ((Model.toInts (bits.length + 1) bits).map (fun x => Model.appendBits x 8)).flatten = bits := by
  have h := Proofs.Message.bitsOf_toInts _ bits hb (Nat.lt_succ_self _)
  rw [h8] at h
  exact h.trans (List.append_nil bits)

/-- **message level C03** (strongest true variant; the extra hypothesis `hz` only concerns M1/M3 and
    holds whenever the stream has exactly `cap` bits, as every stream built by `finishStream` has):
    for every version / level of Table 9 and EVERY data bit stream of (at least) the capacity, the
    bit sequence `make_final_message` hands to the placement, split by the reference reader according
    to the frozen ISO Table 9, consists of valid Reed-Solomon blocks, zero remainder bits, and
    carries exactly the first `cap` bits of the stream as data -/
theorem final_message_blocks_valid_partial (v : Int) (e : Option Nat) (cap : Nat) (stream bits : List Nat)
    (h1 : -3 ≤ v) (h2 : v ≤ 40) (hcap : Model.capacity v e = some cap) (hlen : cap ≤ stream.length)
    (hb : ∀ b ∈ stream, b ≤ 1)
    (hz : Spec.fourBitFinal v = true → ∀ b ∈ (stream.drop cap).take 4, b = 0)
    (h : Model.makeFinalMessage v e stream = .ok bits) :
    ∃ b, Spec.splitBlocks v (Model.lvlKey e) bits = .ok b ∧ Spec.badBlocks b = 0
      ∧ Spec.allZero b.remainder = true ∧ Spec.dataStream v b = stream.take cap := by
  open Proofs.Message Model in
  -- `make_blocks` cuts the codewords of the stream into the data blocks D (`slices`) and computes the EC blocks E
  -- (`ecs`); the message is bits(interleave D), less the last nibble for M1/M3, ++ bits(interleave E) ++ remainder
  -- (`makeFinalMessage_eq`).  The reader undoes each step (`splitBlocks_ok`), so it finds D and E; every D_i ++ E_i is an
  -- RS codeword (`blocks_valid`), and the bits of D in order are the first `cap` bits of the stream (`hS`).
  obtain ⟨ecc, hecc⟩ := ecc_of_ok v e stream bits h
  have hrow := row_facts v _ ecc hecc
  obtain ⟨hc, hN, hS1⟩ := capacity_shapes v e cap stream ecc hcap hlen hecc
  rw [makeFinalMessage_eq v e stream ecc hecc (stream_ne v e cap stream hcap hlen)] at h
  have hcw : ∀ c ∈ toInts (stream.length + 1) stream, c < 256 := toInts_lt stream hb _
  have hD := slices_map_length (Spec.blockShapes ecc) _ hN
  have hE := ecs_map_length (Spec.blockShapes ecc) (toInts (stream.length + 1) stream) hrow.gen
  have hDb : ∀ b ∈ slices (Spec.blockShapes ecc) (toInts (stream.length + 1) stream), ∀ x ∈ b, x < 256 :=
    fun b hb' x hx => hcw x (slices_mem _ _ b hb' x hx)
  have hEb := ecs_bytes (Spec.blockShapes ecc) _ hcw
  have hfl := slices_flatten (Spec.blockShapes ecc) (toInts (stream.length + 1) stream)
  -- the bits of the first codewords
  have hS : bitsOf ((toInts (stream.length + 1) stream).take ((Spec.blockShapes ecc).map (·.1)).sum)
      = stream.take cap ++ (if Spec.fourBitFinal v then [0, 0, 0, 0] else []) := by
    by_cases hf : Spec.fourBitFinal v = true
    · rw [if_pos hf] at hc ⊢
      rw [hc]
      exact prefix_bits_four stream _ hb (hS1 hf) (by omega) (by rw [← hc]; exact hz hf)
    · rw [if_neg hf] at hc ⊢
      rw [hc, List.append_nil]
      exact prefix_bits_qr stream _ hb (by omega)
  -- the message's data part is all of them but the final 0000
  have hd : bitsOf (interleave (slices (Spec.blockShapes ecc) (toInts (stream.length + 1) stream)))
      = dataBits v (slices (Spec.blockShapes ecc) (toInts (stream.length + 1) stream))
        ++ (if Spec.fourBitFinal v then [0, 0, 0, 0] else []) := by
    unfold dataBits
    by_cases hf : Spec.fourBitFinal v = true
    · rw [if_pos hf] at hS hc
      rw [interleave_slices v ecc _ hrow.four hf, hS, if_pos hf, if_pos hf, List.take_left' (by
        rw [List.length_take, List.length_take, Nat.min_eq_left hN, Nat.min_eq_left hlen, hc])]
    · rw [if_neg hf, if_neg hf, List.append_nil, Nat.sub_zero, ← bitsOf_length, List.take_length]
  have hR : (List.replicate (Gen.remainder_bits v).toNat 0).length = Spec.remainderBits v := by
    rw [List.length_replicate, Proofs.Stream.remainder_bits v h1 h2]; simp
  have hsplit := splitBlocks_ok v (lvlKey e) ecc _ _ _ _ hecc hD hE hDb hEb hd hR
  rw [Except.ok.inj h] at hsplit
  refine ⟨_, hsplit, ?_, ?_, ?_⟩
  · unfold Spec.badBlocks
    simp only []
    rw [List.length_eq_zero_iff, List.filter_eq_nil_iff]
    intro p hp
    have := blocks_valid (Spec.blockShapes ecc) _ hcw hrow.gen p hp
    simp [this]
  · simp [Spec.allZero]
  · unfold Spec.dataStream
    simp only []
    rw [hfl, natToBits_eq]
    have hS' : ((toInts (stream.length + 1) stream).take ((Spec.blockShapes ecc).map (·.1)).sum
        |>.map (fun x => appendBits x 8)).flatten
          = stream.take cap ++ (if Spec.fourBitFinal v then [0, 0, 0, 0] else []) := hS
    rw [hS']
    by_cases hf : Spec.fourBitFinal v = true
    · rw [if_pos hf, if_pos hf, List.length_append]
      simp
    · rw [if_neg hf, if_neg hf, List.append_nil]

/-- `hz` is not needed for QR versions and M2 / M4 -/
theorem final_message_blocks_valid_not_m1m3 (v : Int) (e : Option Nat) (cap : Nat) (stream bits : List Nat)
    (h1 : -3 ≤ v) (h2 : v ≤ 40) (hcap : Model.capacity v e = some cap) (hlen : cap ≤ stream.length)
    (hb : ∀ b ∈ stream, b ≤ 1) (hf : Spec.fourBitFinal v = false)
    (h : Model.makeFinalMessage v e stream = .ok bits) :
    ∃ b, Spec.splitBlocks v (Model.lvlKey e) bits = .ok b ∧ Spec.badBlocks b = 0
      ∧ Spec.allZero b.remainder = true ∧ Spec.dataStream v b = stream.take cap :=
  final_message_blocks_valid_partial v e cap stream bits h1 h2 hcap hlen hb
    (fun hf' => by rw [hf] at hf'; cases hf') h

/-- … and for every version when the stream has exactly `cap` bits -/
theorem final_message_blocks_valid_exact (v : Int) (e : Option Nat) (cap : Nat) (stream bits : List Nat)
    (h1 : -3 ≤ v) (h2 : v ≤ 40) (hcap : Model.capacity v e = some cap) (hlen : stream.length = cap)
    (hb : ∀ b ∈ stream, b ≤ 1) (h : Model.makeFinalMessage v e stream = .ok bits) :
    ∃ b, Spec.splitBlocks v (Model.lvlKey e) bits = .ok b ∧ Spec.badBlocks b = 0
      ∧ Spec.allZero b.remainder = true ∧ Spec.dataStream v b = stream.take cap :=
  final_message_blocks_valid_partial v e cap stream bits h1 h2 hcap (by omega) hb
    (fun _ b hb' => by rw [List.drop_of_length_le (by omega)] at hb'; simp at hb') h

/-- the stream `finishStream` builds for M1/M3 has exactly `cap` bits, so the hypothesis `hz` of
    `final_message_blocks_valid_partial` always holds inside `encode` -/
theorem m13_stream_has_capacity_length (v : Int) (e : Option Nat) (cap : Nat) (buff stream : List Nat)
    (hcap : Model.capacity v e = some cap) (hl : buff.length ≤ cap) (hf : Spec.fourBitFinal v = true)
    (h : Model.finishStream buff v cap = .ok stream) : stream.length = cap := by
  rw [Proofs.Stream.finish_iso buff v cap e hcap hl (Or.inl hf)] at h
  rw [← Except.ok.inj h, List.length_append]
  exact Proofs.Stream.isoTail_length v cap buff.length e hcap hl

/-- the final message fills exactly the number of bits Table 9 and the remainder-bit table give -/
theorem final_message_length (v : Int) (e : Option Nat) (cap : Nat) (stream bits : List Nat)
    (h1 : -3 ≤ v) (h2 : v ≤ 40) (hcap : Model.capacity v e = some cap) (hlen : cap ≤ stream.length)
    (h : Model.makeFinalMessage v e stream = .ok bits) (ecc : List (Nat × Nat × Nat))
    (hecc : Spec.eccOf v (Model.lvlKey e) = some ecc) :
    bits.length + (if Spec.fourBitFinal v then 4 else 0)
      = 8 * (ecc.map (fun b => b.1 * b.2.1)).foldl (· + ·) 0 + Spec.remainderBits v := by
  open Proofs.Message Model in
  have hrow := row_facts v _ ecc hecc
  obtain ⟨-, hN, hS1⟩ := capacity_shapes v e cap stream ecc hcap hlen hecc
  rw [makeFinalMessage_eq v e stream ecc hecc (stream_ne v e cap stream hcap hlen)] at h
  have hD := congrArg List.sum (slices_map_length (Spec.blockShapes ecc) _ hN)
  have hE := congrArg List.sum (ecs_map_length (Spec.blockShapes ecc) (toInts (stream.length + 1) stream) hrow.gen)
  rw [shapes_sum (·.1)] at hD hS1
  rw [shapes_sum (·.2)] at hE
  dsimp only at hD hE hS1
  have hR : (Gen.remainder_bits v).toNat = Spec.remainderBits v := by
    rw [Proofs.Stream.remainder_bits v h1 h2]; simp
  rw [← List.sum_eq_foldl, total_sum ecc (fun b hb => (hrow.blocks b hb).2), ← Except.ok.inj h, List.length_append, List.length_append, List.length_replicate,
    bitsOf_length, interleave_length, hE, hR, dataBits, List.length_take, bitsOf_length, interleave_length, hD]
  split
  · have := hS1 ‹_›; omega
  · omega

/-- `final_message_blocks_valid_partial` without its hypothesis `hz` — FALSE for M1/M3 when the stream is longer than the capacity and
    has a 1 among the (up to four) bits that follow the capacity: `toints()` packs those bits into
    the low nibble of the last data codeword, `make_blocks` computes the EC codewords over that full
    codeword, but `make_final_message` emits only its high nibble, so the reader (who completes the
    half codeword with 0000) sees a block that is not an RS codeword.
    Counterexample: M1 (v = -3, no level), cap = 20, stream = 20 ones ++ [0,0,0,1]: `badBlocks = 1`;
    see `final_message_blocks_valid_counterexample`.  Not reachable through `encode`: for M1/M3
    `finishStream` returns exactly `cap` bits (`m13_stream_has_capacity_length`). -/
def FinalMessageBlocksValid : Prop :=
  ∀ (v : Int) (e : Option Nat) (cap : Nat) (stream bits : List Nat),
    -3 ≤ v → v ≤ 40 → Model.capacity v e = some cap → cap ≤ stream.length →
    (∀ b ∈ stream, b ≤ 1) → Model.makeFinalMessage v e stream = .ok bits →
    ∃ b, Spec.splitBlocks v (Model.lvlKey e) bits = .ok b ∧ Spec.badBlocks b = 0
      ∧ Spec.allZero b.remainder = true ∧ Spec.dataStream v b = stream.take cap

theorem final_message_blocks_valid_counterexample : ¬ FinalMessageBlocksValid := by
  intro H
  obtain ⟨b, hs, hbad, -⟩ := H (-3) none 20 (List.replicate 20 1 ++ [0, 0, 0, 1])
    [1,1,1,1,1,1,1,1, 1,1,1,1,1,1,1,1, 1,1,1,1, 1,0,1,0,0,1,0,1, 0,1,0,1,0,1,0,0]
    (by decide) (by decide) (by decide +kernel) (by decide) (by decide) (by decide +kernel)
  have hk : (match Spec.splitBlocks (-3) (Model.lvlKey none)
      [1,1,1,1,1,1,1,1, 1,1,1,1,1,1,1,1, 1,1,1,1, 1,0,1,0,0,1,0,1, 0,1,0,1,0,1,0,0] with
      | .ok b => Spec.badBlocks b | .error _ => 0) = 1 := by decide +kernel
  rw [hs] at hk
  simp only [hbad] at hk
  exact absurd hk (by decide)

/-- blocks of unequal length (the shorter one runs out first) -/
example : Model.interleave [[1, 2], [3, 4, 5]] = [1, 3, 2, 4, 5] := by decide

/-- `make_final_message` succeeds on a 1-M symbol (cap = 128) and the theorem's conclusion is
    computed to hold on it -/
example : (match Model.makeFinalMessage 1 (some 0) (List.replicate 128 1) with
    | .ok bits => (match Spec.splitBlocks 1 0 bits with
      | .ok b => Spec.badBlocks b == 0 && Spec.dataStream 1 b == List.replicate 128 1
      | .error _ => false)
    | .error _ => false) = true := by decide +kernel

end Props.C03

#print axioms Props.C03.deinterleave_interleave
#print axioms Props.C03.chunk8_of_codeword_bits
#print axioms Props.C03.toInts_bits
#print axioms Props.C03.final_message_blocks_valid_counterexample
#print axioms Props.C03.final_message_blocks_valid_partial
#print axioms Props.C03.final_message_blocks_valid_not_m1m3
#print axioms Props.C03.final_message_blocks_valid_exact
#print axioms Props.C03.m13_stream_has_capacity_length
#print axioms Props.C03.final_message_length
