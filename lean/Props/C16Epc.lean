/-
  C16 (EPC part) — the refusals of `_make_epc_qr_data` against the documented limits as the judge evaluates
  them: `epc_refusals` proves `Props.C16.epc_refusals_statement` (lemmas: Proofs/HelpersEpcRefusals.lean).
-/
import Props.C16
import Proofs.HelpersEpcRefusals

namespace Props.C16
open Spec.Helpers Model.Helpers Proofs.Helpers

/-- "the codec of this name can represent the text", read from `EpcArgs.can` (the `canName` of
    `epc_refusals_statement`) -/
abbrev epcCanName (a : EpcArgs) : String → Bool :=
  fun (n : String) => match epcEncodings.idxOf? n with | some i => a.can.getD i false | none => false

/-- **accepted ⇒ no documented limit is violated both with and without surrounding whitespace**: for each
    of the thirteen limits the judge's check passes for the trimmed values (name, text / reference,
    BIC: the code strips them), for the values as given (IBAN, purpose: the code does not strip them),
    or either way (amount, encoding request, codec); the judge's byte count for the trimmed values is
    at most the number of bytes of the payload -/
theorem epc_accept_no_limit_violated (a : EpcArgs) (k : Nat) (t : Str) (h : epcData a (epcCanName a) = some (k, t)) :
    epcMustRefuse a = none :=
  accept_no_limit_violated a (canNameOf_codec a) k t h

/-- **accepted ⇒ the character set number is the prescribed one**: the requested one, else the first of
    2..8 that can represent the text, else 1 (the two searches — `encodings[1:]` numbered from 2 by name
    in the model, `can[1..7]` in the specification — agree); in particular the request was valid -/
theorem epc_accept_charset (a : EpcArgs) (k : Nat) (t : Str) (h : epcData a (epcCanName a) = some (k, t)) :
    (match epcRequested a.encoding with | .ok req => k = epcCharset req a.can | .error _ => False) := by
  obtain ⟨req, hreq, _, hk, _⟩ := (epc_accept_iff a (canNameOf_codec a) k t).mp h
  rw [hreq]
  exact hk

/-- **accepted ⇒ at most 331 bytes** in the declared character set (UTF-8 bytes for 1, else one byte per
    character) -/
theorem epc_accept_size (a : EpcArgs) (k : Nat) (t : Str) (h : epcData a (epcCanName a) = some (k, t)) :
    (if k = 1 then Spec.Helpers.utf8Len t else t.length) ≤ epcMaxBytes := by
  obtain ⟨_, _, _, _, _, hsz, _⟩ := (epc_accept_iff a (canNameOf_codec a) k t).mp h
  exact hsz

/-- **refused ⇒ not an input that must be accepted**: whenever the model raises ValueError, at least one
    of the thirteen documented limits is violated for the values as given or for the trimmed values -/
theorem epc_refuse_not_must_accept (a : EpcArgs) (h : epcData a (epcCanName a) = none) : epcMustAccept a = false :=
  refuse_not_must_accept a (canNameOf_codec a) h

/-- **EPC refusals** (the full statement of Props/C16.lean): whenever the model accepts, no documented
    limit is violated in the judge's sense, the character set number is the one the specification
    prescribes and the payload has at most 331 bytes; whenever the model refuses, the input is not one
    the judge says must be accepted. -/
theorem epc_refusals : epc_refusals_statement :=
  fun a => ⟨fun k t h => ⟨epc_accept_no_limit_violated a k t h, epc_accept_charset a k t h, epc_accept_size a k t h⟩,
    fun h => epc_refuse_not_must_accept a h⟩

/-- The judge must round the amount as the code does (`Spec.Helpers.epcChecks`: nearest cent, ties to even).
    With a judge that rounds half up the statement fails for an amount half-way between two cents the lower of
    which ends in 0: the code, like `f'{amount:.2f}'`, writes `Decimal('0.105')` as `EUR0.1`, a half-up judge
    counts the seven characters of `EUR0.11`, and a payload of exactly 331 bytes looks one byte too long.  Such an
    input: name of 70, IBAN of 34, BIC of 11, purpose of 4 characters, text of 92 `ä` and two `t`, amount
    105/1000, only UTF-8 can represent the text: exactly 331 bytes -/
def epcTieExample : EpcArgs :=
  { name := some (List.replicate 70 'n'), iban := some (List.replicate 34 'i'), amount := { num := 105, den := 1000 },
    text := some (List.replicate 92 'ä' ++ List.replicate 2 't'), bic := some (List.replicate 11 'b'),
    purpose := some (List.replicate 4 'p'), can := [true] }

/-- the model accepts it with character set 1 and 331 bytes, and the judge agrees: nothing to refuse, must
    be accepted; with one more character both refuse -/
example :
    (∃ t, epcData epcTieExample (epcCanName epcTieExample) = some (1, t) ∧ Spec.Helpers.utf8Len t = 331)
    ∧ epcMustRefuse epcTieExample = none ∧ epcMustAccept epcTieExample = true
    ∧ epcMustRefuse { epcTieExample with text := some (List.replicate 92 'ä' ++ List.replicate 3 't') }
        = some "payload-exceeds-331-bytes" := by
  have hlen : byteLen 1 (epcPayload epcTieExample 1) = 331 := by
    rw [epc_payload_byteLen epcTieExample 1 (by omega) (by omega)]
    decide +kernel
  refine ⟨⟨epcPayload epcTieExample 1, ?_, hlen⟩, by decide +kernel, by decide +kernel, by decide +kernel⟩
  exact (epc_accept_iff epcTieExample (canNameOf_codec _) 1 _).mpr ⟨none, rfl, by decide +kernel, by decide, by decide, Nat.le_of_eq hlen, rfl⟩

#print axioms epc_accept_no_limit_violated
#print axioms epc_accept_charset
#print axioms epc_accept_size
#print axioms epc_refuse_not_must_accept
#print axioms epc_refusals

end Props.C16
