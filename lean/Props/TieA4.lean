/-
  Tie A — the function matrix against the translation of the current source.

  `Gen/Funcs4.lean` is written by the AST translator (tools/pytolean.py, grammar: docs/TRANSLATOR.md) from the CURRENT
  source of the repository on every run: `make_matrix(width, height, reserve_regions, add_timing)` — the matrix is built
  (`row = [0x2] * width; matrix = tuple(bytearray(row) for i in range(height))`: one copy of the row per index), the
  version and format areas are set to 0 through ALIASES of rows (`row = matrix[i]; row[-11] = 0`, `row_eight = matrix[8]`
  written in the same loop as `matrix[i][8] = 0` — views of the matrix: for i = 8 both names reach the same row), with
  negative indexes (`matrix[-i][8]`, `row_eight[-i]`: `-0` is index 0), and the translation of `add_timing_pattern` is
  called on the local matrix.  `Model.makeMatrix n` is the hand model of `make_matrix(n, n)`; `Model.alignmentMatrix?` starts
  from `make_matrix(n, n, reserve_regions=False, add_timing=False)`.
  Translation validation: `Gen/Funcs4Check.lean` (imported here): 37 kernel-checked results of the real function.
-/
import Gen.Funcs4Check
import Proofs.TieA4Matrix
import Model.Align

namespace Props.TieA4
open Proofs.TieA2 Proofs.TieA4

/-- `make_matrix(n, n)` (both flags at their default True) for EVERY n ≥ 9 — in particular the sizes the callers pass,
    11, 13, 15, 17 (Micro QR) and 21 … 177 (QR): the translation returns, without raising, the matrix of `Model.makeMatrix n`
    (`mI`: `Array (Array Nat)` seen as the translation's `List (List Int)`).  9 ≤ n is exact, see `make_matrix_small_raises` -/
theorem make_matrix_tie (n : Nat) (hn : 9 ≤ n) :
    Gen.Funcs4.make_matrix (n : Int) (n : Int) true true = .ok (mI (Model.makeMatrix n)) :=
  make_matrix_eq n hn

/-- the range of `make_matrix_tie` is exact: for n < 9 there is no row 8 and `row_eight = matrix[8]` raises IndexError
    (`Model.makeMatrix` is total and not meant for these sizes) -/
theorem make_matrix_small_raises (n : Nat) (hn : n < 9) :
    Gen.Funcs4.make_matrix (n : Int) (n : Int) true true = .error .indexError :=
  make_matrix_small n hn

/-- `make_matrix(w, h, reserve_regions=False, add_timing=False)` for ALL integers w, h: h rows of w cells 0x2, nothing raised -/
theorem make_matrix_plain_tie_general (w h : Int) :
    Gen.Funcs4.make_matrix w h false false = .ok (List.replicate h.toNat (List.replicate w.toNat (2 : Int))) :=
  make_matrix_plain_eq w h

/-- … for a square symbol: the all-2 matrix `m0` from which `Model.alignmentMatrix?` (the model of
    `_get_alignment_matrix` in the writers / `matrix_iter_verbose`) starts, every n -/
theorem make_matrix_plain_tie (n : Nat) :
    Gen.Funcs4.make_matrix (n : Int) (n : Int) false false
      = .ok ((List.replicate n (List.replicate n 2)).map toI) := by
  rw [make_matrix_plain_eq]
  simp [toI]

/-- … and as the model's `Matrix`: the matrix of 0x2 with which `Model.makeMatrix` begins -/
theorem make_matrix_plain_tie_array (n : Nat) :
    Gen.Funcs4.make_matrix (n : Int) (n : Int) false false = .ok (mI (twos n)) := by
  rw [make_matrix_plain_eq, mI_twos]
  simp

end Props.TieA4
