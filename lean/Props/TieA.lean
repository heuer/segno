/-
  Tie A — the hand-written model functions ARE what the source says now.

  `Gen/Funcs.lean` is written by the AST translator (tools/pytolean.py, grammar: docs/TRANSLATOR.md) from the
  CURRENT source of the repository on every run.  Each theorem below states, for all arguments of the documented
  domain (unbounded), that a function of the hand-written model (`lean/Model`) is equal to the translation of the
  corresponding Python function.  The property theorems about the model are thereby, for these functions,
  theorems about the source as it is now: an edit of the source changes `Gen/Funcs.lean` and the equality no
  longer type-checks / proves.  Where the model has no counterpart the documented / ISO fact is stated about the
  translation directly.

  Conventions: `toR` reads a result of translated code (`Except PyExc`) as a result of the model (`Except PyErr`);
  `ofOption e` reads an `Option` result of the model whose `none` stands for the exception `e`.
  Translation validation (`Gen/FuncsCheck.lean`, imported here): the Lean kernel evaluates every
  translated function on sample arguments and compares with what the real Python function returned.
-/
import Gen.FuncsCheck
import Proofs.TieA
import Proofs.TieAFormat
import Proofs.TieABits
import Proofs.TieAGetBit
import Proofs.TieAOverhead

namespace Props.TieA
open Gen.Py Proofs.TieA Model Model.Args

/-! ## encoder.py: sizes, version ranges, modes -/

/-- `calc_matrix_size`: the general translation coincides with the one the model uses (`Gen/Arith.lean`) -/
theorem calc_matrix_size_tie : Gen.Funcs.calc_matrix_size = Gen.calc_matrix_size := rfl

/-- ISO/IEC 18004 §5.3: QR Code version v has 21 + 4·(v − 1) modules per side; Micro QR Code Mk (constant k − 4) has
    11 + 2·(k − 1) -/
theorem calc_matrix_size_iso (v : Int) :
    (0 < v → Gen.Funcs.calc_matrix_size v = 21 + 4 * (v - 1)) ∧ (v ≤ 0 → Gen.Funcs.calc_matrix_size v = 11 + 2 * ((v + 4) - 1)) := by
  unfold Gen.Funcs.calc_matrix_size
  constructor <;> intro h <;> split_ifs <;> simp_all <;> omega

example : Gen.Funcs.calc_matrix_size 40 = 177 ∧ Gen.Funcs.calc_matrix_size (-3) = 11 := by decide

/-- `version_range`: the model's `Gen.version_range` (0 = raises) is the translated function; `ValueError` exactly
    outside 1 … 40 -/
theorem version_range_tie (v : Int) :
    Gen.Funcs.version_range v = if Gen.version_range v = 0 then .error .valueError else .ok (Gen.version_range v) := by
  unfold Gen.Funcs.version_range Gen.version_range
  -- the same three tests in the same order on both sides
  generalize (decide ((0 : Int) < v) && decide (v < (10 : Int))) = a
  generalize (decide ((9 : Int) < v) && decide (v < (27 : Int))) = b
  generalize (decide ((26 : Int) < v) && decide (v < (41 : Int))) = c
  cases a <;> cases b <;> cases c <;> rfl

/-- ISO/IEC 18004 Table 3: versions 1–9, 10–26, 27–40 -/
theorem version_range_iso (v : Int) :
    Gen.Funcs.version_range v =
      if 1 ≤ v ∧ v ≤ 9 then .ok 1 else if 10 ≤ v ∧ v ≤ 26 then .ok 2 else if 27 ≤ v ∧ v ≤ 40 then .ok 3 else .error .valueError := by
  unfold Gen.Funcs.version_range
  have c1 : ((decide ((0 : Int) < v) && decide (v < (10 : Int))) = true) ↔ (1 ≤ v ∧ v ≤ 9) := by
    rw [Bool.and_eq_true, decide_eq_true_eq, decide_eq_true_eq]; omega
  have c2 : ((decide ((9 : Int) < v) && decide (v < (27 : Int))) = true) ↔ (10 ≤ v ∧ v ≤ 26) := by
    rw [Bool.and_eq_true, decide_eq_true_eq, decide_eq_true_eq]; omega
  have c3 : ((decide ((26 : Int) < v) && decide (v < (41 : Int))) = true) ↔ (27 ≤ v ∧ v ≤ 40) := by
    rw [Bool.and_eq_true, decide_eq_true_eq, decide_eq_true_eq]; omega
  simp only [c1, c2, c3]

example : Gen.Funcs.version_range 26 = .ok 2 ∧ Gen.Funcs.version_range 41 = .error .valueError := by decide

/-- `is_mode_supported(mode, ver)` for every mode number and every version number; `ValueError` = unknown mode.
    (Also ties the two independent dumps of `consts.SUPPORTED_MODES`.) -/
theorem is_mode_supported_tie (mode : Nat) (v : Int) :
    Gen.Funcs.is_mode_supported mode v = ofOption .valueError (Model.isModeSupported mode v) := by
  by_cases hk : mode = 1 ∨ mode = 2 ∨ mode = 4 ∨ mode = 7 ∨ mode = 8 ∨ mode = 13
  · unfold Gen.Funcs.is_mode_supported Model.isModeSupported
    by_cases hv : v > 0
    · -- a QR Code version: `None` is in every list of the dict, 1 in every list of the table
      simp only [hv, decide_true, if_true]
      rcases hk with rfl | rfl | rfl | rfl | rfl | rfl <;> rfl
    · simp only [hv, decide_false, if_false, Bool.false_eq_true]
      rcases hk with rfl | rfl | rfl | rfl | rfl | rfl <;>
        simp [Gen.Funcs.T_consts_SUPPORTED_MODES, Gen.SUPPORTED_MODES, lookup, List.find?, Model.assoc] <;> bool_omega
  · -- an unknown mode: `KeyError` of the dict look-up, turned into `ValueError`
    have keys : ∀ p ∈ Gen.Funcs.T_consts_SUPPORTED_MODES, p.1 ∈ [(1 : Int), 2, 4, 7, 8, 13] := by decide
    rw [isModeSupported_unknown mode (by omega)]
    unfold Gen.Funcs.is_mode_supported
    rw [lookup_absent]
    · rfl
    · intro p hp
      have := keys p hp
      simp only [List.mem_cons, List.not_mem_nil, or_false] at this
      rw [beq_eq_false_iff_ne]
      omega

example : Gen.Funcs.is_mode_supported 8 (-2) = .ok false ∧ Gen.Funcs.is_mode_supported 8 (-1) = .ok true
    ∧ Gen.Funcs.is_mode_supported 3 5 = .error .valueError := by decide

/-- `find_minimum_version_for_mode(mode)` for every mode number: the chain of `is_mode_supported` tests over M1 … M4 and 1 is
    the model's search; `ValueError` (from `is_mode_supported`) for a number that is no mode constant -/
theorem find_minimum_version_for_mode_tie (mode : Nat) :
    Gen.Funcs.find_minimum_version_for_mode mode = ofOption .valueError (Model.findMinimumVersionForMode mode) := by
  by_cases hk : mode = 1 ∨ mode = 2 ∨ mode = 4 ∨ mode = 7 ∨ mode = 8 ∨ mode = 13
  · rcases hk with h | h | h | h | h | h <;> subst h <;> decide
  · have hn : mode ≠ 1 ∧ mode ≠ 2 ∧ mode ≠ 4 ∧ mode ≠ 7 ∧ mode ≠ 8 ∧ mode ≠ 13 := by omega
    unfold Gen.Funcs.find_minimum_version_for_mode Model.findMinimumVersionForMode
    simp [is_mode_supported_tie, isModeSupported_unknown mode hn, Gen.MICRO_VERSIONS]

example : Gen.Funcs.find_minimum_version_for_mode 8 = .ok (-1) := by decide

/-- `_is_shift_jis_trail_byte(b)` for every integer b ≥ 0: 0x40 ≤ b ≤ 0xFC and b ≠ 0x7F on both sides -/
theorem is_shift_jis_trail_byte_tie (b : Nat) : Gen.Funcs._is_shift_jis_trail_byte b = Model.isSjisTrail b := by
  unfold Gen.Funcs._is_shift_jis_trail_byte Model.isSjisTrail
  bool_omega

/-- `calc_format_info(version, error, mask_pattern)` for every version number, every error level (or `None`) and every
    mask number ≥ 0: the same format word, `IndexError` / `KeyError` in the same cases -/
theorem calc_format_info_tie (v : Int) (e : Option Nat) (mask : Nat) :
    toR (Gen.Funcs.calc_format_info v (e.map Int.ofNat) mask) = (Model.calcFormatInfo v e mask).map Int.ofNat := by
  by_cases hv : 0 < v
  · -- QR Code: the format word is `FORMAT_INFO[mask + 8 · level bits]`
    unfold Gen.Funcs.calc_format_info Model.calcFormatInfo
    simp only [hv, decide_true, if_true, format_info_tables]
    refine toR_index_word Gen.FORMAT_INFO _ _ ?_
    -- the same offset for the level on both sides
    rcases e with _ | n
    · rfl
    · obtain rfl | rfl | rfl | h : n = 1 ∨ n = 2 ∨ n = 3 ∨ (n ≠ 1 ∧ n ≠ 2 ∧ n ≠ 3) := by omega
      · rfl
      · rfl
      · rfl
      · have e1 : ¬ ((n : Int) = 1) := by omega
        have e2 : ¬ ((n : Int) = 2) := by omega
        have e3 : ¬ ((n : Int) = 3) := by omega
        simp [Gen.ERROR_LEVEL_L, Gen.ERROR_LEVEL_H, Gen.ERROR_LEVEL_Q, h, e1, e2, e3]
  · -- Micro QR Code: the symbol number comes from `ERROR_LEVEL_TO_MICRO_MAPPING[version][error]`
    unfold Gen.Funcs.calc_format_info Model.calcFormatInfo
    simp only [hv, decide_false, format_info_micro_tables]
    rw [if_neg (by decide), ← Gen.Py.bind_assoc,
      version_level_of_sameTable micro_mapping_same]
    cases lookup2 Gen.ERROR_LEVEL_TO_MICRO_MAPPING v (lvlKey e) with
    | none => rfl
    | some s =>
      simp only [Option.map_some, ofOption_some, Gen.Py.bind_ok]
      exact toR_index_word Gen.FORMAT_INFO_MICRO _ _ (by rw [Nat.shiftLeft_eq, Int.ofNat_eq_natCast]; push_cast; omega)

example : Gen.Funcs.calc_format_info 1 (some 1) 0 = .ok 30660 ∧ Gen.Funcs.calc_format_info (-3) none 3 = .ok 19228
    ∧ Gen.Funcs.calc_format_info (-3) (some 1) 0 = .error .keyError ∧ Gen.Funcs.calc_format_info 1 (some 3) 8 = .error .indexError := by
  decide

/-- `calc_qrcode_bit_length` (inner function of `encode_sequence`) for every character count, version range, mode number,
    encoding name and flag combination, including its quirks (7 bits for a numeric remainder of 0; 0 payload bits for an
    unknown mode); `KeyError` exactly when `CHAR_COUNT_INDICATOR_LENGTH[mode][ver_range]` does not exist -/
theorem calc_qrcode_bit_length_tie (cc : Nat) (vr : Int) (mode : Nat) (enc : String) (eci sa : Bool) :
    toR (Gen.Funcs.calc_qrcode_bit_length cc vr mode enc eci sa)
      = toR (ofOption .keyError ((Model.calcQrcodeBitLength cc vr mode enc eci sa).map Int.ofNat)) := by
  unfold Gen.Funcs.calc_qrcode_bit_length Model.calcQrcodeBitLength
  rw [← Gen.Py.bind_assoc, cci_lookup]
  cases Model.cciLen mode vr with
  | none => rfl
  | some cl =>
    -- the tests on `mode` as tests on the natural number
    have hm : ∀ k : Nat, ((mode : Int) == (k : Int)) = (mode == k) := fun k => by rw [Bool.eq_iff_iff, beq_iff_eq, beq_iff_eq]; omega
    have h1 : ((mode : Int) == 1) = (mode == 1) := hm 1
    have h2 : ((mode : Int) == 2) = (mode == 2) := hm 2
    have h4 : ((mode : Int) == 4) = (mode == 4) := hm 4
    have h8 : ((mode : Int) == 8) = (mode == 8) := hm 8
    have h13 : ((mode : Int) == 13) = (mode == 13) := hm 13
    have hcnd : (eci && ((mode == 4) && !(enc == "iso-8859-1"))) = (eci && mode == Gen.MODE_BYTE && enc != Gen.DEFAULT_BYTE_ENCODING) :=
      (Bool.and_assoc _ _ _).symm
    simp only [Option.map_some, ofOption_some, Gen.Py.bind_ok, h1, h2, h4, h8, h13, hcnd, ite_ok_add]
    generalize (eci && mode == Gen.MODE_BYTE && enc != Gen.DEFAULT_BYTE_ENCODING) = c
    refine congrArg (fun z => toR (Except.ok z)) ?_
    show _ + _ = Int.ofNat _ + Int.ofNat _
    congr 1
    · cases sa <;> cases c <;> rfl
    · simp only [estPayloadBits, Gen.MODE_NUMERIC, Gen.MODE_ALPHANUMERIC, Gen.MODE_BYTE, Gen.MODE_KANJI, Gen.MODE_HANZI]
      have e3 : ((cc : Int) % 3 == 1) = (cc % 3 == 1) := by rw [Bool.eq_iff_iff, beq_iff_eq, beq_iff_eq]; omega
      have e2 : ((cc : Int) % 2 != 0) = (cc % 2 != 0) := by rw [Bool.eq_iff_iff, bne_iff_ne, bne_iff_ne]; omega
      rw [e3, e2]
      by_cases m1 : (mode == 1) = true
      · by_cases r : (cc % 3 == 1) = true <;> simp only [m1, r, if_true, if_false, Bool.false_eq_true, Int.ofNat_eq_natCast] <;> omega
      by_cases m2 : (mode == 2) = true
      · by_cases r : (cc % 2 != 0) = true <;> simp only [m1, m2, r, if_true, if_false, Bool.false_eq_true, Int.ofNat_eq_natCast] <;> omega
      by_cases m4 : (mode == 4) = true
      · simp only [m1, m2, m4, if_true, if_false, Bool.false_eq_true, Int.ofNat_eq_natCast]; omega
      by_cases m8 : (mode == 8 || mode == 13) = true <;>
        simp only [m1, m2, m4, m8, if_true, if_false, Bool.false_eq_true, Int.ofNat_eq_natCast] <;> omega

example : Gen.Funcs.calc_qrcode_bit_length 10 1 1 "iso-8859-1" false true = .ok (4 + 10 + 20 + 34) := by decide

/-- `Segments.bit_length_with_overhead(version, eci, is_sa)` — the quantity `find_version`, `boost_error_level` and
    `encode` compare with `consts.SYMBOL_CAPACITY` (C04, C05) — for every segment list, every version number ≤ 40 and
    every flag combination.  The translated method reads the segment list through `self.modes`, `self.bit_length` and
    the count of ECI indicators; these are supplied from the model's segments.
    (For version > 40 Python raises `ValueError` in `version_range` where the model reports `KeyError`; the encoder never
    asks for such a version.) -/
theorem bit_length_with_overhead_tie (segs : List Segment) (v : Int) (hv : v ≤ 40) (eci isSa : Bool) :
    Gen.Funcs.bit_length_with_overhead v eci isSa
        (Int.ofNat (segs.filter (fun s => s.mode == Gen.MODE_BYTE && s.encoding != some Gen.DEFAULT_BYTE_ENCODING)).length)
        (segs.map (fun s => (s.mode : Int))) (Int.ofNat (sumNat (segs.map (fun s => s.bits.length))))
      = ofOption .keyError ((Model.bitLengthWithOverhead segs v eci isSa).map Int.ofNat) := by
  unfold Gen.Funcs.bit_length_with_overhead Model.bitLengthWithOverhead
  -- both sides read the character count table with the same version range …
  have hvr : (if decide (v > 0) then Gen.Funcs.version_range v else Except.ok v)
      = .ok (if v > 0 then Gen.version_range v else v) := by
    by_cases h0 : 0 < v
    · simp only [gt_iff_lt, h0, decide_true, if_true, version_range_ok v h0 hv]
    · simp only [gt_iff_lt, h0, decide_false, if_false, Bool.false_eq_true]
  simp only [sum_hanzi, hvr, Gen.Py.bind_ok]
  rw [sumM_cci]
  cases hm : List.mapM (fun s => cciLen s.mode (if v > 0 then Gen.version_range v else v)) segs with
  | none => cases eci <;> rfl
  | some l =>
    -- … and add the same overhead to it
    simp only [Option.map_some, ofOption_some, Gen.Py.bind_ok, List.length_map]
    simp only [Option.bind_eq_bind, Option.bind_some, Option.pure_def, Option.map_some, ofOption_some, Gen.VERSION_M1]
    generalize (List.filter (fun s => s.mode == Gen.MODE_BYTE && s.encoding != some Gen.DEFAULT_BYTE_ENCODING) segs).length = ne
    generalize (List.filter (fun s => s.mode == Gen.MODE_HANZI) segs).length = nh
    generalize sumNat (List.map (fun s => s.bits.length) segs) = sb
    generalize sumNat l = sc
    by_cases h0 : v > 0
    · simp only [h0, decide_true, if_true]
      cases eci <;> cases isSa <;> simp [Int.ofNat_eq_natCast] <;> omega
    · simp only [h0, decide_false, Bool.false_eq_true, if_false]
      by_cases h3 : v > -3
      · have hp : Int.ofNat (segs.length * (v + 3).toNat) = Int.ofNat segs.length * (v + 3) := by
          simp only [Int.ofNat_eq_natCast]; push_cast; rw [Int.toNat_of_nonneg (by omega)]
        simp only [h3, decide_true, if_true]
        generalize hP : Int.ofNat segs.length * (v + 3) = P at hp ⊢
        generalize segs.length * (v + 3).toNat = Q at hp ⊢
        cases eci <;> cases isSa <;> simp [Int.ofNat_eq_natCast] at hp ⊢ <;> omega
      · simp only [h3, decide_false, Bool.false_eq_true, if_false]
        cases eci <;> cases isSa <;> simp [Int.ofNat_eq_natCast]

example : Gen.Funcs.bit_length_with_overhead 1 false false 0 [4] 80 = .ok 92
    ∧ Gen.Funcs.bit_length_with_overhead (-1) false false 0 [1, 2] 30 = .ok 43 := by decide

/-! ## encoder.py: names (no counterpart in the model: the documented facts) -/

/-- `get_mode_name` inverts `consts.MODE_MAPPING`, and refuses every other number -/
theorem get_mode_name_fact (c : Int) :
    Gen.Funcs.get_mode_name c = ofOption .valueError ((Gen.MODE_MAPPING.find? (fun kv => (kv.2 : Int) == c)).map (·.1)) := by
  by_cases hk : 1 = c ∨ 2 = c ∨ 4 = c ∨ 8 = c ∨ 13 = c
  · rcases hk with h | h | h | h | h <;> subst h <;> decide
  · -- every test of the chain and of the table search fails
    simp only [not_or, ← ne_eq, ← beq_eq_false_iff_ne] at hk
    simp [Gen.Funcs.get_mode_name, Gen.MODE_MAPPING, List.find?, hk]

/-- `get_error_name` inverts `consts.ERROR_MAPPING`, and refuses every other number -/
theorem get_error_name_fact (c : Int) :
    Gen.Funcs.get_error_name c = ofOption .valueError ((Gen.ERROR_MAPPING.find? (fun kv => (kv.2 : Int) == c)).map (·.1)) := by
  by_cases hk : 0 = c ∨ 1 = c ∨ 2 = c ∨ 3 = c
  · rcases hk with h | h | h | h <;> subst h <;> decide
  · simp only [not_or, ← ne_eq, ← beq_eq_false_iff_ne] at hk
    simp [Gen.Funcs.get_error_name, Gen.ERROR_MAPPING, List.find?, hk]

/-- `get_version_name`: the number itself for 1 … 40, the name from `consts.MICRO_VERSION_MAPPING` for a Micro QR
    version constant, `ValueError` otherwise — i.e. exactly for the versions `normalize_version` produces -/
theorem get_version_name_fact (v : Int) :
    Gen.Funcs.get_version_name v =
      if 0 < v ∧ v < 41 then .ok (.inl v)
      else ofOption .valueError ((Gen.MICRO_VERSION_MAPPING.find? (fun kv => kv.2 == v)).map (fun kv => .inr kv.1)) := by
  by_cases hk : -3 = v ∨ -2 = v ∨ -1 = v ∨ 0 = v
  · rcases hk with h | h | h | h <;> subst h <;> decide
  · simp only [not_or, ← ne_eq, ← beq_eq_false_iff_ne] at hk
    simp [Gen.Funcs.get_version_name, Gen.MICRO_VERSION_MAPPING, List.find?, hk]

example : Gen.Funcs.get_mode_name 8 = .ok "kanji" ∧ Gen.Funcs.get_error_name 2 = .ok "H"
    ∧ Gen.Funcs.get_version_name (-3) = .ok (.inr "M1") ∧ Gen.Funcs.get_version_name 7 = .ok (.inl 7) := by decide

/-! ## encoder.py: argument normalisation (the `int` / `None` domain of the arguments) -/

/-- `normalize_version(None)` -/
theorem normalize_version_none_tie : toR (Gen.Funcs.normalize_version none) = normalizeVersion .none := rfl

/-- `normalize_version(i)` for every integer i -/
theorem normalize_version_int_tie (i : Int) : toR (Gen.Funcs.normalize_version (some i)) = normalizeVersion (.int i) := by
  unfold Gen.Funcs.normalize_version normalizeVersion
  simp only [pyInt, Gen.Funcs.T_consts_MICRO_VERSIONS, Gen.MICRO_VERSIONS]
  by_cases h : i < 1
  · simp [h, exc, Proofs.Except.throw_eq_error]
  · simp [h, pure, Proofs.Except.throw_eq_error, Except.pure]
    split_ifs <;> simp_all [exc] <;> omega

example : toR (Gen.Funcs.normalize_version (some 40)) = .ok (some 40) ∧ toR (Gen.Funcs.normalize_version (some 0)) = .error .valueError := by
  decide

/-- `normalize_mask(None, is_micro)` -/
theorem normalize_mask_none_tie (b : Bool) :
    toR (Gen.Funcs.normalize_mask none b) = (normalizeMask .none b).map (Option.map Int.ofNat) := rfl

/-- `normalize_mask(i, is_micro)` for every integer i -/
theorem normalize_mask_int_tie (i : Int) (b : Bool) :
    toR (Gen.Funcs.normalize_mask (some i) b) = (normalizeMask (.int i) b).map (Option.map Int.ofNat) := by
  unfold Gen.Funcs.normalize_mask normalizeMask
  simp only [maskRequest, pyInt]
  cases b <;> simp [pure, Proofs.Except.throw_eq_error, Except.pure] <;>
    split_ifs <;> simp_all [exc, Except.map] <;> omega

example : toR (Gen.Funcs.normalize_mask (some 7) false) = .ok (some 7) ∧ toR (Gen.Funcs.normalize_mask (some 4) true) = .error .valueError := by
  decide

/-- `normalize_mode(None)` -/
theorem normalize_mode_none_tie : toR (Gen.Funcs.normalize_mode none) = (normalizeMode .none).map (Option.map Int.ofNat) := rfl

/-- `normalize_mode(i)` for every integer i: the mode constants are accepted, everything else is a `ValueError`
    (`i.lower()` raises `AttributeError`, which is caught) -/
theorem normalize_mode_int_tie (i : Int) :
    toR (Gen.Funcs.normalize_mode (some i)) = (normalizeMode (.int i)).map (Option.map Int.ofNat) := by
  unfold Gen.Funcs.normalize_mode normalizeMode
  exact in_values_tie _ Gen.MODE_MAPPING i (by decide) (by decide)

example : toR (Gen.Funcs.normalize_mode (some 13)) = .ok (some 13) := by decide

/-- `normalize_errorlevel(None, accept_none=True)` -/
theorem normalize_errorlevel_none_tie :
    toR (Gen.Funcs.normalize_errorlevel none true) = (normalizeErrorLevel .none).map (Option.map Int.ofNat) := rfl

/-- `normalize_errorlevel(None)` (accept_none=False) is refused -/
theorem normalize_errorlevel_none_refused : Gen.Funcs.normalize_errorlevel none false = .error .valueError := rfl

/-- `normalize_errorlevel(i, accept_none)` for every integer i -/
theorem normalize_errorlevel_int_tie (i : Int) (acc : Bool) :
    toR (Gen.Funcs.normalize_errorlevel (some i) acc) = (normalizeErrorLevel (.int i)).map (Option.map Int.ofNat) := by
  unfold Gen.Funcs.normalize_errorlevel normalizeErrorLevel
  exact in_values_tie _ Gen.ERROR_MAPPING i (by decide) (by decide)

example : toR (Gen.Funcs.normalize_errorlevel (some 2) false) = .ok (some 2) := by decide

/-! ## utils.py: border, scale, symbol size -/

/-- `get_default_border_size(width, height)`: the arithmetic translation is the AST translation -/
theorem get_default_border_size_tie (w h : Int) : Gen.Funcs.get_default_border_size (w, h) = Gen.get_default_border_size w h := rfl

/-- ISO/IEC 18004 §5.3.8 / §9.1: the quiet zone is 4 modules for every QR Code version and 2 modules for every Micro QR
    Code version (the default border of a square symbol of the size `calc_matrix_size` gives) -/
theorem get_default_border_size_iso (v : Int) (hv : -3 ≤ v) :
    Gen.Funcs.get_default_border_size (Gen.Funcs.calc_matrix_size v, Gen.Funcs.calc_matrix_size v) = if 0 < v then 4 else 2 := by
  unfold Gen.Funcs.get_default_border_size Gen.Funcs.calc_matrix_size
  split_ifs <;> simp_all <;> omega

/-- `check_valid_scale(scale)` for every integer: `ValueError` exactly for scale ≤ 0 -/
theorem check_valid_scale_tie (s : Int) : toR (Gen.Funcs.check_valid_scale s) = Model.checkValidScale s := by
  unfold Gen.Funcs.check_valid_scale Model.checkValidScale
  split_ifs <;> simp_all [exc, pure, Proofs.Except.throw_eq_error, Except.pure]

/-- `check_valid_border` for `None` and every integer -/
theorem check_valid_border_tie (b : Option Int) :
    toR (Gen.Funcs.check_valid_border b) = Model.checkValidBorder (b.map Model.Num.int) := by
  unfold Gen.Funcs.check_valid_border Model.checkValidBorder
  cases b <;> simp [Model.Num.isFractional, Model.Num.isNegative, pure, Proofs.Except.throw_eq_error, Except.pure]
  split_ifs <;> simp_all [exc]

/-- `get_border`: the border the iterators of the model use -/
theorem get_border_tie (w h : Nat) (b : Option Int) :
    Model.borderForRange w h (b.map Model.Num.int) = .ok (Gen.Funcs.get_border ((w : Int), (h : Int)) b).toNat := by
  cases b <;> rfl

/-- `get_symbol_size` (no counterpart in the model): the documented size, (width + 2·border)·scale × (height + 2·border)·scale -/
theorem get_symbol_size_fact (w h s : Int) (b : Option Int) :
    Gen.Funcs.get_symbol_size (w, h) s b
      = ((w + 2 * Gen.Funcs.get_border (w, h) b) * s, (h + 2 * Gen.Funcs.get_border (w, h) b) * s) := by
  cases b <;> rfl

example : Gen.Funcs.get_symbol_size (21, 21) 10 none = (290, 290) ∧ Gen.Funcs.get_symbol_size (11, 11) 1 none = (15, 15) := by decide

/-- `get_bit(i, j)` of `matrix_iter_verbose` inside the symbol, for every symbol size, flag combination and position:
    the module type is the one the model's decision chain (`getBitBranch`, C09 / C11) yields.
    `val` = `matrix[i][j]` ∈ {0, 1}, `a` = `alignment_matrix[i][j]` ∈ {0, 1, 2}. -/
theorem get_bit_inside_tie (w h i j : Int) (sq mi : Bool) (a val : Nat) (hi : 0 ≤ i ∧ i < h) (hj : 0 ≤ j ∧ j < w)
    (ha : a = 0 ∨ a = 1 ∨ a = 2) (hval : val = 0 ∨ val = 1) :
    Gen.Funcs.get_bit w h sq mi i j val a = .ok (Int.ofNat (Model.getBitInside w h sq mi a val i j)) := by
  have hin : (((decide ((0 : Int) ≤ i)) && (decide (i < h))) && ((decide ((0 : Int) ≤ j)) && (decide (j < w)))) = true := by
    simp [hi, hj]
  unfold Gen.Funcs.get_bit Model.getBitInside Model.getBitBranch
  rw [if_pos hin]
  -- the `return` statements: `(LIGHT, DARK)[val]` is `pick LIGHT DARK val`
  have leaf (x y : Nat) : index [(x : Int), (y : Int)] (val : Int) = .ok (Int.ofNat (pick x y val)) := by
    rcases hval with rfl | rfl <;> rfl
  let f (br : Branch) : M Int := .ok (Int.ofNat (branchCode br a val))
  -- the part of the chain from the timing pattern on occurs three times in the translation
  have tail := fun c₁ c₂ c₃ c₄ =>
    ite_branch f c₁ (p := .timing) (leaf 12 3072) <| ite_branch f c₂ (p := .format) (leaf 14 3584) <|
    ite_branch f c₃ (p := .finder) (leaf 6 1536) <| ite_branch f c₄ (p := .separator) rfl (q := .data) (leaf 4 1024)
  cases mi
  · rw [ite_ite_and]
    simp only [Bool.not_false, Bool.true_and, if_true]
    have rest := fun c₁ c₂ c₃ c₄ c₅ c₆ =>
      ite_branch f c₁ (p := .version) (leaf 16 4096) <| ite_branch f c₂ (p := .darkmodule) rfl (tail c₃ c₄ c₅ c₆)
    -- `alignment_val` is 0 or 1 at the first `return`; for 2 the first test fails on both sides
    rcases ha with rfl | rfl | rfl
    · exact ite_branch f _ (p := .alignment) rfl (rest _ _ _ _ _ _)
    · exact ite_branch f _ (p := .alignment) rfl (rest _ _ _ _ _ _)
    · exact rest _ _ _ _ _ _
  · simp only [Bool.not_true, Bool.false_and, Bool.false_eq_true, if_false]
    exact tail _ _ _ _

/-- `get_bit(ii − border, jj − border)` exactly as `matrix_iter_verbose` calls it (flags computed from the size, values read
    from the matrix and the alignment matrix) is the cell function `verboseCell` of the model, quiet zone included -/
theorem get_bit_tie (M A : List (List Nat)) (w h b ii jj : Nat)
    (hval : ∀ i j, (M.getD i []).getD j 0 = 0 ∨ (M.getD i []).getD j 0 = 1)
    (ha : ∀ i j, (A.getD i []).getD j 2 = 0 ∨ (A.getD i []).getD j 2 = 1 ∨ (A.getD i []).getD j 2 = 2) :
    Gen.Funcs.get_bit w h (w == h) (w == h && decide (w < 21)) ((ii : Int) - b) ((jj : Int) - b)
        ((M.getD (ii - b) []).getD (jj - b) 0) ((A.getD (ii - b) []).getD (jj - b) 2)
      = .ok (Int.ofNat (Model.verboseCell M A w h b ii jj)) := by
  unfold Model.verboseCell
  by_cases hin : b ≤ ii ∧ ii < b + h ∧ b ≤ jj ∧ jj < b + w
  · rw [if_pos hin]
    have e1 : ((ii : Int) - b) = ((ii - b : Nat) : Int) := by omega
    have e2 : ((jj : Int) - b) = ((jj - b : Nat) : Int) := by omega
    rw [e1, e2]
    exact get_bit_inside_tie w h _ _ _ _ _ _ (by omega) (by omega) (ha _ _) (hval _ _)
  · rw [if_neg hin]
    exact get_bit_outside _ _ _ _ _ _ _ _ (by omega)

example : Gen.Funcs.get_bit 21 21 true false 13 8 1 2 = .ok 512 ∧ Gen.Funcs.get_bit 21 21 true false 6 10 1 2 = .ok 3072
    ∧ Gen.Funcs.get_bit 21 21 true false (-1) 3 0 2 = .ok 18 := by decide

/-! ## writers.py -/

/-- `_alpha_value(a, alpha_float=False)` for an integer a ≥ 0 -/
theorem alpha_value_tie (a : Nat) : toR (Gen.Funcs._alpha_value a) = (Model.alphaOfInt a).map Int.ofNat := by
  unfold Gen.Funcs._alpha_value Model.alphaOfInt
  simp [pure, Proofs.Except.throw_eq_error, Except.pure]
  split_ifs <;> simp_all [exc, Except.map] <;> omega

/-- `_alpha_value(a, alpha_float=False)` refuses negative integers -/
theorem alpha_value_negative (a : Int) (h : a < 0) : Gen.Funcs._alpha_value a = .error .valueError := by
  unfold Gen.Funcs._alpha_value
  split_ifs <;> simp_all <;> omega

/-- `_valid_width_height_and_border`: refuses exactly what the model's `validSB` refuses … -/
theorem valid_width_height_and_border_tie (w h s : Int) (b : Option Int) :
    toR ((Gen.Funcs._valid_width_height_and_border (w, h) s b).map (fun _ => ())) =
      Model.RasterDocs.validSB (.int s) (b.map Model.Num.int) := by
  unfold Gen.Funcs._valid_width_height_and_border Model.RasterDocs.validSB
  rw [← check_valid_scale_tie, ← check_valid_border_tie]
  simp only [Model.Num.toInt]
  cases hs : Gen.Funcs.check_valid_scale s <;> cases hb : Gen.Funcs.check_valid_border b <;> rfl

/-- … and returns the symbol size and the effective border -/
theorem valid_width_height_and_border_value (w h s : Int) (b : Option Int) (r : Int × Int × Int)
    (hr : Gen.Funcs._valid_width_height_and_border (w, h) s b = .ok r) :
    r = ((w + 2 * Gen.Funcs.get_border (w, h) b) * s, (h + 2 * Gen.Funcs.get_border (w, h) b) * s, Gen.Funcs.get_border (w, h) b) := by
  unfold Gen.Funcs._valid_width_height_and_border at hr
  cases hs : Gen.Funcs.check_valid_scale s <;> cases hb : Gen.Funcs.check_valid_border b <;> simp [hs, hb] at hr
  rw [← hr]
  rfl

example : Gen.Funcs._valid_width_height_and_border (21, 21) 2 none = .ok (58, 58, 4) := by decide

end Props.TieA
