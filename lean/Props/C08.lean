/-
  C08 — Structured Append sequences reassemble: `divide_into_chunks` cuts the message into whole
  characters whose concatenation is the message; every symbol starts with the header 0011 ‖ i₄ ‖
  (total − 1)₄ ‖ parity₈, parity being the judge's `Spec.xorAll` of the message; 1 to 16 QR Code symbols
  result; with a requested symbol count every symbol fits its capacity, with a requested version it
  need not (finding D16).
-/
import Proofs.Sequence
import Spec.Judge

namespace Props.C08
open Model Proofs.Sequence

/-- `divide_into_chunks(d, k, cs)` for any data whose length is a multiple of the character size:
    exactly k chunks, whole characters only, concatenation = d, sizes differ by at most one character. -/
theorem chunks_concat (d : List Nat) (k cs : Nat) (hk : 0 < k) (hcs : 0 < cs) (hdiv : cs ∣ d.length) :
    (divideIntoChunks d k cs).length = k
    ∧ (divideIntoChunks d k cs).flatten = d
    ∧ (∀ c ∈ divideIntoChunks d k cs, cs ∣ c.length)
    ∧ (∀ a ∈ divideIntoChunks d k cs, ∀ b ∈ divideIntoChunks d k cs, a.length / cs ≤ b.length / cs + 1) := by
  refine ⟨divideIntoChunks_length d k cs, ?_, ?_, ?_⟩
  · rw [divideIntoChunks_flatten d k cs hk, Nat.div_mul_cancel hdiv, List.take_length]
  · intro c hc
    obtain ⟨i, hi, rfl⟩ := List.getElem_of_mem hc
    rw [divideIntoChunks_getElem_length d k cs hk i hi]
    exact Nat.dvd_mul_left _ _
  · intro a ha b hb
    obtain ⟨i, hi, rfl⟩ := List.getElem_of_mem ha
    obtain ⟨j, hj, rfl⟩ := List.getElem_of_mem hb
    rw [divideIntoChunks_getElem_length d k cs hk i hi, divideIntoChunks_getElem_length d k cs hk j hj,
      Nat.mul_div_cancel _ hcs, Nat.mul_div_cancel _ hcs]
    split <;> split <;> omega

/-- non-vacuity: 7 two-byte characters in 3 chunks -/
example : divideIntoChunks [1, 2, 3, 4, 5, 6, 7, 8, 9, 10, 11, 12, 13, 14] 3 2 = [[1, 2, 3, 4, 5, 6], [7, 8, 9, 10], [11, 12, 13, 14]] := by
  decide

/-- the parity the model puts into every header is the XOR of all bytes of the message (the judge's
    `Spec.xorAll`), and it fits the 8 bit field -/
theorem parity_is_xor (segs : List Segment) (msg : List Nat) (msgEnc : String) (error : Option Nat) (version : Option Int)
    (eci : Bool) (symbolCount : Option Nat) (mode : Nat) (chunks : List (List Nat)) (v : Int) (parity : Nat)
    (h : planSequence segs msg msgEnc error version eci symbolCount = .ok (mode, chunks, v, parity)) :
    parity = Spec.xorAll msg ∧ ((∀ b ∈ msg, b < 256) → parity < 256) := by
  rw [(planSequence_ok h).parity_eq]
  exact ⟨rfl, xorBytes_lt msg⟩

/-- Every symbol of a Structured Append sequence is `_encode`'s tail applied to a data bit stream that
    starts with 0011 ‖ i₄ ‖ (total − 1)₄ ‖ parity₈ where parity is the XOR of the message bytes — the same
    in all symbols.  (`Model.encodeTail buff …` is `_encode` from the point where its data bit stream `buff`,
    header and segments, is complete; `Proofs.Sequence.encodeCore_eq`.) -/
theorem sa_header_bits (parts : List Part) (msg : List Nat) (msgEnc : String) (error : Option Nat) (version : Option Int)
    (mask : Option Nat) (eci boost : Bool) (symbolCount : Option Int) (n : String → Option Nat) (cs : List Code)
    (h : encodeSequenceAux parts msg msgEnc error version mask eci boost symbolCount n = .ok (true, cs))
    (i : Nat) (hi : i < cs.length) :
    ∃ payload,
      encodeTail ([0, 0, 1, 1] ++ appendBits i 4 ++ appendBits (cs.length - 1) 4 ++ appendBits (Spec.xorAll msg) 8 ++ payload)
        cs[i].segments cs[i].error cs[i].version mask = .ok cs[i] := by
  obtain ⟨segs, mode, chunks, v, parity, sr⟩ := encodeSequenceAux_sa h
  obtain ⟨segs', -, henc⟩ := sr.symbol i hi
  obtain ⟨-, ⟨r⟩⟩ := (encodeCore_iff ..).1 henc
  refine ⟨r.segBits.flatten, ?_⟩
  rw [r.hver, r.hsegs]
  have hhdr : saHeader (some (i, cs.length - 1, parity))
      = [0, 0, 1, 1] ++ appendBits i 4 ++ appendBits (cs.length - 1) 4 ++ appendBits (Spec.xorAll msg) 8 := by
    rw [(planSequence_ok sr.plan).parity_eq]; rfl
  rw [← hhdr]
  exact (encodeTail_iff ..).2 ⟨r.hver, rfl, r.hsegs, ⟨r.tail⟩⟩

/-- 1 ≤ count ≤ 16; `symbol_count = k` alone gives exactly k symbols; `version = v` alone gives only
    version-v symbols; never a Micro QR symbol. -/
theorem count_bounds (parts : List Part) (msg : List Nat) (msgEnc : String) (error : Option Nat) (version : Option Int)
    (mask : Option Nat) (eci boost : Bool) (symbolCount : Option Int) (n : String → Option Nat) (cs : List Code)
    (h : encodeSequence parts msg msgEnc error version mask eci boost symbolCount n = .ok cs) :
    1 ≤ cs.length ∧ cs.length ≤ 16
    ∧ (∀ k, symbolCount = some k → version = none → (cs.length : Int) = k)
    ∧ (∀ v, version = some v → symbolCount = none → ∀ c ∈ cs, c.version = v)
    ∧ (∀ c ∈ cs, 1 ≤ c.version ∧ c.version ≤ 40) := by
  unfold encodeSequence at h
  obtain ⟨⟨isSa, cs'⟩, haux, rfl⟩ := map_ok.1 h
  exact encodeSequenceAux_count haux

/-- the data bit stream of the symbol made from `chunk` (mode indicator, character count, payload and
    the 20 bit Structured Append header) fits the capacity of version `v` at level `error` -/
def ChunkFits (chunk : List Nat) (mode : Nat) (msgEnc : String) (v : Int) (error : Option Nat) (eci : Bool) : Prop :=
  ∃ segs bl cap, oneItemSegments chunk mode msgEnc = .ok segs ∧ bitLengthWithOverhead segs v eci true = some bl
    ∧ capacity v error = some cap ∧ bl ≤ cap

/-- With a requested symbol count the version is searched for the longest chunk and the bit length
    is monotone in the chunk length, hence every chunk fits.  (Not so on the `version=` path, where the
    number of symbols is only estimated: `EachFits` below, D16.) -/
theorem each_fits_partial (segs : List Segment) (msg : List Nat) (msgEnc : String) (e : Nat) (version : Option Int) (eci : Bool)
    (k : Nat) (mode : Nat) (chunks : List (List Nat)) (v : Int) (parity : Nat)
    (h : planSequence segs msg msgEnc (some e) version eci (some k) = .ok (mode, chunks, v, parity))
    (hseg : ∀ c ∈ chunks, (oneItemSegments c mode msgEnc).isOk) :
    ∀ c ∈ chunks, ChunkFits c mode msgEnc v (some e) eci := by
  obtain ⟨segsL, hL, hfv⟩ := (planSequence_ok h).find k rfl
  obtain ⟨_, _, cap, blL, hcap, hblL, hle⟩ := Proofs.EncodeStages.findVersion_qr _ _ _ _ _ hfv
  intro c hc
  cases hC : oneItemSegments c mode msgEnc with
  | error err => have hok := hseg c hc; rw [hC] at hok; cases hok
  | ok segsC =>
    obtain ⟨blC, hblC, hCL⟩ := oneItem_bitLength_mono c (longest chunks) mode msgEnc v eci true segsC segsL blL
      (longest_ge chunks c hc) hC hL hblL
    exact ⟨segsC, blC, cap, hC, hblC, hcap, Nat.le_trans hCL hle⟩

/-- the same on the symbols the model returns (`symbol_count` requested): the data bit stream of every
    symbol — Structured Append header included — fits the capacity of the version and of the error
    level the symbol was finally given (boosting included). -/
theorem each_symbol_fits_partial (parts : List Part) (msg : List Nat) (msgEnc : String) (error : Option Nat) (version : Option Int)
    (mask : Option Nat) (eci boost : Bool) (k : Int) (n : String → Option Nat) (cs : List Code)
    (h : encodeSequenceAux parts msg msgEnc error version mask eci boost (some k) n = .ok (true, cs)) :
    ∀ c ∈ cs, ∃ bl cap, bitLengthWithOverhead c.segments c.version eci true = some bl
      ∧ capacity c.version c.error = some cap ∧ bl ≤ cap := by
  obtain ⟨segs, mode, chunks, v, parity, sr⟩ := encodeSequenceAux_sa h
  obtain ⟨e, he⟩ := level_some error
  -- every chunk has its segments, being the chunk of some symbol
  have hfits := each_fits_partial _ _ _ _ _ _ _ _ _ _ _ (he ▸ sr.plan) (fun c hc => by
    obtain ⟨j, hj, rfl⟩ := List.getElem_of_mem hc
    obtain ⟨_, hs, _⟩ := sr.symbol j (sr.len ▸ hj)
    rw [hs]; rfl)
  intro c hc
  obtain ⟨i, hi, rfl⟩ := List.getElem_of_mem hc
  obtain ⟨segs', hs', henc⟩ := sr.symbol i hi
  obtain ⟨segsC, bl, cap, h1, hfit⟩ := hfits _ (List.getElem_mem (sr.len ▸ hi))
  rw [hs'] at h1
  cases h1
  obtain ⟨hv, hsg, _⟩ := encodeCore_ok _ _ _ _ _ _ _ _ _ henc
  rw [hv, hsg]
  obtain ⟨hbl, hcap, hle⟩ := hfit
  obtain ⟨cap', bl', hcap', hbl', hle'⟩ := fit_final _ _ _ _ _ _ _ _ _ ⟨cap, bl, he ▸ hcap, hbl, hle⟩ henc
  exact ⟨bl', cap', hbl', hcap', hle'⟩

/-- non-vacuity of `each_fits_partial`: 10 digits in 3 symbols (chunks of 4, 3, 3 digits, version 1) -/
example : (planSequence [{ bits := [], charCount := 10, mode := 1, encoding := none }] [49, 50, 51, 52, 53, 54, 55, 56, 57, 48]
      "iso-8859-1" (some 1) none false (some 3)).toOption
    = some (1, [[49, 50, 51, 52], [53, 54, 55], [56, 57, 48]], 1, 1) := by
  decide +kernel

/-- "Every symbol's data fits its capacity", for every planned sequence.  It does NOT hold for the model
    (nor for the implementation, finding D16): see `each_fits_fails_by_version`. -/
def EachFits : Prop :=
  ∀ (segs : List Segment) (msg : List Nat) (msgEnc : String) (e : Nat) (version : Option Int) (eci : Bool)
    (symbolCount : Option Nat) (mode : Nat) (chunks : List (List Nat)) (v : Int) (parity : Nat),
    planSequence segs msg msgEnc (some e) version eci symbolCount = .ok (mode, chunks, v, parity) →
    (∀ c ∈ chunks, (oneItemSegments c mode msgEnc).isOk) →
    ∀ c ∈ chunks, ChunkFits c mode msgEnc v (some e) eci

/-- the numeric message '1' * len of the witness -/
def digitsMsg (len : Nat) : List Nat := List.replicate len 49

/-- does the model, asked for version `v` at level `lvl` (no symbol count), plan a first chunk of
    '1' * len whose bit stream is longer than the capacity? -/
def firstChunkOverflows (len : Nat) (v : Int) (lvl : Nat) : Bool :=
  match prepareData [{ data := digitsMsg len, mode := none, encoding := "iso-8859-1" }] with
  | .ok segs =>
    match planSequence segs (digitsMsg len) "iso-8859-1" (some lvl) (some v) false none with
    | .ok (mode, chunk :: _, v', _) =>
      (match oneItemSegments chunk mode "iso-8859-1" with
       | .ok segs' =>
         (match bitLengthWithOverhead segs' v' false true, capacity v' (some lvl) with
          | some bl, some cap => decide (cap < bl)
          | _, _ => false)
       | .error _ => false)
    | _ => false
  | .error _ => false

/-- D16, kernel-checked witness: `make_sequence('1' * 71, version=1)` (level L, capacity 152 bits) is
    planned as 2 symbols whose first chunk has 36 digits = 20 + 4 + 10 + 120 = 154 bits. -/
example : firstChunkOverflows 71 1 Gen.ERROR_LEVEL_L = true := by decide +kernel

/-- `EachFits` therefore fails (for the model exactly as for the implementation) -/
theorem each_fits_fails_by_version : ¬ EachFits := by
  intro hall
  have hplan : (planSequence [{ bits := [], charCount := 71, mode := 1, encoding := none }] (digitsMsg 71) "iso-8859-1"
      (some 1) (some 1) false none).toOption
      = some (1, [digitsMsg 36, digitsMsg 35], 1, 49) := by decide +kernel
  cases hp : planSequence [{ bits := [], charCount := 71, mode := 1, encoding := none }] (digitsMsg 71) "iso-8859-1"
      (some 1) (some 1) false none with
  | error e => rw [hp] at hplan; cases hplan
  | ok r =>
    rw [hp] at hplan
    simp only [Except.toOption, Option.some.injEq] at hplan
    subst hplan
    have hsegs : ∀ c ∈ [digitsMsg 36, digitsMsg 35], (oneItemSegments c 1 "iso-8859-1").isOk := by decide +kernel
    obtain ⟨segs, bl, cap, h1, h2, h3, h4⟩ := hall _ _ _ _ _ _ _ _ _ _ _ hp hsegs (digitsMsg 36) (by simp)
    have hb : (oneItemSegments (digitsMsg 36) 1 "iso-8859-1").toOption.bind (fun s => bitLengthWithOverhead s 1 false true) = some 154 := by
      decide +kernel
    have hc : capacity 1 (some 1) = some 152 := by decide +kernel
    rw [h1] at hb
    simp only [Except.toOption, Option.bind_some] at hb
    rw [h2] at hb
    rw [h3] at hc
    cases hb; cases hc
    omega

end Props.C08
