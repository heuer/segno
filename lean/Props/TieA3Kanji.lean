/-
  Tie A — `make_segment`: the kanji and hanzi branches (pairs of bytes in 13 bits, with their `ValueError`s), and
  the case analysis over (requested mode, mode found by `find_mode`) that puts the branch theorems of Props/TieA3.lean together.

  FINDING: `Props.TieA3.make_segment_tie_statement` is FALSE as stated (`make_segment_tie_statement_false`): for a requested
  mode NUMBER that is no mode constant (not 1, 2, 4, 8, 13), not below the mode `find_mode` finds, and an ODD number of bytes
  whose complete pairs are all valid Shift JIS double bytes, the code runs into its last `else` (the kanji loop, without the
  parity check, which is made for 8 and 13 only) and reads `segment_data[i + 1]` past the end: `IndexError`; `Model.makeSegment`
  drops the odd byte (`Model.pairs`) and returns a segment.  Smallest input: mode 3, data b"1".  `make_segment_tie_full_partial`
  is the statement with that corner excluded (all odd lengths for such a mode number: also those with an invalid complete pair,
  where both sides raise `ValueError`).
-/
import Props.TieA3
import Proofs.TieA3Kanji

namespace Props.TieA3
open Gen.Py Proofs.TieA Proofs.TieA2 Proofs.TieA3 Model

/-- a requested mode NUMBER that is none of the constants 1, 2, 4, 13 and not below the mode found runs into the last `else` of
    the code (the kanji loop; the number of characters is halved for 8 only): for an EVEN number of bytes the model agrees -/
theorem make_segment_tie_other_even (raw : String) (data : List Nat) (m : Nat) (enc : Option String) (encName : String)
    (intOf : List Int → M Int) (hd : ∀ b ∈ data, b < 256) (hev : data.length % 2 = 0)
    (hm : m ≠ 1 ∧ m ≠ 2 ∧ m ≠ 4 ∧ m ≠ 13) (hge : ¬ m < findMode data) :
    toR (Gen.Funcs3.make_segment raw (some (m : Int)) enc (.ok (toI data, (data.length : Int), encName)) (findMode data : Int) intOf)
      = (Model.makeSegment data (some m) encName).map segI := by
  have h1 := make_segment_kanji_py raw data m enc encName intOf hd hev hm hge
  have h2 := make_segment_kanji_model data m encName hev hm hge
  refine h1.trans ?_
  rw [h2]
  cases List.mapM kanjiGroup (pairs data) <;> rfl

/-- kanji / hanzi mode — requested (8, 13; whatever `find_mode` finds, which is never above 8), or found by `find_mode` when no
    mode is requested (kanji only) — for EVERY byte string: two bytes per character, `ValueError` for an odd number of bytes,
    `ValueError` at the first pair whose trail byte is outside the range (hanzi: 0xA1 … 0xFE, kanji: `_is_shift_jis_trail_byte`) or
    whose code is outside both code ranges; otherwise 13 bits per pair ((diff >> 8) · 0x60 / 0xC0 + (diff & 0xFF)); the same
    outcome as `Model.makeSegment` (`Model.pairs` / `mapM`). -/
theorem make_segment_tie_kanji_hanzi (raw : String) (data : List Nat) (mode : Option Nat) (enc : Option String) (encName : String)
    (intOf : List Int → M Int) (hd : ∀ b ∈ data, b < 256)
    (hmode : mode = some 8 ∨ mode = some 13 ∨ (mode = none ∧ findMode data = 8)) :
    toR (Gen.Funcs3.make_segment raw (mode.map Int.ofNat) enc (.ok (toI data, (data.length : Int), encName)) (findMode data : Int) intOf)
      = (Model.makeSegment data mode encName).map segI := by
  have hle : ¬ 8 < findMode data := Nat.not_lt.2 (findMode_le_8 data)
  have h8 : toR (Gen.Funcs3.make_segment raw (some (8 : Int)) enc (.ok (toI data, (data.length : Int), encName)) (findMode data : Int) intOf)
      = (Model.makeSegment data (some 8) encName).map segI := by
    by_cases hev : data.length % 2 = 0
    · exact make_segment_tie_other_even raw data 8 enc encName intOf hd hev (by omega) hle
    · exact make_segment_tie_odd raw data 8 enc encName intOf (Or.inl rfl) (by omega)
  rcases hmode with rfl | rfl | ⟨rfl, hg⟩
  · exact h8
  · by_cases hev : data.length % 2 = 0
    · rw [make_segment_hanzi_model data encName hev]
      refine (make_segment_hanzi_py raw data enc encName intOf hd hev).trans ?_
      cases List.mapM hanziGroup (pairs data) <;> rfl
    · exact make_segment_tie_odd raw data 13 enc encName intOf (Or.inr rfl) (by omega)
  · rw [Option.map_none, make_segment_none, makeSegment_none, hg]
    rw [hg] at h8
    exact h8

/-- the FULL statement with one corner excluded: a requested mode number that is no mode constant (1, 2, 4, 8, 13) and not below
    the mode found, with an ODD number of bytes (there the code raises `IndexError` where the model returns a segment, unless a
    complete pair is invalid; see `make_segment_tie_statement_false`).  Every other combination of requested mode (any number, or None),
    mode found and byte string is covered. -/
theorem make_segment_tie_full_partial (raw : String) (data : List Nat) (mode : Option Nat) (enc : Option String) (encName : String)
    (intOf : List Int → M Int) (hd : ∀ b ∈ data, b < 256)
    (hint : ∀ c : List Nat, c ≠ [] → (∀ b ∈ c, 48 ≤ b ∧ b ≤ 57) → intOf (toI c) = .ok (Int.ofNat (digitsVal c)))
    (hcorner : ∀ m, mode = some m →
      m = 1 ∨ m = 2 ∨ m = 4 ∨ m = 8 ∨ m = 13 ∨ m < findMode data ∨ data.length % 2 = 0) :
    toR (Gen.Funcs3.make_segment raw (mode.map Int.ofNat) enc (.ok (toI data, (data.length : Int), encName)) (findMode data : Int) intOf)
      = (Model.makeSegment data mode encName).map segI := by
  have hfm := findMode_cases data
  -- a requested mode number, case by case; without a request both sides run as if the mode found had been requested
  have hsome : ∀ m, (m = 1 ∨ m = 2 ∨ m = 4 ∨ m = 8 ∨ m = 13 ∨ m < findMode data ∨ data.length % 2 = 0) →
      toR (Gen.Funcs3.make_segment raw ((some m).map Int.ofNat) enc (.ok (toI data, (data.length : Int), encName)) (findMode data : Int) intOf)
        = (Model.makeSegment data (some m) encName).map segI := by
    intro m hc
    by_cases h4 : m = 4
    · subst h4
      exact make_segment_tie_partial raw data (some 4) enc encName intOf hint (Or.inl (Or.inl rfl))
    by_cases hlt : m < findMode data
    · exact make_segment_tie_refused raw data m enc encName intOf h4 hlt
    by_cases h1 : m = 1
    · subst h1
      exact make_segment_tie_partial raw data (some 1) enc encName intOf hint (Or.inr (Or.inl ⟨by omega, Or.inr rfl⟩))
    by_cases h2 : m = 2
    · subst h2
      have : findMode data = 1 ∨ findMode data = 2 := by omega
      rcases this with h | h
      · exact make_segment_tie_alnum_digits raw data enc encName intOf h
      · exact make_segment_tie_partial raw data (some 2) enc encName intOf hint (Or.inr (Or.inr ⟨h, Or.inr rfl⟩))
    by_cases h8 : m = 8
    · subst h8
      exact make_segment_tie_kanji_hanzi raw data (some 8) enc encName intOf hd (Or.inl rfl)
    by_cases h13 : m = 13
    · subst h13
      exact make_segment_tie_kanji_hanzi raw data (some 13) enc encName intOf hd (Or.inr (Or.inl rfl))
    exact make_segment_tie_other_even raw data m enc encName intOf hd (by omega) ⟨h1, h2, h4, h13⟩ hlt
  cases mode with
  | none =>
    rw [Option.map_none, make_segment_none, makeSegment_none]
    exact hsome _ (by omega)
  | some m => exact hsome m (hcorner m rfl)

/-- every mode `make_segment` documents (None or one of the constants 1, 2, 4, 8, 13): the full equality -/
theorem make_segment_tie_modes (raw : String) (data : List Nat) (mode : Option Nat) (enc : Option String) (encName : String)
    (intOf : List Int → M Int) (hd : ∀ b ∈ data, b < 256)
    (hint : ∀ c : List Nat, c ≠ [] → (∀ b ∈ c, 48 ≤ b ∧ b ≤ 57) → intOf (toI c) = .ok (Int.ofNat (digitsVal c)))
    (hmode : mode = none ∨ mode = some 1 ∨ mode = some 2 ∨ mode = some 4 ∨ mode = some 8 ∨ mode = some 13) :
    toR (Gen.Funcs3.make_segment raw (mode.map Int.ofNat) enc (.ok (toI data, (data.length : Int), encName)) (findMode data : Int) intOf)
      = (Model.makeSegment data mode encName).map segI :=
  make_segment_tie_full_partial raw data mode enc encName intOf hd hint (by
    intro m hm
    rcases hmode with h | h | h | h | h | h <;> rw [h] at hm <;> simp at hm <;> omega)

/-- the builtin `int` on digit strings, as a function of the translated byte list (for the counterexample) -/
def intOfDigits (l : List Int) : M Int := .ok (Int.ofNat (digitsVal (l.map Int.toNat)))

/-- THE FULL STATEMENT IS FALSE: `make_segment(b"1", mode=3)` — the code: `IndexError` (`segment_data[1]` in the kanji loop of
    the last `else`); the model: the segment (no bits, 1 character, mode 3, no encoding) -/
theorem make_segment_tie_statement_false : ¬ make_segment_tie_statement := by
  intro h
  have := h "1" [49] (some 3) none "iso-8859-1" intOfDigits (by decide) (by
    intro c _ _
    have e : (Int.toNat ∘ Int.ofNat) = id := by funext x; simp
    simp [intOfDigits, toI, e])
  revert this
  decide +kernel

/-- the two sides on that input -/
example : toR (Gen.Funcs3.make_segment "1" (some 3) none (.ok ([49], 1, "iso-8859-1")) (findMode [49] : Int) intOfDigits)
      = .error .indexError
    ∧ (Model.makeSegment [49] (some 3) "iso-8859-1").map segI = .ok ([], 1, 3, none) := by decide +kernel

/-- non-vacuity: "点" (Shift JIS 0x93 0x5F) without a requested mode (kanji is found) and with kanji requested: 13 bits
    (0x935F − 0x8140 = 0x121F; 0x12 · 0xC0 + 0x1F = 3487 = 0b0110110011111), one character, mode 8, no encoding — on both sides -/
example : findMode [0x93, 0x5f] = 8
    ∧ Gen.Funcs3.make_segment "点" none none (.ok ([0x93, 0x5f], 2, "shift_jis")) 8 intOfDigits
      = .ok ([0, 1, 1, 0, 1, 1, 0, 0, 1, 1, 1, 1, 1], 1, 8, none)
    ∧ (Model.makeSegment [0x93, 0x5f] none "shift_jis").map segI = .ok ([0, 1, 1, 0, 1, 1, 0, 0, 1, 1, 1, 1, 1], 1, 8, none)
    ∧ Gen.Funcs3.make_segment "点" (some 8) none (.ok ([0x93, 0x5f], 2, "shift_jis")) 8 intOfDigits
      = .ok ([0, 1, 1, 0, 1, 1, 0, 0, 1, 1, 1, 1, 1], 1, 8, none)
    ∧ (Model.makeSegment [0x93, 0x5f] (some 8) "shift_jis").map segI = .ok ([0, 1, 1, 0, 1, 1, 0, 0, 1, 1, 1, 1, 1], 1, 8, none) :=
  ⟨by decide +kernel, by decide +kernel, by decide +kernel, by decide +kernel, by decide +kernel⟩

/-- … a trail byte outside the range: `ValueError` on both sides; "啊" (GB 2312 0xB0 0xA1) in hanzi mode -/
example : Gen.Funcs3.make_segment "" (some 8) none (.ok ([0x93, 0x7f], 2, "shift_jis")) 4 intOfDigits = .error .valueError
    ∧ (Model.makeSegment [0x93, 0x7f] (some 8) "shift_jis").map segI = .error .valueError
    ∧ toR (Gen.Funcs3.make_segment "啊" (some 13) none (.ok ([0xb0, 0xa1], 2, "gb2312")) 4 intOfDigits)
      = (Model.makeSegment [0xb0, 0xa1] (some 13) "gb2312").map segI
    ∧ (Model.makeSegment [0xb0, 0xa1] (some 13) "gb2312").map segI = .ok ([0, 0, 0, 1, 1, 1, 1, 0, 0, 0, 0, 0, 0], 1, 13, none) :=
  ⟨by decide +kernel, by decide +kernel, by decide +kernel, by decide +kernel⟩

#print axioms make_segment_tie_kanji_hanzi
#print axioms make_segment_tie_other_even
#print axioms make_segment_tie_full_partial
#print axioms make_segment_tie_modes
#print axioms make_segment_tie_statement_false

end Props.TieA3
