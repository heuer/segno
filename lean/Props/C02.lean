/-
  C02 — geometry, function patterns, format / version information follow ISO/IEC 18004.
  `Gen.*` is regenerated from the repository on every run, `Spec.*` is the hand-written ISO reference.
-/
import Spec.GF
import Spec.Geometry
import Spec.Decode
import Gen.Tables
import Gen.Arith

namespace Props.C02

/-- Table C.1: every QR format word of `consts.FORMAT_INFO` is the BCH(15,5) codeword of its index
    (level indicator bits ‖ mask pattern) XOR 101010000010010. -/
theorem format_info_is_bch :
    Gen.FORMAT_INFO = (List.range 32).map (fun k => Spec.bch15 k ^^^ 0x5412) := by decide +kernel

/-- Micro QR: symbol number ‖ mask, XOR 100010001000101. -/
theorem format_info_micro_is_bch :
    Gen.FORMAT_INFO_MICRO = (List.range 32).map (fun k => Spec.bch15 k ^^^ 0x4445) := by decide +kernel

/-- Table D.1: version information words are the (18,6) Golay codewords of 7..40. -/
theorem version_info_is_golay :
    Gen.VERSION_INFO = (List.range 34).map (fun k => Spec.golay18 (k + 7)) := by decide +kernel

/-- Table E.1: alignment pattern centres equal the Annex E construction for versions 2..40. -/
theorem alignment_pos_is_annexE :
    Gen.ALIGNMENT_POS = (List.range 39).map (fun k => Spec.annexE (k + 2)) := by decide +kernel

/-- symbol size: 17+4v (QR), 9+2k (Micro), for every version constant. -/
theorem matrix_size_iso (v : Int) (h1 : -3 ≤ v) (h2 : v ≤ 40) :
    Gen.calc_matrix_size v = (Spec.size v : Int) := by
  unfold Gen.calc_matrix_size Spec.size
  by_cases h : v > 0 <;> simp [h] <;> omega

/-- the symbol number used for the Micro format word (`ERROR_LEVEL_TO_MICRO_MAPPING`) is ISO Table 13 -/
theorem micro_symbol_numbers :
    Gen.ERROR_LEVEL_TO_MICRO_MAPPING.all (fun x => Spec.microSymbolNumber x.1 x.2.1 == some x.2.2) = true
    ∧ Gen.ERROR_LEVEL_TO_MICRO_MAPPING.length = 8 := by decide +kernel

/-- default quiet zone: 4 modules for QR, 2 for Micro QR -/
theorem default_border (v : Int) (h1 : -3 ≤ v) (h2 : v ≤ 40) :
    Gen.get_default_border_size (Spec.size v) (Spec.size v) = if v < 1 then 2 else 4 := by
  unfold Gen.get_default_border_size Spec.size
  by_cases h : v > 0 <;> simp [h] <;> omega

end Props.C02
