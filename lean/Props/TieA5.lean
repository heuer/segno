/-
  Tie A — the COMPOSITION `segno.encoder._encode` against the translation of the current source.

  `Gen/Funcs5.lean` holds the AST translation of `_encode` (tools/pytolean.py, `segno_specs5`): every step of it is a call of a
  translation of a single function (`version_range`, `boost_error_level`, `write_segment` for every item of `segments`,
  `consts.SYMBOL_CAPACITY[version][error]`, `write_terminator`, `write_padding_bits`, `write_pad_codewords`,
  `make_final_message`, `calc_matrix_size`, `make_matrix` — also as the function matrix that `find_and_apply_best_mask` reads —,
  `add_finder_patterns`, `add_alignment_patterns`, `add_codewords`, `find_and_apply_best_mask`, `add_format_info`,
  `add_version_info`).  `encode_core_tie` composes the tie theorems of those functions: for every argument tuple of the stated
  domain the translated `_encode` returns what `Model.encodeCore` returns (the same `Code`, the same exception).

  How the arguments enter: `segments` is read through `len(segments)`, `segments.modes`, `segments.bit_length`, the number of ECI
  indicators and the list of its items (mode, encoding, char_count, bits, and the opaque read
  `get_eci_assignment_number(segment.encoding)`): `itemsOf` supplies the items from the model's segment list.  `sa_info` is the
  4-tuple (mode 3, number, total, parity) of `_StructuredAppendInfo`: `saI`.  The result `Code(matrix, version, error, mask,
  segments)` is the 4-tuple without the object `segments` (it is the caller's object, handed through): `codeI`.
-/
import Gen.Funcs5Check
import Proofs.TieA5Encode
import Proofs.TieA5Sq
import Proofs.EndToEndBlocks
import Props.TieA
import Props.TieA2
import Props.TieA3
import Props.TieA4


namespace Props.TieA5
open Gen.Py Proofs.TieA Proofs.TieA2 Proofs.TieA3 Proofs.TieA5 Model

/-- the items of `segments` as the translation reads them -/
def itemsOf (eciNumber : String → Option Nat) (segs : List Segment) : List Item :=
  segs.map (fun s => ((s.mode : Int), s.encoding, (s.charCount : Int), toI s.bits, eciM eciNumber s.encoding))

/-- `sa_info`: `_StructuredAppendInfo(number, total, parity)` is the tuple (MODE_STRUCTURED_APPEND, number, total, parity) -/
def saI (sa : Option (Nat × Nat × Nat)) : Option (Int × Int × Int × Int) :=
  sa.map (fun t => (((Gen.MODE_STRUCTURED_APPEND : Nat) : Int), (t.1 : Int), (t.2.1 : Int), (t.2.2 : Int)))

/-- a `Code` of the model as the translation returns it (without `segments`) -/
def codeI (c : Code) : Res := (mI c.matrix, c.version, c.error.map Int.ofNat, (c.mask : Int))

/-- `ver` / `ver_range` as `_encode` computes them (`version_range` raises above 40) -/
theorem range_stage (v : Int) (hv : v ≤ 40) : rangePy v = .ok (verArg v, verRangeOf v) := by
  unfold rangePy verArg verRangeOf
  by_cases h : v < 1
  · simp [h]
  · simp only [h, if_false]
    rw [version_range_ok v (by omega) hv]
    rfl

/-- `if boost_error: error = boost_error_level(…)` -/
theorem boost_stage (segs : List Segment) (v : Int) (hv : v ≤ 40) (e : Option Nat) (eci boost isSa : Bool) :
    toR (boostPy boost v (e.map Int.ofNat) (Int.ofNat segs.length) (nEci segs) (modesOf segs) (bitLen segs) eci isSa)
      = (if boost then Model.boostErrorLevel v e segs eci isSa else pure e).map (Option.map Int.ofNat) := by
  unfold boostPy
  cases boost
  · rfl
  · exact Props.TieA2.boost_error_level_tie segs v hv e eci isSa

/-- the Structured Append header -/
theorem header_stage (sa : Option (Nat × Nat × Nat)) : headerPy (saI sa) [] = toI (saHeader sa) := by
  cases sa with
  | none => rfl
  | some t =>
    obtain ⟨a, b, c⟩ := t
    have e3 : Gen.Py.appendBits (((Gen.MODE_STRUCTURED_APPEND : Nat) : Int)) (4 : Int) = toI (Model.appendBits Gen.MODE_STRUCTURED_APPEND 4) :=
      appendBits_lit _ 4 _ _ rfl rfl
    have ea : Gen.Py.appendBits (a : Int) (4 : Int) = toI (Model.appendBits a 4) := appendBits_lit a 4 _ _ rfl rfl
    have eb : Gen.Py.appendBits (b : Int) (4 : Int) = toI (Model.appendBits b 4) := appendBits_lit b 4 _ _ rfl rfl
    have ec : Gen.Py.appendBits (c : Int) (8 : Int) = toI (Model.appendBits c 8) := appendBits_lit c 8 _ _ rfl rfl
    have hs : ∀ (x0 x1 x2 x3 : Int), Gen.Py.slice [x0, x1, x2, x3] none (some (3 : Int)) = [x0, x1, x2] := fun _ _ _ _ => rfl
    simp only [headerPy, saI, saHeader, Option.map_some, hs, List.foldl_cons, List.foldl_nil, List.nil_append, e3, ea, eb, ec,
      toI_append]

/-- `for segment in segments: write_segment(buff, segment, ver, ver_range, eci)` -/
theorem segments_stage (eciNumber : String → Option Nat) (v : Int) (eci : Bool) (segs : List Segment) :
    ∀ acc : List Nat, toR (segmentsPy (itemsOf eciNumber segs) (verArg v) (verRangeOf v) eci (toI acc))
      = (segs.mapM (fun s => Model.writeSegment s v eci eciNumber)).map (fun bs => toI (acc ++ bs.flatten)) := by
  unfold segmentsPy itemsOf
  exact mapM_loop _ _ _ segs (fun acc s _ => Props.TieA3.write_segment_tie acc s v eci eciNumber)

/-- the symbol sizes: 11 … 17 and 21 … 177, odd, as the ties of the matrix functions need them -/
theorem size_facts (v : Int) (h1 : -3 ≤ v) (h2 : v ≤ 40) :
    Gen.Funcs.calc_matrix_size v = (((Gen.calc_matrix_size v).toNat : Nat) : Int)
      ∧ 11 ≤ (Gen.calc_matrix_size v).toNat ∧ (Gen.calc_matrix_size v).toNat % 2 = 1
      ∧ ((Gen.calc_matrix_size v).toNat < 25 ∨ ((Gen.calc_matrix_size v).toNat % 4 = 1 ∧ (Gen.calc_matrix_size v).toNat ≤ 177)) := by
  rw [Props.TieA.calc_matrix_size_tie]
  unfold Gen.calc_matrix_size
  split_ifs <;> simp_all <;> omega

/-- from `width = calc_matrix_size(version)` to `return Code(…)`, on the model side (the last lines of `Model.encodeCore`) -/
def matrixM (segs : List Segment) (v : Int) (e : Option Nat) (mask : Option Nat) (final : List Nat) : R Code :=
  addAlignmentPatterns (addFinderPatterns (makeMatrix (Gen.calc_matrix_size v).toNat) (Gen.calc_matrix_size v).toNat)
      (Gen.calc_matrix_size v).toNat >>= fun m0 =>
  addCodewords m0 final v >>= fun m1 =>
  findAndApplyBestMask m1 mask >>= fun r =>
  addFormatInfo r.2 v e r.1 >>= fun m3 =>
  addVersionInfo m3 v >>= fun m4 =>
  pure { matrix := m4, version := v, error := e, mask := r.1, segments := segs }

/-- the codewords fill the encoding region: after the placement no module is left undefined (value 2).  This is the side
    condition `hbits` of `find_and_apply_best_mask_tie`, which needs it only to bound the penalty score below `sys.maxsize`
    (`penalty_below_maxsize`); the mask scores themselves are those of the model on every matrix (`Proofs.TieA2.mask_scores_eq`). -/
def PlacedBinary (v : Int) (final : List Nat) : Prop :=
  ∀ m0 m1, addAlignmentPatterns (addFinderPatterns (makeMatrix (Gen.calc_matrix_size v).toNat) (Gen.calc_matrix_size v).toNat)
      (Gen.calc_matrix_size v).toNat = .ok m0 →
    addCodewords m0 final v = .ok m1 → ∀ i j, get2 m1 i j ≤ 1

/-- `make_matrix` … `add_version_info`, `Code(…)`: every version −3 … 40, every error level (or `None`), every proposed mask (or
    `None`), every final message that fills the encoding region -/
theorem matrix_stage (segs : List Segment) (v : Int) (h1 : -3 ≤ v) (h2 : v ≤ 40) (e : Option Nat) (mask : Option Nat) (final : List Nat)
    (hfill : PlacedBinary v final) :
    toR (matrixPy v (e.map Int.ofNat) (mask.map Int.ofNat) (toI final)) = (matrixM segs v e mask final).map codeI := by
  obtain ⟨hsz, hn11, hodd, hal⟩ := size_facts v h1 h2
  unfold matrixPy matrixM
  unfold PlacedBinary at hfill
  generalize hn : (Gen.calc_matrix_size v).toNat = n at *
  simp only [hsz]
  rw [Props.TieA4.make_matrix_tie n (by omega), bind_ok,
    Props.TieA2.add_finder_patterns_tie _ n (sq_makeMatrix n) (by omega), bind_ok]
  have sq0 := (Proofs.TieA2.add_finder_patterns_yields _ n (sq_makeMatrix n) (by omega)).inv
  refine toR_bind_map (Props.TieA2.add_alignment_patterns_tie _ n sq0 hal) (fun m0 hm0 => ?_)
  have sqm0 := Proofs.TieA2.sq_addAlignment sq0 hal hm0
  refine toR_bind_map (Props.TieA3.add_codewords_tie m0 final v n sqm0 hodd) (fun m1 hm1 => ?_)
  have sqm1 := sq_addCodewords final v sqm0 hm1
  rw [bind_ok]
  refine toR_bind_map (Props.TieA3.find_and_apply_best_mask_tie m1 n sqm1 (by omega) hal (hfill m0 m1 hm0 hm1) mask) (fun r hr => ?_)
  have sqr := sq_findAndApplyBestMask mask r sqm1 hr
  dsimp only []
  rw [bind_ok]
  refine toR_bind_map (Props.TieA2.add_format_info_tie r.2 n sqr (by omega) v e r.1) (fun m3 hm3 => ?_)
  have sqm3 := sq_addFormatInfo v e r.1 sqr hm3
  refine toR_bind_map (Props.TieA2.add_version_info_tie m3 n sqm3 (by omega) v) (fun m4 hm4 => ?_)
  rfl

/-- DOMAIN hypothesis of `encode_core_tie`: whenever the model gets as far as the final message, that message fills the encoding
    region of the symbol (see `PlacedBinary`).  True for what `encode` passes (the final message of a version has as many bits as
    the symbol has data modules: `Props.C01.data_cell_count`); not derived here. -/
def FillsRegion (segs : List Segment) (error : Option Nat) (v : Int) (eci boost : Bool) (eciNumber : String → Option Nat)
    (sa : Option (Nat × Nat × Nat)) : Prop :=
  ∀ e' segBits cap stream final,
    (if boost then boostErrorLevel v error segs eci sa.isSome else pure error) = .ok e' →
    segs.mapM (fun s => writeSegment s v eci eciNumber) = .ok segBits →
    capacity v e' = some cap →
    finishStream (saHeader sa ++ segBits.flatten) v cap = .ok stream →
    makeFinalMessage v e' stream = .ok final → PlacedBinary v final

/-- **`_encode` is `Model.encodeCore`.**  For every version number −3 … 40 (M1 … M4, 1 … 40), every error level number or `None`,
    every proposed mask number or `None`, both ECI and boost flags, with and without Structured Append information, every ECI
    table, and every segment list whose segments have a documented mode (1, 2, 4, 8, 13) and 0 / 1 bits (what `prepare_data`
    yields) and whose final message fills the symbol (`FillsRegion`): the translation of the CURRENT source of `_encode` returns
    the `Code` of the model — the same matrix, version, (boosted) error level and mask — or raises in the same case
    (exception classes as `Proofs.TieA.exc` maps them). -/
theorem encode_core_tie (segs : List Segment) (error : Option Nat) (v : Int) (mask : Option Nat) (eci boost : Bool)
    (eciNumber : String → Option Nat) (sa : Option (Nat × Nat × Nat))
    (h1 : -3 ≤ v) (h2 : v ≤ 40)
    (hsegs : ∀ s ∈ segs, s.mode ∈ [1, 2, 4, 8, 13] ∧ ∀ b ∈ s.bits, b ≤ 1)
    (hfill : FillsRegion segs error v eci boost eciNumber sa) :
    toR (Gen.Funcs5._encode (Int.ofNat segs.length) (nEci segs) (modesOf segs) (bitLen segs) (itemsOf eciNumber segs)
        (error.map Int.ofNat) v (mask.map Int.ofNat) eci boost (saI sa))
      = (Model.encodeCore segs error v mask eci boost eciNumber sa).map codeI := by
  rw [encode_factor, range_stage v h2, bind_ok, Proofs.Sequence.encodeCore_eq]
  have hsa : (!(saI sa).isNone) = sa.isSome := by cases sa <;> rfl
  rw [hsa]
  refine toR_bind_map (boost_stage segs v h2 error eci boost sa.isSome) (fun e' he' => ?_)
  unfold tailPy
  dsimp only []
  rw [header_stage]
  refine toR_bind_map (segments_stage eciNumber v eci segs (saHeader sa)) (fun segBits hsb => ?_)
  unfold encodeTail
  rw [show capacityPy v (e'.map Int.ofNat) = capLookup v (e'.map Int.ofNat) from rfl, capacity_lookup]
  cases hcap : capacity v e' with
  | none => rfl
  | some cap =>
    simp only [Option.map_some, ofOption_some, bind_ok]
    have hbuff : Proofs.EndToEnd.Bin (saHeader sa ++ segBits.flatten) :=
      Proofs.EndToEnd.Bin_append (Proofs.EndToEnd.Bin_saHeader sa)
        (Proofs.EndToEnd.Bin_written_all v eci eciNumber h1 h2 segs segBits hsegs hsb)
    refine toR_bind_map (Props.TieA2.finish_stream_tie _ v cap) (fun stream hst => ?_)
    have hstream := Proofs.EndToEnd.Bin_finish _ stream v cap h1 h2 hbuff hst
    refine toR_bind_map (Props.TieA2.make_final_message_tie v e' stream hstream) (fun final hfin => ?_)
    exact matrix_stage segs v h1 h2 e' mask final (hfill e' segBits cap stream final he' hsb hcap hst hfin)

/-- (`Prop`, NOT proved) the statement without the hypothesis `FillsRegion`: what remains is to derive, from the lengths of the
    final message (`Props.C03.final_message_length`) and of the encoding region (`Props.C01.data_cell_count`), that the placement
    leaves no module undefined — or to bound the penalty score of a matrix that still holds undefined modules (`PlacedBinary` enters
    through that bound only). -/
def encode_core_tie_statement : Prop :=
  ∀ (segs : List Segment) (error : Option Nat) (v : Int) (mask : Option Nat) (eci boost : Bool)
    (eciNumber : String → Option Nat) (sa : Option (Nat × Nat × Nat)),
    -3 ≤ v → v ≤ 40 → (∀ s ∈ segs, s.mode ∈ [1, 2, 4, 8, 13] ∧ ∀ b ∈ s.bits, b ≤ 1) →
    toR (Gen.Funcs5._encode (Int.ofNat segs.length) (nEci segs) (modesOf segs) (bitLen segs) (itemsOf eciNumber segs)
        (error.map Int.ofNat) v (mask.map Int.ofNat) eci boost (saI sa))
      = (Model.encodeCore segs error v mask eci boost eciNumber sa).map codeI

/-- the full statement follows from `FillsRegion` for all arguments -/
theorem encode_core_tie_of_fills : (∀ segs error v eci boost eciNumber sa, FillsRegion segs error v eci boost eciNumber sa) →
    encode_core_tie_statement :=
  fun h segs error v mask eci boost eciNumber sa h1 h2 hs =>
    encode_core_tie segs error v mask eci boost eciNumber sa h1 h2 hs (h segs error v eci boost eciNumber sa)

end Props.TieA5

#print axioms Props.TieA5.encode_core_tie
