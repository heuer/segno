/-
  C15 — encoding is pure: deterministic, history-free, thread-safe, idempotent.
  PROOF part: `reencode_idempotent` (about the model; read off `Proofs.Idempotent.reencode_fixed_point`:
  the explicit call returns the same `Code`), `effects_empty`
  (kernel check of the static effect summary regenerated from the repository on every run),
  `judge_ok_iff_pure` (the judge's verdict is `ok` exactly when the observed history satisfies the
  property as defined in Spec/Purity.lean).  The runtime claim about the implementation (every call of
  every history / schedule returns what the stateless reference returns) is EXPLORED by
  harness/p_purity.py, not proved: thread interleavings cannot be exhibited by a theorem.
-/
import Gen.Effects
import Spec.Purity
import Proofs.Purity
import Proofs.Idempotent

namespace Props.C15
open Spec.Purity

/-- Re-encoding the same content while explicitly requesting the version, error level and mask the
    first call chose (boosting disabled, same `micro`) succeeds and reproduces the identical symbol.
    Unbounded: every content, every option combination.
    Hypothesis `hmode` excludes exactly finding D26: a *global* mode is checked against the version only
    when a version is requested, so with an automatically chosen (Micro) version the first call may
    succeed where the explicit one is refused.  (It holds whenever no global mode is given, or a
    version was requested, or the global mode is available in the chosen version.) -/
theorem reencode_idempotent
    (parts : List Model.Part) (error : Option Nat) (version : Option Int) (mode : Option Nat) (mask : Option Nat)
    (eci : Bool) (micro : Option Bool) (boost : Bool) (n : String → Option Nat) (c : Model.Code)
    (h : Model.encode parts error version mode mask eci micro boost n = .ok c)
    (hmode : mode = none ∨ version.isSome = true ∨ ∃ md, mode = some md ∧ Model.isModeSupported md c.version = some true) :
    ∃ c', Model.encode parts c.error (some c.version) mode (some c.mask) eci micro false n = .ok c'
          ∧ c'.matrix = c.matrix ∧ c'.version = c.version ∧ c'.error = c.error ∧ c'.mask = c.mask :=
  ⟨c, Proofs.Idempotent.reencode_fixed_point parts error version mode mask eci micro boost n c h hmode, rfl, rfl, rfl, rfl⟩

/-- the statement without the D26 hypothesis (kept visible; it fails for the model and for the code:
    `make([('20', 1)], mode='alphanumeric')` gives M1, the explicit re-encode is refused — the second `example` below
    evaluates this in the model; no theorem `¬ …` is stated) -/
def ReencodeIdempotentUnconditional : Prop :=
  ∀ (parts : List Model.Part) (error : Option Nat) (version : Option Int) (mode : Option Nat) (mask : Option Nat)
    (eci : Bool) (micro : Option Bool) (boost : Bool) (n : String → Option Nat) (c : Model.Code),
    Model.encode parts error version mode mask eci micro boost n = .ok c →
    ∃ c', Model.encode parts c.error (some c.version) mode (some c.mask) eci micro false n = .ok c' ∧ c'.matrix = c.matrix

/-- non-vacuity: the hypotheses are satisfiable — '12' is encoded as an M1 symbol with the automatically
    chosen mask 2 (kernel evaluation of the whole model) -/
example : ((Model.encode [{ data := [49, 50], mode := none, encoding := "iso-8859-1" }] none none none none false none true
    (fun _ => none)).toOption.map (fun c => (c.version, c.error, c.mask))) = some (-3, none, 2) := by decide +kernel

/-- kernel-checked witness of D26 in the model: the automatic call succeeds with version M1, the explicit one is refused -/
example : ((Model.encode [{ data := [50, 48], mode := some 1, encoding := "iso-8859-1" }] none none (some 2) none false none true
      (fun _ => none)).toOption.map (fun c => (c.version, c.error, c.mask))) = some (-3, none, 3)
    ∧ (Model.encode [{ data := [50, 48], mode := some 1, encoding := "iso-8859-1" }] none (some (-3)) (some 2) (some 3) false none false
      (fun _ => none)).toOption.isNone = true := by decide +kernel

/-- No function of the seven modules stores to or mutates module-level state, none is decorated
    with a functools cache, none contains a `global` statement. -/
theorem effects_empty :
    Gen.Effects.functions.all (fun f => f.2.2.1.isEmpty && !f.2.2.2.1 && !f.2.2.2.2) = true := by
  decide +kernel

/-- non-vacuity: the summary covers the functions of all seven modules (at least 150 of them),
    and the modules do own mutable module-level tables that a function could have written -/
example : Gen.Effects.functions.length ≥ 150 ∧ Gen.Effects.mutableObjects.length = 7
    ∧ ((Gen.Effects.mutableObjects.map (fun m => m.2.length)).foldl (· + ·) 0) ≥ 20 := by decide +kernel

/-- the judge's verdict on an observed history is `ok` exactly when the history satisfies C15 as
    defined in Spec/Purity.lean (observed = stateless reference, no snapshot changed, every
    re-encoded symbol identical) -/
theorem judge_ok_iff_pure (h : Spec.Purity.History) : Spec.Purity.verdict h = .ok ↔ h.pure = true := by
  have hdiff : firstDiff h.expected h.observed 0 = none ↔ h.deterministic = true := by
    rw [Proofs.Purity.firstDiff_none_iff, History.deterministic, beq_iff_eq]; exact eq_comm
  have hfind : h.snapshots.find? (fun s => s.2.1 != s.2.2) = none ↔ h.stateUnchanged = true := by
    simp [History.stateUnchanged]
  have hidx : h.reencoded.findIdx? (fun p => p.1 != p.2) = none ↔ h.idempotent = true := by
    simp [History.idempotent, List.findIdx?_eq_none_iff]
  -- each part of the property is the absence of the deviation the verdict looks for
  unfold verdict History.pure
  rw [Bool.and_eq_true, Bool.and_eq_true, ← hdiff, ← hfind, ← hidx]
  split
  · -- results missing or in excess: a first difference exists
    rename_i hl
    simp only [reduceCtorEq, false_iff]
    rintro ⟨⟨hd, -⟩, -⟩
    rw [Proofs.Purity.firstDiff_none_iff] at hd
    simp [hd] at hl
  · split
    · rename_i k hk; simp [hk]
    · rename_i hk
      split
      · rename_i s hs; simp [hk, hs]
      · rename_i hs
        split
        · rename_i k hr; simp [hk, hs, hr]
        · rename_i hr; simp [hk, hs, hr]

/-- non-vacuity: a history that satisfies the property and one that does not -/
example : Spec.Purity.verdict { expected := ["a", "b"], observed := ["a", "b"], snapshots := [("t", "1", "1")], reencoded := [("x", "x")] } = .ok
    ∧ Spec.Purity.verdict { expected := ["a", "b"], observed := ["a", "c"], snapshots := [], reencoded := [] } = .resultDiffers 1 := by
  decide

end Props.C15
