/-
  C11 — per-type colouring: the module type → colour map of `writers._make_colormap`.  `Model.makeColormap`
  is the hand-written model of it (tied to the real code by the PNG / PPM correspondence of `./check C11` and
  `./check C09`, where the map decides palette, bit depth and every colour index), `Spec.typeCode` /
  `Spec.Kind` / `Spec.kind` the ISO regions and their public type codes.  The map follows the fallback
  rule, has no other keys, and the keys it drops for a size are exactly those of the regions the size lacks.
-/
import Proofs.Colormap

namespace Props.C11Colormap

open Model Spec Proofs.Colormap

/-- (every assignment of the 15 options and dark / light, every matrix size,
    any colour type): the map gives the type code of region `k` in the variant of the module value
    `val` the colour configured for it if one is given, else the dark resp. light colour — and has no
    entry exactly when the size class lacks the region -/
theorem colormap_fallback {α : Type} (w h : Nat) (dark light : α) (o : TypeOpts α) (k : Kind) (val : Nat) :
    cmGet (makeColormap w h dark light o) (typeCode k val) =
      if lacks w h k then none
      else some ((optionFor o k val).getD (if isDarkType (typeCode k val) then dark else light)) :=
  Proofs.Colormap.colormap_fallback w h dark light o k val

/-- the quiet zone (type 18): the colour configured for it, else the light colour; never dropped -/
theorem colormap_quiet_zone {α : Type} (w h : Nat) (dark light : α) (o : TypeOpts α) :
    cmGet (makeColormap w h dark light o) typeQuietZone = some (o.quiet_zone.getD light) :=
  Proofs.Colormap.colormap_quiet_zone w h dark light o

/-- the map has no other keys: every key is the quiet zone or the type code of a region the size
    class has -/
theorem colormap_keys {α : Type} (w h : Nat) (dark light : α) (o : TypeOpts α) (e : Nat × α)
    (he : e ∈ makeColormap w h dark light o) :
    e.1 = typeQuietZone ∨ ∃ k val, e.1 = typeCode k val ∧ lacks w h k = false := by
  obtain ⟨hm, hU⟩ := List.mem_filter.1 he
  rcases mt2color_keys dark light o e hm with h | ⟨k, val, h⟩
  · exact .inl h
  · rw [h, contains_unsupported] at hU
    exact .inr ⟨k, val, h, by simpa using hU⟩

/-- (all 44 versions, every module) the region ISO assigns to a module of a
    version `v` symbol is never one whose key `_make_colormap` drops for the symbol's size — the colour
    look-up of a module of the right type cannot fail -/
theorem dropped_keys_unused (v : Int) (h1 : -3 ≤ v) (h2 : v ≤ 40) (i j : Nat) :
    lacks (size v) (size v) (kind v i j) = false := by
  -- `lacks` of every leaf of the region chain is `false`: the Micro chain has none of the three leaves
  -- concerned, a QR Code has 21 modules or more, and the version leaf is guarded by v ≥ 7, i.e. 45 or more
  unfold kind
  simp only [apply_ite (lacks (size v) (size v))]
  by_cases hm : isMicro v = true
  · simp only [hm, if_true, lacks, ite_self]
  · have hv : 1 ≤ v := by unfold isMicro at hm; simp at hm; omega
    have hs := Proofs.Size.size_qr v hv
    have h21 : ¬ size v < 21 := by omega
    by_cases hv7 : v ≥ 7
    · have h45 : ¬ size v < 45 := by omega
      simp only [hm, lacks, bne_self_eq_false, h21, h45, decide_false, Bool.false_or, Bool.false_eq_true, if_false,
        ite_self]
    · simp only [hm, lacks, bne_self_eq_false, h21, hv7, decide_false, Bool.false_or, Bool.false_and,
        Bool.false_eq_true, if_false, ite_self]

/-- the version keys are dropped EXACTLY for the sizes without version information (below version 7) -/
theorem version_key_exact (v : Int) (h1 : -3 ≤ v) (h2 : v ≤ 40) :
    lacks (size v) (size v) .version = false ↔ ∃ i j, i < size v ∧ j < size v ∧ kind v i j = .version :=
  ⟨fun h => version_witness v ((lacks_size v h1).1.1 h), fun ⟨i, j, _, _, hk⟩ => hk ▸ dropped_keys_unused v h1 h2 i j⟩

/-- the dark module key is dropped EXACTLY for the sizes without dark module (Micro QR Codes) -/
theorem darkmodule_key_exact (v : Int) (h1 : -3 ≤ v) (h2 : v ≤ 40) :
    lacks (size v) (size v) .darkmodule = false ↔ ∃ i j, i < size v ∧ j < size v ∧ kind v i j = .darkmodule :=
  ⟨fun h => darkmodule_witness v ((lacks_size v h1).2.1.1 h), fun ⟨i, j, _, _, hk⟩ => hk ▸ dropped_keys_unused v h1 h2 i j⟩

/-- the alignment keys are dropped exactly for Micro QR Codes; they are kept for version 1, the one
    QR Code version without alignment pattern (an unused entry: every symbol of version ≥ 2 has one) -/
theorem alignment_key (v : Int) (h1 : -3 ≤ v) (h2 : v ≤ 40) :
    (lacks (size v) (size v) .alignment = false ↔ 1 ≤ v)
    ∧ ((∃ i j, i < size v ∧ j < size v ∧ kind v i j = .alignment) → lacks (size v) (size v) .alignment = false)
    ∧ (2 ≤ v → ∃ i j, i < size v ∧ j < size v ∧ kind v i j = .alignment) :=
  ⟨(lacks_size v h1).2.2, fun ⟨i, j, _, _, hk⟩ => hk ▸ dropped_keys_unused v h1 h2 i j, fun hv => alignment_witness v hv h2⟩

/-! non-vacuity -/
example : cmGet (makeColormap 21 21 "black" "white" { finder_dark := some "red" }) (typeCode .finder 1) = some "red" := by decide
example : cmGet (makeColormap 21 21 "black" "white" { finder_dark := some "red" }) (typeCode .data 1) = some "black" := by decide
example : cmGet (makeColormap 21 21 "black" "white" { version_dark := some "red" }) (typeCode .version 1) = none := by decide
example : cmGet (makeColormap 45 45 "black" "white" { version_dark := some "red" }) (typeCode .version 1) = some "red" := by decide
example : lacks (size (-2)) (size (-2)) .alignment = true := by decide
example : kind 7 0 34 = .version := by decide

end Props.C11Colormap
