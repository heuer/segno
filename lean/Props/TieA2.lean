/-
  Tie A — the functions at the heart of C04 / C05 / C13 (version search, error level boost, terminator and
  padding), C06 (mask scores), C02 (function patterns), C07 (mode detection), C03 (Reed-Solomon blocks, final message)
  and C08 (Structured Append parity) ARE what the source says now.

  `Gen/Funcs2.lean` is written by the AST translator (tools/pytolean.py, grammar: docs/TRANSLATOR.md) from the CURRENT
  source of the repository on every run: loops with early `return` / `break` / `continue` are `Py.forM` / `Py.forP`
  (Gen/Py2.lean), `try` inside a loop is `Py.tryExcept` around the body, lists / bytearrays / the `Buffer` are `List Int`
  and every in-place update (`buff.extend(…)`, `levels.pop()`, `matrix[i][j] = v`, `row[a:b] = …`) is a functional update
  of the local it goes to; a parameter that is updated in place is returned by the translation.
  Each theorem states, for all arguments of the documented domain (unbounded), that the hand-written model function
  (`lean/Model/Encoder.lean`) is equal to the translation.  `toR` reads a result of translated code (`Except PyExc`) as a
  result of the model (`Except PyErr`).  Translation validation (`Gen/Funcs2Check.lean`, imported here): the Lean kernel
  evaluates every translated function on sample arguments and compares with what the real Python function returned.

  Lists: `toI` reads a `List Nat` of the model (bits, bytes) as the `List Int` of the translation.
  Matrices: the model's `Array (Array Nat)` is read as the list of rows `mI m`; `Sq m n` says that m is n × n.  A matrix
  parameter of the translation stands for a Python list of DISTINCT bytearrays (what `make_matrix` builds); `row =
  matrix[i]` followed by writes through `row` is translated as writes to row i of the matrix.

  How the segment list enters: the translated `find_version` / `boost_error_level` read a `Segments` object through
  `segments.modes`, `segments.bit_length`, `len(segments)` and the number of ECI indicators its (translated) method
  `bit_length_with_overhead` counts; `nEci`, `modesOf`, `bitLen` supply them from the model's segment list.

  Parts of model functions that the source has as functions of their own: `stage1` / `stage2` / `stage3` are the three steps
  of `Model.finishStream` (Proofs/TieA2Stream.lean; `verArg v` is the `ver` argument `_encode` passes: `None` for a QR Code),
  `reservedM` / `timingM` the two halves of `Model.makeMatrix` (Proofs/TieA2Timing.lean).
-/
import Gen.Funcs2Check
import Proofs.TieA2Stream
import Proofs.TieA2Boost
import Proofs.TieA2Version
import Proofs.TieA2Scores
import Proofs.TieA2Micro
import Proofs.TieA2Format
import Proofs.TieA2Finder
import Proofs.TieA2Align
import Proofs.TieA2Timing
import Proofs.TieA2Mode
import Proofs.TieA2Parity
import Proofs.TieA2Blocks
import Proofs.TieA2Final
import Proofs.Sizing

namespace Props.TieA2
open Gen.Py Proofs.TieA Proofs.TieA2 Model

/-! ## C04: `find_version` -/

/-- `find_version(segments, error, eci, micro, is_sa)` for EVERY segment list, every error level number (or `None`), both
    ECI flags, `micro` ∈ {None, False, True} and both structured-append flags: the same version, `AssertionError` /
    `ValueError` (unknown mode, no segment) / `DataOverflowError` in the same cases.  The range loop with `try … except
    KeyError` and early `return` of the source is the `List.find?` of the model; the error level the loop carries from one
    iteration to the next (`None` until the first version that is not M1) is the level the model recomputes per version. -/
theorem find_version_tie (segs : List Segment) (e : Option Nat) (eci : Bool) (micro : Option Bool) (isSa : Bool) :
    toR (Gen.Funcs2.find_version (nEci segs) (modesOf segs) (bitLen segs) (e.map Int.ofNat) eci micro isSa)
      = Model.findVersion segs e eci micro isSa := by
  cases e with
  | none => exact fv_none segs eci micro isSa
  | some n => exact fv_some segs n eci micro isSa

/-- one numeric segment of 34 data bits: M2; one byte segment of 80 data bits: M4 at level L, version 2 at level H without
    Micro QR Codes; 30000 data bits: `DataOverflowError`; no segment: `ValueError` of `max([])` -/
example : Gen.Funcs2.find_version 0 [1] 34 none false none false = .ok (-2)
    ∧ Gen.Funcs2.find_version 0 [4] 80 (some 1) false none false = .ok 0
    ∧ Gen.Funcs2.find_version 0 [4] 80 (some 2) false (some false) false = .ok 2
    ∧ Gen.Funcs2.find_version 0 [4] 30000 none false none false = .error .dataOverflow
    ∧ Gen.Funcs2.find_version 0 [] 0 none false none false = .error .valueError := by decide +kernel

/-! ## C05: `boost_error_level` -/

/-- `boost_error_level(version, error, segments, eci, is_sa)` for every version number ≤ 40, every error level number (or
    `None`), every segment list and flag combination: the same level, `KeyError` (no capacity / character count entry) and
    `ValueError` (`levels.index(error)` of a level the version does not have) in the same cases.  `levels.pop()`,
    `levels.index`, the slice and the `break` of the source against the recursion `go` of the model. -/
theorem boost_error_level_tie (segs : List Segment) (v : Int) (hv : v ≤ 40) (e : Option Nat) (eci isSa : Bool) :
    toR (Gen.Funcs2.boost_error_level v (e.map Int.ofNat) (Int.ofNat segs.length) (nEci segs) (modesOf segs) (bitLen segs) eci isSa)
      = (Model.boostErrorLevel v e segs eci isSa).map (Option.map Int.ofNat) := by
  cases e with
  | none => rfl
  | some n =>
    rw [Proofs.Sizing.boost_eq]
    unfold Gen.Funcs2.boost_error_level
    have hguard : (!(some (Int.ofNat n) == some 2 || (some (Int.ofNat n)).isNone) && Int.ofNat segs.length == 1)
        = !(n == 2 || segs.length != 1) := by
      rw [Bool.eq_iff_iff]; simp; omega
    -- `levels.pop()` twice at most leaves one of three literal lists; from each the loop is `boost_from`
    simp only [Option.map_some, hguard, bit_length_with_overhead_eq segs v hv, pop4, pop3, bind_ok]
    cases (n == 2 || segs.length != 1)
    · simp only [Bool.not_false, if_true, Bool.false_eq_true, if_false]
      -- the candidate levels: L, M below M4; L, M, Q for M4; all four for QR Codes
      unfold Proofs.Stream.boostLevels
      by_cases hv1 : v < 1
      · by_cases hv0 : v < 0
        · simp only [hv1, hv0, decide_true, if_true]
          exact boost_from segs v n eci isSa [1, 0]
        · simp only [hv1, hv0, decide_true, decide_false, if_true, if_false, Bool.false_eq_true]
          exact boost_from segs v n eci isSa [1, 0, 3]
      · simp only [hv1, decide_false, if_false, Bool.false_eq_true]
        exact boost_from segs v n eci isSa [1, 0, 3, 2]
    · rfl

/-- version 1, level L, one byte segment of 8 + 4 + 8 bits: boosted to H (72 ≥ 20); M4 never beyond Q; M2 never beyond M -/
example : Gen.Funcs2.boost_error_level 1 (some 1) 1 0 [4] 8 false false = .ok (some 2)
    ∧ Gen.Funcs2.boost_error_level 0 (some 1) 1 0 [4] 8 false false = .ok (some 3)
    ∧ Gen.Funcs2.boost_error_level (-2) (some 1) 1 0 [1] 8 false false = .ok (some 0)
    ∧ Gen.Funcs2.boost_error_level 1 (some 1) 2 0 [4, 4] 8 false false = .ok (some 1)
    ∧ Gen.Funcs2.boost_error_level (-2) (some 3) 1 0 [1] 8 false false = .error .valueError := by decide +kernel

/-! ## C13: terminator, padding bits, pad codewords -/

/-- `write_terminator(buff, capacity, ver, len(buff))` as `_encode` calls it (`ver` = None for a QR Code): the buffer
    afterwards is the first stage of `Model.finishStream`; `KeyError` for a version without terminator length -/
theorem write_terminator_tie (buff : List Nat) (cap : Nat) (v : Int) :
    Gen.Funcs2.write_terminator (toI buff) cap (verArg v) buff.length =
      match Model.terminatorLength v with
      | none => .error .keyError
      | some tl => .ok (toI (stage1 buff cap tl)) := by
  unfold Gen.Funcs2.write_terminator
  rw [terminator_lookup]
  cases Model.terminatorLength v with
  | none => rfl
  | some tl =>
    have e : (min ((cap : Int) - (buff.length : Int)) (tl : Int)).toNat = min (cap - buff.length) tl := by omega
    simp [stage1, e, toI]

/-- `write_padding_bits(buff, version, len(buff))`: the second stage (including D1: 8 zero bits when the stream is
    already aligned) -/
theorem write_padding_bits_tie (b1 : List Nat) (v : Int) :
    Gen.Funcs2.write_padding_bits (toI b1) v b1.length = toI (stage2 b1 v) := by
  unfold Gen.Funcs2.write_padding_bits stage2 Model.isM1M3
  have e : ((8 : Int) - ((b1.length : Int) % 8)).toNat = 8 - b1.length % 8 := by omega
  -- (by cases on the version, not on the Boolean expression of the source: `not in (a, b)` may be written otherwise)
  by_cases h3 : v = -3
  · subst h3; simp [Gen.VERSION_M1, Gen.VERSION_M3]
  · by_cases h1 : v = -1
    · subst h1; simp [Gen.VERSION_M1, Gen.VERSION_M3]
    · simp [h3, h1, e, toI, Gen.VERSION_M1, Gen.VERSION_M3]

/-- `write_pad_codewords(buff, version, capacity, len(buff))`: the third stage, for every buffer, version number and
    capacity; the loop `for i in range(…): write(pad_codewords[i % 2])` never raises -/
theorem write_pad_codewords_tie (b2 : List Nat) (v : Int) (cap : Nat) :
    Gen.Funcs2.write_pad_codewords (toI b2) v cap b2.length = .ok (toI (stage3 b2 v cap)) := by
  unfold Gen.Funcs2.write_pad_codewords stage3
  rw [isM1M3_unfold]
  by_cases h : ((v == (-3 : Int)) || (v == (-1 : Int))) = true
  · rw [if_pos h, if_pos h]
    have e0 : (-(b2.length : Int)) % 8 = (((8 - b2.length % 8) % 8 : Nat) : Int) := by omega
    have e1 : (min ((-(b2.length : Int)) % 8) ((cap : Int) - (b2.length : Int))).toNat
        = min ((8 - b2.length % 8) % 8) (cap - b2.length) := by rw [e0]; omega
    simp only [e1]
    rw [zeros_toI, ← toI_append]
    simp only [toI_length, Int.ofNat_eq_natCast]
    rw [pad_loop]
    simp only [bind_ok]
    have e2 : ∀ l : List Nat, (((cap : Int) - (l.length : Int)) / 8).toNat = (cap - l.length) / 8 := by intro l; omega
    have e3 : ∀ l : List Nat, ((cap : Int) - (l.length : Int)).toNat = cap - l.length := by intro l; omega
    rw [e2, ← toI_append]
    simp only [toI_length]
    rw [e3, zeros_toI, ← toI_append]
  · rw [if_neg h, if_neg h]
    rw [pad_loop]
    have e2 : ((cap : Int) / 8 - (b2.length : Int) / 8).toNat = cap / 8 - b2.length / 8 := by omega
    simp [e2]

/-- the three stages are `Model.finishStream` -/
theorem finish_stream_stages (buff : List Nat) (v : Int) (cap : Nat) :
    Model.finishStream buff v cap =
      match Model.terminatorLength v with
      | none => .error .keyError
      | some tl => .ok (stage3 (stage2 (stage1 buff cap tl) v) v cap) := by
  unfold Model.finishStream stage3 stage2 stage1
  cases h : Model.terminatorLength v with
  | none => rfl
  | some tl =>
    simp only []
    by_cases hm : Model.isM1M3 v = true <;> simp [hm, pure, Except.pure]

/-- the three calls as `_encode` makes them (lines "write_terminator … write_pad_codewords"), composed -/
def finishStreamPy (buff : List Int) (v : Int) (cap : Int) : M (List Int) :=
  Gen.Py.bind (Gen.Funcs2.write_terminator buff cap (verArg v) buff.length) (fun b1 =>
    let b2 := Gen.Funcs2.write_padding_bits b1 v b1.length
    Gen.Funcs2.write_pad_codewords b2 v cap b2.length)

/-- … are `Model.finishStream`, for every bit stream, version number and capacity -/
theorem finish_stream_tie (buff : List Nat) (v : Int) (cap : Nat) :
    toR (finishStreamPy (toI buff) v cap) = (Model.finishStream buff v cap).map toI := by
  unfold finishStreamPy
  rw [finish_stream_stages]
  have h1 := write_terminator_tie buff cap v
  simp only [toI_length] at h1 ⊢
  rw [h1]
  cases Model.terminatorLength v with
  | none => rfl
  | some tl =>
    simp only [bind_ok]
    have h2 := write_padding_bits_tie (stage1 buff cap tl) v
    simp only [toI_length] at h2 ⊢
    rw [h2]
    have h3 := write_pad_codewords_tie (stage2 (stage1 buff cap tl) v) v cap
    simp only [toI_length] at h3 ⊢
    rw [h3]
    rfl

/-- version 1-H (72 bits), 20 data bits: terminator 4 → 24 bits, already aligned — `write_padding_bits` nevertheless adds
    8 zero bits (finding D1, characterised in Props/C13) — then five pad codewords -/
example : finishStreamPy [0, 1, 0, 0, 0, 0, 0, 0, 0, 0, 0, 1, 0, 1, 0, 0, 0, 0, 0, 1] 1 72
    = .ok ([0, 1, 0, 0, 0, 0, 0, 0, 0, 0, 0, 1, 0, 1, 0, 0, 0, 0, 0, 1, 0, 0, 0, 0] ++ [0, 0, 0, 0, 0, 0, 0, 0]
      ++ [1, 1, 1, 0, 1, 1, 0, 0] ++ [0, 0, 0, 1, 0, 0, 0, 1] ++ [1, 1, 1, 0, 1, 1, 0, 0] ++ [0, 0, 0, 1, 0, 0, 0, 1]
      ++ [1, 1, 1, 0, 1, 1, 0, 0]) := by decide +kernel

/-! ## C06: mask evaluation -/

set_option linter.unusedVariables false in
/-- `mask_scores(matrix, n, n)` for every n × n matrix (n ≥ 1) of 0/1 modules: the single nested loop of the source (eight
    loop-carried locals, `last_row`, the column buffer `n3_column`, the nested function `n3_pattern_occurrences` with its
    `while` loop over `seq.find`) yields exactly (N1, N2, N3, N4) of `Model.maskScores` — which `Props/C06.lean`
    (`score_eq_iso`) shows equal to the ISO penalty.  In particular the translation never raises, and the fuel declared for
    the `while` loop suffices.
    N4: the float expression `10 * int(abs(float(dark) / size² * 100 - 50) / 5)` is translated in EXACT rational
    arithmetic (`Py.Q`); that IEEE doubles give the same integer is the correspondence assumption of this tie, checked
    by the differential test of C06 on every generated symbol.
    (`hbits` is not used: `Proofs.TieA2.mask_scores_eq` holds for every n × n matrix of naturals.) -/
theorem mask_scores_tie (m : Matrix) (n : Nat) (hs : Sq m n) (hn : 1 ≤ n) (hbits : ∀ i j, get2 m i j ≤ 1) :
    Gen.Funcs2.mask_scores (mI m) n n
      = .ok (Int.ofNat (maskScores m).1, Int.ofNat (maskScores m).2.1, Int.ofNat (maskScores m).2.2.1,
          Int.ofNat (maskScores m).2.2.2) :=
  mask_scores_eq m n hs hn

set_option linter.unusedVariables false in
/-- `evaluate_mask` = N1 + N2 + N3 + N4 -/
theorem evaluate_mask_tie (m : Matrix) (n : Nat) (hs : Sq m n) (hn : 1 ≤ n) (hbits : ∀ i j, get2 m i j ≤ 1) :
    Gen.Funcs2.evaluate_mask (mI m) n n = .ok (Int.ofNat (evaluateMask m)) :=
  evaluate_mask_eq m n hs hn

/-- the nested function `n3_pattern_occurrences(seq)` of `mask_scores` for every sequence (row or column of length
    `qr_size`): the `while idx != -1` loop over `seq.find(pattern, idx + 4)` is `Model.n3Occurrences`; the declared fuel
    `len(seq) + 1` is never exhausted -/
theorem n3_pattern_occurrences_tie (seq : List Nat) :
    Gen.Funcs2.n3_pattern_occurrences [1, 0, 1, 1, 1, 0, 1] (seq.length : Int) (toI seq)
      = .ok (Int.ofNat (Model.n3Occurrences seq)) :=
  n3_occurrences_eq seq

/-- `evaluate_micro_mask(matrix, n, n)` for every n × n matrix, n ≥ 1 (`matrix[-1]`, `matrix[i][-1]`: negative indexes) -/
theorem evaluate_micro_mask_tie (m : Matrix) (n : Nat) (hs : Sq m n) (hn : 1 ≤ n) :
    Gen.Funcs2.evaluate_micro_mask (mI m) n n = .ok (Int.ofNat (Model.evaluateMicroMask m)) :=
  evaluate_micro_mask_eq m n hs hn

/-- a 2 × 2 matrix of dark modules: one 2 × 2 block (N2 = 3), all dark (N4 = 10 · ⌊50 / 5⌋ = 100) -/
example : Gen.Funcs2.mask_scores [[1, 1], [1, 1]] 2 2 = .ok (0, 3, 0, 100)
    ∧ Gen.Funcs2.n3_pattern_occurrences [1, 0, 1, 1, 1, 0, 1] 11 [1, 0, 1, 1, 1, 0, 1, 0, 0, 0, 0] = .ok 40
    ∧ Gen.Funcs2.evaluate_micro_mask [[0, 0, 1], [0, 0, 1], [1, 0, 1]] 3 3 = .ok (1 * 16 + 2) := by decide +kernel

/-! ## C02: function patterns -/

/-- `add_format_info(matrix, version, error, mask_pattern)` on an n × n matrix (n ≥ 9), every version number, error level
    (or `None`) and mask number: the alias `row_eight = matrix[8]`, the negative indexes `row_eight[-1 - i]`,
    `matrix[-1 - i][8]`, `matrix[-8][8]` and the offsets that change at i = 6 against the `set2` folds of the model;
    `IndexError` / `KeyError` of `calc_format_info` in the same cases -/
theorem add_format_info_tie (m : Matrix) (n : Nat) (hs : Sq m n) (hn : 9 ≤ n) (v : Int) (e : Option Nat) (mask : Nat) :
    toR (Gen.Funcs2.add_format_info (mI m) v (e.map Int.ofNat) mask) = (Model.addFormatInfo m v e mask).map mI :=
  add_format_info_eq m n hs hn v e mask

/-- `add_version_info(matrix, version)` on an n × n matrix (n ≥ 11), every version number (`IndexError` above 40) -/
theorem add_version_info_tie (m : Matrix) (n : Nat) (hs : Sq m n) (hn : 11 ≤ n) (v : Int) :
    toR (Gen.Funcs2.add_version_info (mI m) v) = (Model.addVersionInfo m v).map mI :=
  add_version_info_eq m n hs hn v

/-- `add_finder_patterns(matrix, n, n)` on an n × n matrix (n ≥ 8): the slice assignments
    `matrix[i + r][j:j + 8] = _FINDER_PATTERN[offset + r][sepoffset:sepoffset + 8]` are the 64 cell writes per corner -/
theorem add_finder_patterns_tie (m : Matrix) (n : Nat) (hs : Sq m n) (hn : 8 ≤ n) :
    Gen.Funcs2.add_finder_patterns (mI m) n n = .ok (mI (Model.addFinderPatterns m n)) :=
  add_finder_patterns_eq m n hs hn

/-- `add_alignment_patterns(matrix, n, n)` on an n × n matrix of a symbol size (n < 25: none; n = 4·ver + 17, ver ≤ 40):
    `product(positions, repeat=2)`, `continue` for the three finder corners, the 5-module slice assignments -/
theorem add_alignment_patterns_tie (m : Matrix) (n : Nat) (hs : Sq m n) (hn : n < 25 ∨ (n % 4 = 1 ∧ n ≤ 177)) :
    toR (Gen.Funcs2.add_alignment_patterns (mI m) n n) = (Model.addAlignmentPatterns m n).map mI :=
  add_alignment_patterns_eq m n hs hn

/-- `add_timing_pattern(matrix, is_micro)` (called by `make_matrix`) is the last fold of `Model.makeMatrix`, `timingM` -/
theorem add_timing_pattern_tie (m : Matrix) (n : Nat) (hs : Sq m n) (isMicro : Bool) (hn : if isMicro then 1 ≤ n else 7 ≤ n) :
    Gen.Funcs2.add_timing_pattern (mI m) isMicro = .ok (mI (timingM m n isMicro)) :=
  add_timing_pattern_eq m n hs isMicro hn

/-- … and `Model.makeMatrix` ends with it -/
theorem make_matrix_timing (n : Nat) : Model.makeMatrix n = timingM (reservedM n) n (decide (n < 21)) :=
  makeMatrix_eq_timingM n

/-- the hypotheses are satisfiable: the 21 × 21 matrix of `make_matrix` -/
example : Sq (Model.makeMatrix 21) 21 := sq_iff.2 (Proofs.Cells.sq_makeMatrix 21)

/-! ## C07: mode detection -/

/-- `is_kanji(data)` for every byte string: `iter` / `next`, the range loop with two early `return False` -/
theorem is_kanji_tie (data : List Nat) (hb : ∀ b ∈ data, b < 256) :
    Gen.Funcs2.is_kanji (toI data) = .ok (Model.isKanji data) := by
  unfold Gen.Funcs2.is_kanji
  simp only [toI_length, Int.ofNat_eq_natCast]
  rw [isKanji_pairs]
  by_cases h0 : data.length = 0
  · simp [h0]
  · by_cases h2 : data.length % 2 = 0
    · have c1 : ((data.length : Int) != 0) = true := by rw [bne_iff_ne]; omega
      have c2 : (((data.length : Int) % 2) != 0) = false := by rw [bne_eq_false_iff_eq]; omega
      have c3 : (data.length != 0) = true := by rw [bne_iff_ne]; omega
      have c4 : (data.length % 2 == 0) = true := by rw [beq_iff_eq]; omega
      rw [c1, c2, c3, c4]
      simp only [Bool.not_true, Bool.or_self, Bool.false_eq_true, if_false, Bool.and_self, Bool.true_and]
      refine pairs_all_loop _ _ kanjiPair (fun a b rest i hb256 => ?_) (fun _ => rfl) (fun _ => rfl) _ data
        (by rw [rangeStep_two_length _ h2]; omega) hb
      -- one round: the code of the pair, the two range tests, the trail byte
      simp only [toI_cons, Gen.Py.next, bind_ok]
      rw [bor_shift8 a b hb256, band_255 a b hb256, Props.TieA.is_shift_jis_trail_byte_tie]
      have hc : (((decide ((33088 : Int) ≤ ((a * 256 + b : Nat) : Int))) && (decide (((a * 256 + b : Nat) : Int) ≤ (40956 : Int))))
            || ((decide ((57408 : Int) ≤ ((a * 256 + b : Nat) : Int))) && (decide (((a * 256 + b : Nat) : Int) ≤ (60351 : Int)))))
          = ((decide (0x8140 ≤ a * 256 + b) && decide (a * 256 + b ≤ 0x9ffc))
            || (decide (0xe040 ≤ a * 256 + b) && decide (a * 256 + b ≤ 0xebbf))) := by
        rw [Bool.eq_iff_iff]
        simp only [Bool.or_eq_true, Bool.and_eq_true, decide_eq_true_eq]
        omega
      rw [hc, show kanjiPair (a, b) = (((decide (0x8140 ≤ a * 256 + b) && decide (a * 256 + b ≤ 0x9ffc))
            || (decide (0xe040 ≤ a * 256 + b) && decide (a * 256 + b ≤ 0xebbf))) && isSjisTrail b) from rfl]
      cases ((decide (0x8140 ≤ a * 256 + b) && decide (a * 256 + b ≤ 0x9ffc))
            || (decide (0xe040 ≤ a * 256 + b) && decide (a * 256 + b ≤ 0xebbf))) <;> cases isSjisTrail b <;> rfl
    · have c2 : (((data.length : Int) % 2) != 0) = true := by rw [bne_iff_ne]; omega
      have c4 : (data.length % 2 == 0) = false := by rw [beq_eq_false_iff_ne]; omega
      rw [c2, c4]
      simp

/-- `find_mode(data)` for every byte string.  The regular expression behind `is_alphanumeric(data)` is an OPAQUE read
    of the translation (parameter `is_alnum`); the tie supplies "non-empty and only characters of the alphanumeric
    table" for it — that the compiled pattern means this is checked by the differential test of C07, not proved -/
theorem find_mode_tie (data : List Nat) (hb : ∀ b ∈ data, b < 256) :
    Gen.Funcs2.find_mode (toI data) (decide (data.length ≠ 0) && data.all Model.isAlnumByte)
      = .ok (Int.ofNat (Model.findMode data)) := by
  unfold Gen.Funcs2.find_mode Model.findMode
  rw [isDigit_toI, is_kanji_tie data hb]
  have e : (decide (data.length ≠ 0) && data.all Model.isAlnumByte) = (data.length != 0 && data.all Model.isAlnumByte) := by
    cases data with
    | nil => rfl
    | cons a t => simp
  rw [e]
  cases (data.length != 0 && data.all Model.isDigitByte) with
  | true => rfl
  | false =>
    cases (data.length != 0 && data.all Model.isAlnumByte) with
    | true => rfl
    | false =>
      cases Model.isKanji data <;> rfl

example : Gen.Funcs2.is_kanji [0x93, 0x5f] = .ok true ∧ Gen.Funcs2.is_kanji [0x93, 0x7f] = .ok false
    ∧ Gen.Funcs2.find_mode [0x31, 0x32] false = .ok 1 ∧ Gen.Funcs2.find_mode [0x93, 0x5f] false = .ok 8 := by decide +kernel

/-! ## C03: Reed-Solomon blocks -/

/-- `make_blocks(ec_infos, buff)` for every bit stream and every EC information list (num_blocks ≥ 1, num_data ≤ num_total,
    as in `consts.ECC`): the iterator over `buff.toints()` consumed by `islice`, the four nested loops and the in-place
    `error_block[k + n + 1] ^= gen_exp[lcoef + gen[n]]` of the source yield the data and error correction blocks of
    `Model.makeBlocks` (whose blocks `Props/C03.lean` shows to be Reed-Solomon codewords); `KeyError` for a number of error
    words without generator polynomial in the same cases; no table index leaves its table -/
theorem make_blocks_tie (ecs : List (Nat × Nat × Nat)) (bits : List Nat) (hbits : ∀ b ∈ bits, b ≤ 1)
    (hec : ∀ e ∈ ecs, 1 ≤ e.1 ∧ e.2.2 ≤ e.2.1) :
    toR (Gen.Funcs2.make_blocks (ecI ecs) (toI bits))
      = (Model.makeBlocks ecs (Model.toInts (bits.length + 1) bits)).map (fun p => (p.1.map toI, p.2.map toI)) :=
  make_blocks_eq ecs bits hbits hec

/-- version M1 (3 data codewords, the last one of 4 bits; 2 error correction codewords) -/
example : Gen.Funcs2.make_blocks [(1, 5, 3)] [0, 1, 0, 0, 0, 0, 0, 1, 1, 0, 1, 0, 1, 1, 1, 1, 0, 0, 1, 0]
    = .ok ([[65, 175, 32]], [[226, 44]]) := by decide +kernel

/-- `to_binary(val, length)` (nested function of `make_final_message`, a generator expression over
    `reversed(range(length))`) is `Model.appendBits` -/
theorem to_binary_tie (x len : Nat) : Gen.Funcs2.to_binary (x : Int) (len : Int) = toI (Model.appendBits x len) :=
  to_binary_eq x len

/-- `make_final_message(version, error, buff)` for EVERY version number, error level (or `None`) and bit stream:
    `consts.ECC[version][error]`, `make_blocks`, for M1 / M3 `data_blocks[0].pop(-1) >> 4`, the interleaving pipelines
    `chain(*map(to_binary, (x for x in chain.from_iterable(zip_longest(*blocks)) if x is not None)))` and the remainder bits
    yield the final message of `Model.makeFinalMessage`; `KeyError` (no ECC entry / generator polynomial) and `IndexError`
    (M1 / M3 without a data codeword) in the same cases and in the same order -/
theorem make_final_message_tie (v : Int) (e : Option Nat) (bits : List Nat) (hbits : ∀ b ∈ bits, b ≤ 1) :
    toR (Gen.Funcs2.make_final_message v (e.map Int.ofNat) (toI bits)) = (Model.makeFinalMessage v e bits).map toI :=
  make_final_message_eq v e bits hbits

/-- M1: three data codewords, the last one of 4 bits, two error correction codewords: 20 + 16 bits -/
example : Gen.Funcs2.make_final_message (-3) none [0, 1, 0, 0, 0, 0, 0, 1, 1, 0, 1, 0, 1, 1, 1, 1, 0, 0, 1, 0]
    = .ok ([0, 1, 0, 0, 0, 0, 0, 1, 1, 0, 1, 0, 1, 1, 1, 1, 0, 0, 1, 0] ++ [1, 1, 1, 0, 0, 0, 1, 0] ++ [0, 0, 1, 0, 1, 1, 0, 0]) := by
  decide +kernel

/-! ## C08: Structured Append parity -/

/-- `calc_structured_append_parity(content)`.  The three `content.encode(…)` calls are OPAQUE reads that can raise
    (text codecs are a runtime service): the translation takes their outcomes as parameters of type `M (List Int)`.  Whatever
    codec succeeds first in the order iso-8859-1, shift-jis (`UnicodeError`), utf-8 (`UnicodeError` / `LookupError`), the
    result is the XOR of the bytes, `Model.xorBytes` (`TypeError` of `reduce` for empty data). -/
theorem structured_append_parity_tie (s : String) (l : List Nat) (h : l ≠ []) (x y : M (List Int)) (e : PyExc)
    (he : e = .unicodeError ∨ e = .lookupError) :
    Gen.Funcs2.calc_structured_append_parity s (.ok (toI l)) x y = .ok (Int.ofNat (xorBytes l))
    ∧ Gen.Funcs2.calc_structured_append_parity s (.error .unicodeError) (.ok (toI l)) y = .ok (Int.ofNat (xorBytes l))
    ∧ Gen.Funcs2.calc_structured_append_parity s (.error .unicodeError) (.error e) (.ok (toI l)) = .ok (Int.ofNat (xorBytes l)) := by
  unfold Gen.Funcs2.calc_structured_append_parity
  refine ⟨?_, ?_, ?_⟩
  · -- the content is Latin-1
    simp only [tryExcept_ok]
    exact reduceXor_toI l h
  · -- not Latin-1, but Shift JIS
    simp only [tryExcept_error, tryExcept_ok]
    exact reduceXor_toI l h
  · -- neither: UTF-8
    rcases he with rfl | rfl <;> simp only [tryExcept_error, bind_ok] <;> exact reduceXor_toI l h

example : Gen.Funcs2.calc_structured_append_parity "AB" (.ok [65, 66]) (.ok []) (.ok []) = .ok 3
    ∧ Gen.Funcs2.calc_structured_append_parity "" (.ok []) (.ok []) (.ok []) = .error .typeError := by decide +kernel

end Props.TieA2
