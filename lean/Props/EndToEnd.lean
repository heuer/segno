/-
  END-TO-END (C01 + C02 + C03 + C13 composed): every symbol the model of `encode` returns is read by
  the ISO reference reader `Spec.decode` as: the version / level / mask the encoder reports, intact
  function patterns, valid Reed-Solomon blocks, zero remainder bits, and a data stream that parses
  back to exactly the content bytes followed by the (D1-)tail.

  The steps, as the layer theorems number them: 1 each content part becomes a segment (`make_segment`),
  2 adjacent segments of one mode are merged (`prepare_data`), 3 the segments are written and the stream is
  terminated and padded, 4 the final message (RS blocks, interleaving), 5 placement and masking, 6 format and
  version information, 7 the function patterns.  All layers are read off one lemma,
  `Proofs.EndToEnd.encode_run`; since the intermediate values are functions of the result
  (`dataPath_unique`), each layer may speak of the caller's own `DataPath`.
-/
import Spec.Decode
import Model.Encoder
import Props.C01
import Props.C01Stream
import Props.C01Placement
import Props.C02Model
import Props.C03Message
import Props.C04
import Props.C13
import Proofs.EndToEnd

namespace Props.EndToEnd

/-- the content parts as a caller can supply them: bytes, non-empty, mode None or a mode constant -/
def PartsOk (parts : List Model.Part) : Prop :=
  parts ≠ [] ∧ ∀ p ∈ parts, (∀ b ∈ p.data, b < 256) ∧ p.data ≠ [] ∧ p.mode ∈ [none, some 1, some 2, some 4, some 8, some 13]

/-- merging of adjacent same-mode parts (`Segments.add_segment`) is sound: the merged segment is
    what `make_segment` produces for the concatenated bytes -/
theorem merged_segment_is_makeSegment (d1 d2 : List Nat) (m : Option Nat) (e1 e2 : String) (s1 s2 : Model.Segment)
    (hm : m ∈ [none, some 1, some 2, some 4, some 8, some 13])
    (h1 : Model.makeSegment d1 m e1 = .ok s1) (h2 : Model.makeSegment d2 m e2 = .ok s2)
    (hmode : s1.mode = s2.mode) (henc : s1.encoding = s2.encoding)
    (hgroup : s1.charCount % (if s2.mode == 1 then 3 else if s2.mode == 2 then 2 else 1) = 0) :
    Model.makeSegment (d1 ++ d2) (some s1.mode) e2
      = .ok { bits := s1.bits ++ s2.bits, charCount := s1.charCount + s2.charCount, mode := s2.mode, encoding := s2.encoding } := by
  exact Proofs.EndToEnd.merged d1 d2 m e1 e2 s1 s2 hm h1 h2 hmode henc hgroup

/-- **step 2**: the segments `prepare_data` returns (after merging) are `make_segment` results for
    consecutive, non-empty slices of the content: `pairs` lists each slice with its segment -/
theorem prepareData_pairs (parts : List Model.Part) (segs : List Model.Segment) (hp : PartsOk parts)
    (h : Model.prepareData parts = .ok segs) :
    ∃ pairs : List (List Nat × Model.Segment), segs = pairs.map (·.2)
      ∧ (pairs.map (·.1)).flatten = (parts.map (·.data)).flatten
      ∧ ∀ x ∈ pairs, (∀ b ∈ x.1, b < 256) ∧ x.1 ≠ [] ∧ x.2.mode ∈ [1, 2, 4, 8, 13]
          ∧ ∃ enc, Model.makeSegment x.1 (some x.2.mode) enc = .ok x.2 := by
  exact Proofs.EndToEnd.prepareData_pairs parts segs hp.2 h

/-- the data path of `_encode` for a returned symbol `c`: the bits written for its segments, the
    Table 7 capacity, the terminated and padded stream, the final message handed to the placement.
    (All four are functions of `c`, `eci` and the ECI assignment table `f`.) -/
def DataPath (c : Model.Code) (eci : Bool) (f : String → Option Nat)
    (segBits : List (List Nat)) (cap : Nat) (stream final : List Nat) : Prop :=
  c.segments.mapM (fun s => Model.writeSegment s c.version eci f) = .ok segBits
    ∧ Model.capacity c.version c.error = some cap
    ∧ Model.finishStream segBits.flatten c.version cap = .ok stream
    ∧ Model.makeFinalMessage c.version c.error stream = .ok final

theorem dataPath_unique (c : Model.Code) (eci : Bool) (f : String → Option Nat)
    (sb sb' : List (List Nat)) (cap cap' : Nat) (st st' fi fi' : List Nat)
    (h : DataPath c eci f sb cap st fi) (h' : DataPath c eci f sb' cap' st' fi') :
    sb = sb' ∧ cap = cap' ∧ st = st' ∧ fi = fi' := by
  obtain ⟨a1, a2, a3, a4⟩ := h
  obtain ⟨b1, b2, b3, b4⟩ := h'
  rw [a1] at b1; cases b1
  rw [a2] at b2; cases b2
  rw [a3] at b3; cases b3
  rw [a4] at b4; cases b4
  exact ⟨rfl, rfl, rfl, rfl⟩

section layers

variable (parts : List Model.Part) (error : Option Nat) (version : Option Int)
  (mode : Option Nat) (mask : Option Nat) (eci : Bool) (micro : Option Bool) (boost : Bool)
  (f : String → Option Nat) (c : Model.Code)

set_option linter.unusedVariables false in
/-- for every accepted input the data path exists (none of its stages fails), the returned segments are
    those of `prepare_data`, and the written bits fit the capacity -/
theorem encode_data_path (hp : PartsOk parts) (hf : ∀ enc n, f enc = some n → n < 128)
    (h : Model.encode parts error version mode mask eci micro boost f = .ok c) :
    Model.prepareData parts = .ok c.segments ∧
    ∃ segBits cap stream final, DataPath c eci f segBits cap stream final
      ∧ segBits.flatten.length ≤ cap ∧ cap ≤ stream.length := by
  obtain ⟨hprep, -, r, hfit⟩ := Proofs.EndToEnd.encode_run parts error version mode mask eci micro boost f c h
  exact ⟨hprep, _, _, _, _, ⟨r.hw, r.tail.hcap, r.tail.hstream, r.tail.hfinal⟩, hfit, (r.tail.take hfit).2⟩

/-- **steps 1–3**: the first `cap` bits of the model's data stream (all that `make_blocks` uses) parse
    under the reference parser to exactly the content bytes, without Structured Append header, ECI
    designators only with `eci`, followed by the (D1-)tail -/
theorem encode_stream_parses (hp : PartsOk parts) (hf : ∀ enc n, f enc = some n → n < 128)
    (h : Model.encode parts error version mode mask eci micro boost f = .ok c)
    (segBits : List (List Nat)) (cap : Nat) (stream final : List Nat)
    (hd : DataPath c eci f segBits cap stream final) :
    ∃ p, Spec.parseStream c.version (stream.take cap) = .ok p ∧ p.sa = none
      ∧ (p.segments.map (·.bytes)).flatten = (parts.map (·.data)).flatten
      ∧ (eci = false → ∀ s ∈ p.segments, s.eci = none)
      ∧ (stream.take cap).drop p.endPos = Spec.d1Tail c.version cap p.endPos := by
  obtain ⟨hprep, hev, r, hfit⟩ := Proofs.EndToEnd.encode_run parts error version mode mask eci micro boost f c h
  obtain ⟨rfl, rfl, rfl, rfl⟩ := dataPath_unique c eci f _ _ _ _ _ _ _ _ hd ⟨r.hw, r.tail.hcap, r.tail.hstream, r.tail.hfinal⟩
  exact Proofs.EndToEnd.stream_parses r hp.2 hprep hev hfit hf

set_option linter.unusedVariables false in
/-- **step 4**: the final message splits (frozen ISO Table 9) into valid Reed-Solomon blocks, zero
    remainder bits, and carries exactly the first `cap` bits of the stream -/
theorem encode_blocks_valid (hp : PartsOk parts) (hf : ∀ enc n, f enc = some n → n < 128)
    (h : Model.encode parts error version mode mask eci micro boost f = .ok c)
    (segBits : List (List Nat)) (cap : Nat) (stream final : List Nat)
    (hd : DataPath c eci f segBits cap stream final) :
    ∃ b, Spec.splitBlocks c.version (Model.lvlKey c.error) final = .ok b ∧ Spec.badBlocks b = 0
      ∧ Spec.allZero b.remainder = true ∧ Spec.dataStream c.version b = stream.take cap := by
  obtain ⟨hprep, -, r, hfit⟩ := Proofs.EndToEnd.encode_run parts error version mode mask eci micro boost f c h
  obtain ⟨rfl, rfl, rfl, rfl⟩ := dataPath_unique c eci f _ _ _ _ _ _ _ _ hd ⟨r.hw, r.tail.hcap, r.tail.hstream, r.tail.hfinal⟩
  exact r.tail.blocks (Proofs.EndToEnd.run_bin r hp.2 hprep) hfit

set_option linter.unusedVariables false in
/-- **step 5**: the reference reader's zig-zag read with unmasking (mask = the reported one) of the
    returned matrix gives exactly the final message -/
theorem encode_data_bits_read_back (hp : PartsOk parts) (hf : ∀ enc n, f enc = some n → n < 128)
    (h : Model.encode parts error version mode mask eci micro boost f = .ok c)
    (segBits : List (List Nat)) (cap : Nat) (stream final : List Nat)
    (hd : DataPath c eci f segBits cap stream final) :
    Spec.readDataBits c.version c.mask c.matrix = final := by
  obtain ⟨-, -, r, hfit⟩ := Proofs.EndToEnd.encode_run parts error version mode mask eci micro boost f c h
  obtain ⟨rfl, rfl, rfl, rfl⟩ := dataPath_unique c eci f _ _ _ _ _ _ _ _ hd ⟨r.hw, r.tail.hcap, r.tail.hstream, r.tail.hfinal⟩
  exact r.tail.read hfit

set_option linter.unusedVariables false in
/-- **step 6**: the returned matrix is square and binary, both format information copies are the BCH
    word of (level, mask), the dark module is set, the version information is the Golay word: the
    reference reader reports exactly the version / level / mask the encoder reports -/
theorem encode_header_read_back (hp : PartsOk parts) (hf : ∀ enc n, f enc = some n → n < 128)
    (h : Model.encode parts error version mode mask eci micro boost f = .ok c) :
    Spec.readHeader c.matrix = .ok { version := c.version, level := Model.lvlKey c.error, mask := c.mask } := by
  obtain ⟨-, -, r, hfit⟩ := Proofs.EndToEnd.encode_run parts error version mode mask eci micro boost f c h
  exact r.tail.header hfit

set_option linter.unusedVariables false in
/-- **step 7**: every fixed function module (finder, separator, timing, alignment, dark module) of the
    returned matrix has its ISO value -/
theorem encode_function_patterns (hp : PartsOk parts) (hf : ∀ enc n, f enc = some n → n < 128)
    (h : Model.encode parts error version mode mask eci micro boost f = .ok c) :
    Spec.functionPatternsOk c.version c.matrix = none := by
  obtain ⟨-, -, r, hfit⟩ := Proofs.EndToEnd.encode_run parts error version mode mask eci micro boost f c h
  exact r.tail.fn hfit

end layers

set_option linter.unusedVariables false in
/-- **end to end**: for every accepted input, the returned matrix decodes under the reference reader to
    the reported header, intact function patterns, valid RS blocks, zero remainder bits, and exactly the
    content bytes (in order), followed by the tail of ISO 7.4.9/7.4.10 in the form segno
    produces (finding D1) -/
theorem encode_decodes (parts : List Model.Part) (error : Option Nat) (version : Option Int)
    (mode : Option Nat) (mask : Option Nat) (eci : Bool) (micro : Option Bool) (boost : Bool)
    (f : String → Option Nat) (c : Model.Code)
    (hp : PartsOk parts)
    (herr : error ∈ [none, some 0, some 1, some 2, some 3])
    (hver : ∀ v, version = some v → -3 ≤ v ∧ v ≤ 40)
    (hmask : ∀ k, mask = some k → k < 8)
    (hf : ∀ enc n, f enc = some n → n < 128)
    (h : Model.encode parts error version mode mask eci micro boost f = .ok c) :
    ∃ d, Spec.decode c.matrix = .ok d
      ∧ d.header = { version := c.version, level := Model.lvlKey c.error, mask := c.mask }
      ∧ d.fnBad = none
      ∧ d.badBlocks = 0 ∧ Spec.allZero d.blocks.remainder = true
      ∧ ∃ p, d.parsed = .ok p ∧ p.sa = none
          ∧ (p.segments.map (·.bytes)).flatten = (parts.map (·.data)).flatten
          ∧ (eci = false → ∀ s ∈ p.segments, s.eci = none)
          ∧ d.stream.drop p.endPos = Spec.d1Tail c.version d.stream.length p.endPos := by
  obtain ⟨hprep, hev, r, hfit⟩ := Proofs.EndToEnd.encode_run parts error version mode mask eci micro boost f c h
  obtain ⟨d, hdec, hhdr, hfn, hbad, hrem, hst, hpar⟩ := r.tail.decodes (Proofs.EndToEnd.run_bin r hp.2 hprep) hfit
  obtain ⟨p, hp1, hp2, hp3, hp4, hp5⟩ := Proofs.EndToEnd.stream_parses r hp.2 hprep hev hfit hf
  refine ⟨d, hdec, hhdr, hfn, hbad, hrem, p, by rw [hpar, hst]; exact hp1, hp2, hp3, hp4, ?_⟩
  rw [hst, List.length_take, Nat.min_eq_left (r.tail.take hfit).2]
  exact hp5

/-- the hypotheses are satisfiable and the conclusion is computed to hold: "123" is accepted (an M1
    symbol results), and the reference reader returns the three bytes from valid blocks -/
example : (match Model.encode [⟨[49, 50, 51], none, "iso-8859-1"⟩] none none none none false none true (fun _ => none) with
    | .ok c => c.version == -3 &&
      (match Spec.decode c.matrix with
       | .ok d => d.badBlocks == 0 && (match d.parsed with
          | .ok p => (p.segments.map (·.bytes)).flatten == [49, 50, 51]
          | .error _ => false)
       | .error _ => false)
    | .error _ => false) = true := by decide +kernel

end Props.EndToEnd

#print axioms Props.EndToEnd.merged_segment_is_makeSegment
#print axioms Props.EndToEnd.prepareData_pairs
#print axioms Props.EndToEnd.dataPath_unique
#print axioms Props.EndToEnd.encode_data_path
#print axioms Props.EndToEnd.encode_stream_parses
#print axioms Props.EndToEnd.encode_blocks_valid
#print axioms Props.EndToEnd.encode_data_bits_read_back
#print axioms Props.EndToEnd.encode_header_read_back
#print axioms Props.EndToEnd.encode_function_patterns
#print axioms Props.EndToEnd.encode_decodes
