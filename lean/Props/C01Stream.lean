/-
  C01 (part 2) — stream level: the reference parser applied to the data bit stream the model builds
  (optional ECI header, mode indicator, character count indicator, payload, ISO tail) recovers
  exactly the segments.  `f : String → Option Nat` is the table of ECI assignment numbers by codec name.
  All statements are instances of `Proofs.StreamParse.parseStream_list_tail` (those for one segment through
  `parseStream_single_tail`).
-/
import Spec.Decode
import Spec.Sizing
import Model.Encoder
import Props.C13
import Proofs.StreamParse

namespace Props.C01

/-- what the reference reader should report for a model segment -/
def expectedSegment (eciNum : Option Nat) (s : Model.Segment) (data : List Nat) : Spec.Segment :=
  { mode := s.mode, eci := eciNum, count := s.charCount, bytes := data }

/-- **single segment, no ECI**: header ++ payload ++ ISO tail parses back to exactly that segment,
    and the parser stops exactly where the segment ends (so nothing in the tail can be taken for a
    further segment — the last clause of C13) -/
theorem stream_roundtrip_single (data : List Nat) (mode : Option Nat) (enc : String) (s : Model.Segment)
    (v : Int) (cap : Nat) (bits : List Nat) (f : String → Option Nat)
    (h1 : -3 ≤ v) (h2 : v ≤ 40) (hc : Props.C13.CapOf v cap) (hd : ∀ b ∈ data, b < 256) (hne : data ≠ [])
    (hm : mode ∈ [none, some 1, some 2, some 4, some 8, some 13])
    (hs : Model.makeSegment data mode enc = .ok s)
    (hw : Model.writeSegment s v false f = .ok bits) (hfit : bits.length ≤ cap)
    (hcount : ∀ w, Spec.cciBits s.mode v = some w → s.charCount < 2 ^ w) :
    Spec.parseStream v (bits ++ Spec.isoTail v cap bits.length)
      = .ok { sa := none, segments := [expectedSegment none s data], endPos := bits.length } := by
  obtain ⟨e, hc⟩ := hc
  exact Proofs.StreamParse.parseStream_single_tail v false f (data, s) bits _ h1 h2 (fun h => nomatch h)
    ⟨hd, fun _ => hne, ⟨mode, enc, hm, hs⟩, hcount, fun n h => nomatch h⟩ hw
    (Proofs.StreamParse.isoTail_stop v cap bits.length e hc hfit)

/-- the same for the tail segno writes (finding D1: one extra zero codeword before the pads) -/
theorem stream_roundtrip_single_d1 (data : List Nat) (mode : Option Nat) (enc : String) (s : Model.Segment)
    (v : Int) (cap : Nat) (bits : List Nat) (f : String → Option Nat)
    (h1 : -3 ≤ v) (h2 : v ≤ 40) (hc : Props.C13.CapOf v cap) (hd : ∀ b ∈ data, b < 256) (hne : data ≠ [])
    (hm : mode ∈ [none, some 1, some 2, some 4, some 8, some 13])
    (hs : Model.makeSegment data mode enc = .ok s)
    (hw : Model.writeSegment s v false f = .ok bits) (hfit : bits.length ≤ cap)
    (hcount : ∀ w, Spec.cciBits s.mode v = some w → s.charCount < 2 ^ w) :
    Spec.parseStream v (bits ++ Spec.d1Tail v cap bits.length)
      = .ok { sa := none, segments := [expectedSegment none s data], endPos := bits.length } := by
  obtain ⟨e, hc⟩ := hc
  exact Proofs.StreamParse.parseStream_single_tail v false f (data, s) bits _ h1 h2 (fun h => nomatch h)
    ⟨hd, fun _ => hne, ⟨mode, enc, hm, hs⟩, hcount, fun n h => nomatch h⟩ hw
    (Proofs.StreamParse.d1Tail_stop v cap bits.length e hc hfit)

/-- **with ECI** (QR only): a byte segment in a non-default encoding is preceded by the ECI header
    with the assignment number of its codec, and the reader reports that number -/
theorem stream_roundtrip_single_eci (data : List Nat) (enc : String) (s : Model.Segment)
    (v : Int) (cap n : Nat) (bits : List Nat) (f : String → Option Nat)
    (h1 : 1 ≤ v) (h2 : v ≤ 40) (hc : Props.C13.CapOf v cap) (hd : ∀ b ∈ data, b < 256) (hne : data ≠ [])
    (hs : Model.makeSegment data (some 4) enc = .ok s) (henc : enc ≠ "iso-8859-1")
    (hf : f enc = some n) (hn : n < 128)
    (hw : Model.writeSegment s v true f = .ok bits) (hfit : bits.length ≤ cap)
    (hcount : ∀ w, Spec.cciBits s.mode v = some w → s.charCount < 2 ^ w) :
    Spec.parseStream v (bits ++ Spec.isoTail v cap bits.length)
      = .ok { sa := none, segments := [expectedSegment (some n) s data], endPos := bits.length } := by
  obtain ⟨e, hc⟩ := hc
  -- a byte segment in another encoding than the default gets the ECI header with `f enc`
  have heci : Proofs.StreamParse.eciOf s true f = some n := by
    have hs' := hs
    rw [Proofs.Modes.makeSegment_4, Proofs.Modes.segBody_4] at hs'
    cases hs'
    simpa [Proofs.StreamParse.eciOf, Gen.MODE_BYTE, Gen.DEFAULT_BYTE_ENCODING, henc] using hf
  have := Proofs.StreamParse.parseStream_single_tail v true f (data, s) bits _ (by omega) h2 (fun _ => h1)
    ⟨hd, fun _ => hne, ⟨some 4, enc, by decide, hs⟩, hcount, fun n' h => by rw [heci] at h; cases h; exact hn⟩ hw
    (Proofs.StreamParse.isoTail_stop v cap bits.length e hc hfit)
  rwa [Proofs.StreamParse.expected, heci] at this

/-- the ECI designator `write_segment` emits in front of a segment (`none`: no ECI header) -/
def eciDesignator (s : Model.Segment) (eci : Bool) (f : String → Option Nat) : Option Nat :=
  if eci && s.mode == Gen.MODE_BYTE && s.encoding != some Gen.DEFAULT_BYTE_ENCODING then
    f (s.encoding.getD "")
  else none

/-- **any number of segments** (each one a direct result of `make_segment`, written one after the other as
    `_encode` does: `segs.mapM write_segment`, concatenated), with or without ECI headers, followed by
    the ISO tail: the reference parser returns exactly these segments, in order, each with its ECI
    designator, and stops exactly at the end of the last one. -/
theorem stream_roundtrip_list (items : List (List Nat × Model.Segment)) (v : Int) (cap : Nat) (eci : Bool)
    (f : String → Option Nat) (segBits : List (List Nat))
    (h1 : -3 ≤ v) (h2 : v ≤ 40) (hc : Props.C13.CapOf v cap) (hev : eci = true → 1 ≤ v)
    (hd : ∀ x ∈ items, (∀ b ∈ x.1, b < 256) ∧ x.1 ≠ [])
    (hs : ∀ x ∈ items, ∃ mode enc, mode ∈ [none, some 1, some 2, some 4, some 8, some 13] ∧
      Model.makeSegment x.1 mode enc = .ok x.2)
    (hw : (items.map (·.2)).mapM (fun s => Model.writeSegment s v eci f) = .ok segBits)
    (hfit : segBits.flatten.length ≤ cap)
    (hcount : ∀ x ∈ items, ∀ w, Spec.cciBits x.2.mode v = some w → x.2.charCount < 2 ^ w)
    (hn : ∀ x ∈ items, ∀ n, eciDesignator x.2 eci f = some n → n < 128) :
    Spec.parseStream v (segBits.flatten ++ Spec.isoTail v cap segBits.flatten.length)
      = .ok { sa := none,
              segments := items.map (fun x => expectedSegment (eciDesignator x.2 eci f) x.2 x.1),
              endPos := segBits.flatten.length } := by
  obtain ⟨e, hc⟩ := hc
  exact Proofs.StreamParse.parseStream_list_tail v eci f items segBits _ h1 h2 hev
    (fun x hx => ⟨(hd x hx).1, fun _ => (hd x hx).2, hs x hx, hcount x hx, hn x hx⟩) hw
    (Proofs.StreamParse.isoTail_stop v cap _ e hc hfit)

/-- the same with the tail segno writes (finding D1) -/
theorem stream_roundtrip_list_d1 (items : List (List Nat × Model.Segment)) (v : Int) (cap : Nat) (eci : Bool)
    (f : String → Option Nat) (segBits : List (List Nat))
    (h1 : -3 ≤ v) (h2 : v ≤ 40) (hc : Props.C13.CapOf v cap) (hev : eci = true → 1 ≤ v)
    (hd : ∀ x ∈ items, (∀ b ∈ x.1, b < 256) ∧ x.1 ≠ [])
    (hs : ∀ x ∈ items, ∃ mode enc, mode ∈ [none, some 1, some 2, some 4, some 8, some 13] ∧
      Model.makeSegment x.1 mode enc = .ok x.2)
    (hw : (items.map (·.2)).mapM (fun s => Model.writeSegment s v eci f) = .ok segBits)
    (hfit : segBits.flatten.length ≤ cap)
    (hcount : ∀ x ∈ items, ∀ w, Spec.cciBits x.2.mode v = some w → x.2.charCount < 2 ^ w)
    (hn : ∀ x ∈ items, ∀ n, eciDesignator x.2 eci f = some n → n < 128) :
    Spec.parseStream v (segBits.flatten ++ Spec.d1Tail v cap segBits.flatten.length)
      = .ok { sa := none,
              segments := items.map (fun x => expectedSegment (eciDesignator x.2 eci f) x.2 x.1),
              endPos := segBits.flatten.length } := by
  obtain ⟨e, hc⟩ := hc
  exact Proofs.StreamParse.parseStream_list_tail v eci f items segBits _ h1 h2 hev
    (fun x hx => ⟨(hd x hx).1, fun _ => (hd x hx).2, hs x hx, hcount x hx, hn x hx⟩) hw
    (Proofs.StreamParse.d1Tail_stop v cap _ e hc hfit)

end Props.C01

#print axioms Props.C01.stream_roundtrip_single
#print axioms Props.C01.stream_roundtrip_single_d1
#print axioms Props.C01.stream_roundtrip_single_eci
#print axioms Props.C01.stream_roundtrip_list
#print axioms Props.C01.stream_roundtrip_list_d1
