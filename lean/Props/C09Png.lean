/-
  C09 / C11 — the PNG writer: scanline stream, palette / tRNS assembly and their composition.
  `Model.writePng` / `Model.savePng` is the hand-written model of `writers.write_png` (tied to the real
  code by the correspondence runs of `./check C09` and `./check C11`: IHDR fields, PLTE, tRNS and the
  inflated IDAT of every PNG, byte for byte); `Spec.unfilterUp`, `Spec.unpackRow`, `Spec.Png.img` are
  the reference reader's semantics.
-/
import Props.C09
import Proofs.PngTwoTone

namespace Props.C09Png

open Model Spec Proofs.Raster Proofs.Png

/-- The obligation `Props.C09.PngStreamRows` (unbounded: every index
    grid, width, scale, border, bit depth 1 / 2 / 4): the model's IDAT stream is the concatenation of
    (rows + 2b)·s scanlines, each with filter type 0 or 2 and 1 + ⌈width·depth/8⌉ bytes -/
theorem png_stream_rows : Props.C09.PngStreamRows := by
  intro idx w d s b qz hd hs _ hrows
  refine ⟨pngLines idx w d s b qz, ?_, pngLines_length idx w d s b qz hs, ?_⟩
  · exact pngStream_eq_flat idx w d s b qz
  · exact pngLines_line idx w d s b qz (depth_dvd hd) (fun r hr => (hrows r hr).1)

/-- The structure of the stream (unbounded): `b·s` quiet zone scanlines of
    filter type 0, then for every module row ONE filter-0 scanline followed by `s − 1` scanlines of
    filter type 2 ("Up") whose bytes are all zero, then `b·s` quiet zone scanlines -/
theorem png_stream_scanlines (idx : List (List Nat)) (w d s b qz : Nat) (hd : d = 1 ∨ d = 2 ∨ d = 4) :
    pngStream idx w d s b qz = flat (pngLines idx w d s b qz)
    ∧ pngLines idx w d s b qz =
        List.replicate (b * s) (0, packRow d (List.replicate ((w + 2 * b) * s) qz))
        ++ idx.flatMap (fun row => (0, packRow d (fullRow s b qz row))
              :: List.replicate (s - 1) (2, List.replicate (((w + 2 * b) * s * d + 7) / 8) 0))
        ++ List.replicate (b * s) (0, packRow d (List.replicate ((w + 2 * b) * s) qz)) := by
  refine ⟨pngStream_eq_flat idx w d s b qz, ?_⟩
  have hrow : rowLines d s b qz ((w + 2 * b) * s) = fun row => (0, packRow d (fullRow s b qz row))
      :: List.replicate (s - 1) (2, List.replicate (((w + 2 * b) * s * d + 7) / 8) 0) := by
    funext row; simp only [rowLines, upLine, packRow_zeros, groups_eq_bytes d _ (depth_dvd hd)]
  simp only [pngLines, borderLine, hrow]

/-- Unbounded: reconstructing the scanlines with the reference filter
    semantics (type 0 = as is, type 2 = `Spec.unfilterUp` on the scanline above — the Up-filtered zero
    rows become copies) and unpacking the samples (`Spec.unpackRow`) yields the colour-index picture:
    (rows + 2b)·s rows of (w + 2b)·s indexes, pixel (x, y) = the index of module (y div s − b, x div s − b),
    `qz` in the quiet zone.  Rests on `Props.C09.up_filter_zero_row` and on the lemmas behind `pack_unpack` and
    `matrix_iter_pixel` (`Proofs.Raster.unpack_packRow`, `iterWith_eq`); `Proofs.Png.recon_unpack` is the same for
    every depth from 1 to 8. -/
theorem png_stream_reconstructs (idx : List (List Nat)) (w d s b qz : Nat) (hd : d = 1 ∨ d = 2 ∨ d = 4) (hs : 0 < s)
    (hqz : qz < 2 ^ d) (hrows : ∀ r ∈ idx, r.length = w ∧ ∀ v ∈ r, v < 2 ^ d) :
    (recon [] (pngLines idx w d s b qz)).map (unpackRow d ((w + 2 * b) * s)) = idxPicture idx w s b qz
    ∧ ∀ x y, x < (w + 2 * b) * s → y < (idx.length + 2 * b) * s →
        ((idxPicture idx w s b qz).getD y []).getD x 0 = idxCell idx w b qz (y / s) (x / s) :=
  ⟨recon_unpack idx w d s b qz (sample_fits (depth_dvd hd)) hs hqz hrows, fun x y hx hy => idxPicture_pixel idx w s b qz hs x y hx hy⟩

/-- For every colour map and every iteration order of the set: the colour index written
    for a module type points to the palette entry with the tRNS alpha (indexed colour) resp. to the
    grey level (greyscale, tRNS grey value) that the reference reader `Spec.Png.img` shows as the colour
    configured for the type — exact R, G, B, A; "transparent" = alpha 0 -/
theorem png_palette_sound (setOrder : List PColor → List PColor) (hset : SetOrderOK setOrder) (clrMap : List (Nat × PColor))
    (p : PaletteInfo) (hp : buildPalette setOrder clrMap = .ok p) (t : Nat) (c : PColor) (hc : cmGet clrMap t = some c) :
    ∃ x, readColour p.depth (if p.isGrey then 0 else 3) (plteBytes p) (trnsBytes p) (typeIndex p t) = some x ∧ Shows c x :=
  paletteFrom_sound (palette0 setOrder clrMap) clrMap p hp t c hc
    ((mem_palette0 setOrder hset clrMap c).2 (cmGet_mem _ _ _ hc)) (nodup_palette0 setOrder hset clrMap)
    (sorted_palette0 setOrder clrMap)

/-- Indexed colour: the stand-in colour chosen from the CSS table for
    "transparent" is the first palette entry and is none of the colours of the map (nor the
    placeholder); tRNS covers EXACTLY the leading palette entries that have an alpha channel — the
    stand-in, then the RGBA colours — and holds 0 for the stand-in and the alpha value of each colour -/
theorem png_standin_and_trns (setOrder : List PColor → List PColor) (hset : SetOrderOK setOrder) (clrMap : List (Nat × PColor))
    (p : PaletteInfo) (hp : buildPalette setOrder clrMap = .ok p) (hg : p.isGrey = false) :
    (p.isTransparent = true → ∃ T rest, p.palette = T :: rest ∧ T ≠ PColor.transparent
        ∧ ∀ t c, cmGet clrMap t = some c → c ≠ T)
    ∧ ∀ k c, p.palette[k]? = some c →
        ((k < (trnsBytes p).length ↔ (c.isRgba = true ∨ (p.isTransparent = true ∧ k = 0)))
         ∧ (trnsBytes p).getD k 255 = if p.isTransparent = true ∧ k = 0 then 0 else c.alpha) := by
  have h := paletteFrom_trns (palette0 setOrder clrMap) clrMap p hp (nodup_palette0 setOrder hset clrMap)
    (sorted_palette0 setOrder clrMap) hg
  refine ⟨fun ht => ?_, h.2⟩
  obtain ⟨T, rest, hpal, hnot, hne⟩ := h.1 ht
  refine ⟨T, rest, hpal, hne, ?_⟩
  intro t c hc hcT
  apply hnot
  rw [← hcT]
  exact (mem_palette0 setOrder hset clrMap c).2 (cmGet_mem _ _ _ hc)

/-- C11 (every symbol matrix, every colour map of at most 16 entries, every
    scale ≥ 1, border ≥ 0, iteration order of the set): if the model of `write_png` succeeds, its
    output — IHDR fields, PLTE, tRNS, IDAT stream — read with the reference reader's semantics
    (scanlines reconstructed and unpacked: `readCode`; colour of a code: `Spec.Png.img`) is a picture of
    (w+2b)·s × (h+2b)·s pixels in which EVERY pixel shows the colour configured for its module type
    `pixelType`: the type `matrix_iter_verbose` reports for the pixel (= the ISO type by
    `Props.C11.iter_verbose_pixel`, D8 excepted; the quiet zone type outside the symbol) when the
    expensive iterator is used, and with the cheap iterator (two-tone map, ≤ 2 colours) the type of
    the dark finder modules for a dark module, of the quiet zone for a light one. -/
theorem png_model_picture_types (setOrder : List PColor → List PColor) (hset : SetOrderOK setOrder) (M : List (List Nat)) (w h : Nat)
    (colormap : List (Nat × ColorArg)) (scale : Num) (border : Option Num) (out : PngOut)
    (hM : WellFormed M w h) (hn : colormap.length ≤ 16)
    (hw : writePng setOrder M w h colormap scale border = .ok out) :
    ∃ clrMap p b idx A,
      parseColormap colormap = .ok clrMap ∧ buildPalette setOrder clrMap = .ok p ∧ borderForRange w h border = .ok b
      ∧ indexRows p M w h = .ok idx ∧ 0 < scale.toInt.toNat
      ∧ (useVerbose p = true → alignmentMatrix w = .ok A)
      ∧ (p.depth = 1 ∨ p.depth = 2 ∨ p.depth = 4)
      ∧ out = { width := (w + 2 * b) * scale.toInt.toNat, height := (h + 2 * b) * scale.toInt.toNat, depth := p.depth,
                ctype := if p.isGrey then 0 else 3, plte := plteBytes p, trns := trnsBytes p,
                idat := flat (pngLines idx w p.depth scale.toInt.toNat b (typeIndex p Gen.TYPE_QUIET_ZONE)) }
      ∧ (pngLines idx w p.depth scale.toInt.toNat b (typeIndex p Gen.TYPE_QUIET_ZONE)).length = (h + 2 * b) * scale.toInt.toNat
      ∧ (∀ l ∈ pngLines idx w p.depth scale.toInt.toNat b (typeIndex p Gen.TYPE_QUIET_ZONE),
            (l.1 = 0 ∨ l.1 = 2) ∧ l.2.length = ((w + 2 * b) * scale.toInt.toNat * p.depth + 7) / 8)
      ∧ ∀ x y, x < (w + 2 * b) * scale.toInt.toNat → y < (h + 2 * b) * scale.toInt.toNat →
          ∃ c rgba, cmGet clrMap (pixelType p M A w h scale.toInt.toNat b x y) = some c
            ∧ readColour p.depth (if p.isGrey then 0 else 3) (plteBytes p) (trnsBytes p)
                (readCode (pngLines idx w p.depth scale.toInt.toNat b (typeIndex p Gen.TYPE_QUIET_ZONE)) p.depth
                  ((w + 2 * b) * scale.toInt.toNat) x y) = some rgba
            ∧ Shows c rgba := by
  obtain ⟨clrMap, p, b, idx, hparse, hpal, hb, hidx, hs, hcheapkeys, hqzkey, hout⟩ :=
    writePng_ok setOrder M w h colormap scale border out hw
  have hlen : clrMap.length ≤ 16 := by rw [parseColormap_length _ _ hparse]; exact hn
  have pf := buildPalette_facts setOrder hset clrMap p hpal hlen
  generalize hsdef : scale.toInt.toNat = s at *
  obtain ⟨A, hA, hlenidx, hrowlen, hcells⟩ := indexRows_types p M w h idx hM hidx
  obtain ⟨hrows, hqzlt⟩ := index_bounds p pf.index_lt w h idx hlenidx hrowlen (fun i j hi hj => ⟨_, (hcells i j hi hj).1⟩)
  refine ⟨clrMap, p, b, idx, A, hparse, hpal, hb, hidx, hs, hA, pf.depth, ?_, ?_, ?_, ?_⟩
  · rw [hout, pngStream_eq_flat]
  · rw [pngLines_length _ _ _ _ _ _ hs, hlenidx]
  · exact pngLines_line idx w p.depth s b _ (depth_dvd pf.depth) hrowlen
  · intro x y hx hy
    -- the code at the pixel is the palette index of the pixel's module type, and that type has a colour
    obtain ⟨hsome, htype⟩ : (cmGet p.clrMap (pixelType p M A w h s b x y)).isSome = true
        ∧ idxCell idx w b (typeIndex p Gen.TYPE_QUIET_ZONE) (y / s) (x / s) = typeIndex p (pixelType p M A w h s b x y) := by
      by_cases hin : b ≤ y / s ∧ y / s < b + h ∧ b ≤ x / s ∧ x / s < b + w
      · rw [idxCell, hlenidx, if_pos hin, pixelType_inside p M A w h s b x y hin]
        exact ⟨(hcells _ _ (by omega) (by omega)).2 hcheapkeys, (hcells _ _ (by omega) (by omega)).1⟩
      · rw [idxCell, hlenidx, if_neg hin, pixelType_outside p M A w h s b x y hM hin]
        exact ⟨hqzkey (border_pos w h b _ _ ((Nat.div_lt_iff_lt_mul hs).2 hy) ((Nat.div_lt_iff_lt_mul hs).2 hx) hin), rfl⟩
    rw [readCode_pngLines idx w p.depth s b _ (sample_fits (depth_dvd pf.depth)) hs hqzlt hrows x y hx (by rw [hlenidx]; exact hy), htype]
    obtain ⟨c, hc⟩ := isSome_of_keys p clrMap pf.keys _ hsome
    obtain ⟨rgba, h1, h2⟩ := png_palette_sound setOrder hset clrMap p hpal _ c hc
    exact ⟨c, rgba, hc, h1, h2⟩

/-- Completes `png_model_picture_types` for the cheap iterator: whenever the
    model takes the cheap iterator, all dark module types of the colour map are configured with one
    colour and all light ones (separator and quiet zone included) with one — so the colour of the dark
    finder modules / of the quiet zone IS the colour configured for the type of any dark / light module.
    `isDarkType t` is `t >>> 8 != 0`, which `Props.C11Svg.svg_two_tone_uniform` writes out. -/
theorem png_two_tone_uniform (setOrder : List PColor → List PColor) (hset : SetOrderOK setOrder) (clrMap : List (Nat × PColor))
    (p : PaletteInfo) (hp : buildPalette setOrder clrMap = .ok p) (hv : useVerbose p = false)
    (t1 t2 : Nat) (c1 c2 : PColor) (h1 : cmGet clrMap t1 = some c1) (h2 : cmGet clrMap t2 = some c2)
    (hsame : isDarkType t1 = isDarkType t2) : c1 = c2 := by
  have htt : isTwoTone p.clrMap = true := ((useVerbose_eq_false p).1 hv).2
  rcases paletteFrom_clrMap _ _ p hp (nodup_palette0 setOrder hset _) (sorted_palette0 setOrder _) with h' | ⟨T, hT, h'⟩
  · rw [h'] at htt
    exact isTwoTone_uniform clrMap htt t1 t2 c1 c2 h1 h2 hsame
  · rw [h'] at htt
    have g1 := cmGet_map clrMap (fun c => if c == PColor.transparent then T else c) t1
    have g2 := cmGet_map clrMap (fun c => if c == PColor.transparent then T else c) t2
    rw [h1] at g1; rw [h2] at g2
    have := isTwoTone_uniform _ htt t1 t2 _ _ g1 g2 hsame
    have m1 : c1 ∈ palette0 setOrder clrMap := (mem_palette0 setOrder hset clrMap c1).2 (cmGet_mem _ _ _ h1)
    have m2 : c2 ∈ palette0 setOrder clrMap := (mem_palette0 setOrder hset clrMap c2).2 (cmGet_mem _ _ _ h2)
    -- putting `T`, which is no colour of the map, for the placeholder is injective on the colours of the map
    by_cases e1 : c1 = PColor.transparent <;> by_cases e2 : c2 = PColor.transparent
    · rw [e1, e2]
    · simp [e1, e2] at this; rw [this] at hT; exact absurd m2 hT
    · simp [e1, e2] at this; rw [← this] at hT; exact absurd m1 hT
    · simpa [e1, e2] using this

/-- C09 (every w×h matrix, dark / light colours of any accepted notation incl.
    None, every scale ≥ 1 — a float is truncated —, every border ≥ 0 or the default, no per-type
    options): if the model of `save(kind='png')` succeeds, its output read with the reference reader's
    semantics is EXACTLY the `Spec.grid`-shaped picture in the configured colours — (w+2b)·s columns,
    (h+2b)·s scanlines of 1 + ⌈width·depth/8⌉ bytes with filter type 0 or 2, and pixel (x, y) shows the
    dark colour where `Spec.grid` is 1 (module (y div s − b, x div s − b) dark) and the light colour
    elsewhere, the whole quiet zone included.  "Shows": exact R, G, B, A; None = alpha 0. -/
theorem png_model_picture (setOrder : List PColor → List PColor) (hset : SetOrderOK setOrder) (M : List (List Nat)) (w h : Nat)
    (dark light : Option ColorArg) (scale : Num) (border : Option Num) (out : PngOut)
    (hM : WellFormed M w h)
    (hw : savePng setOrder M w h dark light {} scale border = .ok out) :
    ∃ dC lC b lines,
      pngColor (dark.getD (.str "#000")) = .ok dC ∧ pngColor (light.getD (.str "#fff")) = .ok lC
      ∧ borderForRange w h border = .ok b ∧ 0 < scale.toInt.toNat
      ∧ out.width = (w + 2 * b) * scale.toInt.toNat ∧ out.height = (h + 2 * b) * scale.toInt.toNat
      ∧ (out.depth = 1 ∨ out.depth = 2 ∨ out.depth = 4)
      ∧ out.idat = flat lines ∧ lines.length = out.height
      ∧ (∀ l ∈ lines, (l.1 = 0 ∨ l.1 = 2) ∧ l.2.length = (out.width * out.depth + 7) / 8)
      ∧ ∀ x y, x < out.width → y < out.height →
          ∃ rgba, readColour out.depth out.ctype out.plte out.trns (readCode lines out.depth out.width x y) = some rgba
            ∧ Shows (if ((grid M w h scale.toInt.toNat b).getD y []).getD x 0 ≠ 0 then dC else lC) rgba := by
  unfold savePng at hw
  obtain ⟨clrMap, p, b, idx, A, hparse, hpal, hb, _, hs, _, hd, hout, hlen, hline, hpix⟩ :=
    png_model_picture_types setOrder hset M w h _ scale border out hM
      (Nat.le_trans (makeColormap_length w h _ _ _) (by decide)) hw
  obtain ⟨dC, lC, hD, hL, hcm⟩ := parseColormap_default w h _ _ clrMap hparse
  subst hcm
  have hcheap := useVerbose_default setOrder hset w h dC lC p hpal
  subst hout
  refine ⟨dC, lC, b, _, hD, hL, hb, hs, rfl, rfl, hd, rfl, hlen, hline, fun x y hx hy => ?_⟩
  obtain ⟨c, rgba, hc, hread, hshows⟩ := hpix x y hx hy
  rw [default_pixel_colour p hcheap M A w h _ b x y dC lC c hx hy hc] at hshows
  exact ⟨rgba, hread, hshows⟩

/-! non-vacuity -/
example : SetOrderOK (fun l => l.eraseDups) := setOrderOK_eraseDups
example : WellFormed [[1, 0], [0, 1]] 2 2 := by simp [WellFormed]
example : (savePng (fun l => l.eraseDups) [[1, 0], [0, 1]] 2 2 none none {} (.int 2) (some (.int 1))).toOption =
    some { width := 8, height := 8, depth := 1, ctype := 0, plte := [], trns := [],
           idat := [0, 255, 0, 255, 0, 207, 2, 0, 0, 243, 2, 0, 0, 255, 0, 255] } := by decide +kernel
example : (buildPalette (fun l => l.eraseDups) [(1536, .rgb 1 2 3), (18, .transparent), (6, .rgba 9 9 9 7)]).toOption.map
      (fun p => (p.palette, plteBytes p, trnsBytes p, p.depth)) =
    some ([.rgba 240 248 255 0, .rgba 9 9 9 7, .rgb 1 2 3], [240, 248, 255, 9, 9, 9, 1, 2, 3], [0, 7], 2) := by decide +kernel
example : (savePng (fun l => l.eraseDups) [[1, 0], [0, 1]] 2 2 (some (.ints [1, 2, 3, 4])) (some .none) { data_dark := some (.str "red") }
      (.int 1) (some (.int 0))).toOption.map (fun o => (o.depth, o.ctype, o.plte, o.trns, o.idat)) =
    some (2, 3, [240, 248, 255, 1, 2, 3, 255, 0, 0], [0, 4], [0, 64, 0, 16]) := by decide +kernel

end Props.C09Png
