/-
  C14 (serializer clause, colours) — the model of the colour parser of the serializers
  (`_color_to_rgba` with its helpers, as used by the PNG / PPM writers) accepts exactly the documented
  colour forms — CSS3 colour names in any letter case, #RGB, #RGBA, #RRGGBB, #RRGGBBAA (the # is
  optional), 3-tuples and 4-tuples of 8-bit values, a float alpha in 0..1 — with the documented meaning,
  and refuses everything else with ValueError.
-/
import Spec.Raster
import Model.Png
import Props.C09
import Proofs.ColourGrammar

namespace Props.C14

/-- what the specification says a colour argument means (`none` = malformed: must be refused) -/
def specMeaning : Model.ColorArg → Option Spec.ColExp
  | .none => some .transparent
  | .str s => (Spec.parseColourString s).map .exact
  | .ints [r, g, b] => if r ≤ 255 ∧ g ≤ 255 ∧ b ≤ 255 then some (.exact ⟨r, g, b, 255⟩) else none
  | .ints [r, g, b, a] => if r ≤ 255 ∧ g ≤ 255 ∧ b ≤ 255 ∧ a ≤ 255 then some (.exact ⟨r, g, b, a⟩) else none
  | .ints _ => none
  | .floatAlpha r g b k => if r ≤ 255 ∧ g ≤ 255 ∧ b ≤ 255 ∧ k ≤ 1000 then some (.approx r g b k) else none

theorem specMeaning_eq : specMeaning = Proofs.ColourGrammar.meaning := rfl

/-- **colour grammar**: a colour argument (other than None) is accepted by the model exactly when the
    specification's grammar accepts it, the RGBA value returned is the one the specification assigns,
    and a malformed colour is refused with ValueError — never with another error -/
theorem colour_grammar (c : Model.ColorArg) (hc : c ≠ .none) :
    match specMeaning c with
    | some e => ∃ r g b a, Model.colorToRgba c = .ok (r, g, b, a) ∧ e.accepts ⟨r, g, b, a⟩ = true
    | none => Model.colorToRgba c = .error Model.PyErr.valueError := by
  rw [specMeaning_eq]; exact Proofs.ColourGrammar.grammar_core c hc

/-- the same for `png_color` (None = transparent placeholder; opaque colours lose their alpha) -/
theorem png_colour_grammar (c : Model.ColorArg) :
    match specMeaning c with
    | some e => ∃ p, Model.pngColor c = .ok p ∧
        (match p with
         | .transparent => c = .none
         | .rgb r g b => e.accepts ⟨r, g, b, 255⟩ = true
         | .rgba r g b a => a ≠ 255 ∧ e.accepts ⟨r, g, b, a⟩ = true)
    | none => Model.pngColor c = .error Model.PyErr.valueError := by
  rw [specMeaning_eq]; exact Proofs.ColourGrammar.png_core c

set_option linter.unusedVariables false in
/-- letter case of colour names does not matter (ASCII); nor does that of hexadecimal digits, so `hs` is not used -/
theorem colour_name_case (s t : String) (h : Model.lowerAscii s = Model.lowerAscii t)
    (hs : (Model.nameToRgb s).isSome) : Model.colorToRgba (.str s) = Model.colorToRgba (.str t) :=
  Proofs.ColourGrammar.colorToRgba_case s t h

/-! non-vacuity -/
example : Model.colorToRgba (.str "#AbC") = .ok (170, 187, 204, 255) := by rfl
example : Model.pngColor (.str "a1b2c3d4") = .ok (.rgba 161 178 195 212) := by rfl
example : Model.pngColor (.floatAlpha 1 2 3 500) = .ok (.rgba 1 2 3 128) := by rfl
example : Model.colorToRgba (.str "#abcde") = .error .valueError := by rfl
example : Model.colorToRgba (.str "ReD") = .ok (255, 0, 0, 255) := by rfl

end Props.C14

#print axioms Props.C14.colour_grammar
#print axioms Props.C14.png_colour_grammar
#print axioms Props.C14.colour_name_case
