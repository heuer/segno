/-
  C02 (part 2) — the model of add_format_info / add_version_info / make_matrix + finder + alignment
  puts format information, version information and function patterns where ISO/IEC 18004 puts them.
-/
import Spec.Decode
import Model.Encoder
import Props.C02
import Proofs.PlacementInfo
import Proofs.Geometry

namespace Props.C02

/-- square matrix of size n -/
def SquareN (m : Model.Matrix) (n : Nat) : Prop := m.size = n ∧ ∀ i, i < n → (m.getD i #[]).size = n

/-- `calc_format_info` = BCH(15,5) word of (level indicator ‖ mask) XOR mask constant (QR) -/
theorem calcFormatInfo_qr (v : Int) (e mask : Nat) (hv : 1 ≤ v) (he : e < 4) (hm : mask < 8) :
    Model.calcFormatInfo v (some e) mask = .ok (Spec.formatWordQR e mask) := by
  exact Proofs.Placement.calcFormatInfo_qr v e mask hv he hm

/-- Micro: word of (symbol number ‖ mask) -/
theorem calcFormatInfo_micro (v : Int) (lvl : Option Nat) (mask s : Nat) (hv : v < 1) (hm : mask < 4)
    (hs : Spec.microSymbolNumber v (Model.lvlKey lvl) = some s) :
    Model.calcFormatInfo v lvl mask = .ok (Spec.formatWordMicro s mask) := by
  exact Proofs.Placement.calcFormatInfo_micro v lvl mask s hv hm hs

/-- **format information, QR**: after `add_format_info`, bit k of the format word sits at the ISO
    position of BOTH copies, for every k < 15, and the dark module is set — whatever the data is -/
theorem format_written_qr (m m' : Model.Matrix) (v : Int) (e mask : Nat) (hv1 : 1 ≤ v) (hv2 : v ≤ 40)
    (he : e < 4) (hm : mask < 8) (hs : SquareN m (Spec.size v))
    (h : Model.addFormatInfo m v (some e) mask = .ok m') :
    (∀ k, k < 15 → Spec.cell m' (Spec.fmtPos1 k).1 (Spec.fmtPos1 k).2 = (Spec.formatWordQR e mask >>> k) % 2)
    ∧ (∀ k, k < 15 → Spec.cell m' (Spec.fmtPos2 (Spec.size v) k).1 (Spec.fmtPos2 (Spec.size v) k).2
          = (Spec.formatWordQR e mask >>> k) % 2)
    ∧ Spec.cell m' (Spec.size v - 8) 8 = 1 := by
  exact Proofs.Placement.format_written_qr m m' v e mask hv1 hv2 he hm hs h

/-- **format information, Micro QR** -/
theorem format_written_micro (m m' : Model.Matrix) (v : Int) (lvl : Option Nat) (mask s : Nat)
    (hv1 : -3 ≤ v) (hv2 : v < 1) (hm : mask < 4) (hs : SquareN m (Spec.size v))
    (hsym : Spec.microSymbolNumber v (Model.lvlKey lvl) = some s)
    (h : Model.addFormatInfo m v lvl mask = .ok m') :
    ∀ k, k < 15 → Spec.cell m' (Spec.fmtPosMicro k).1 (Spec.fmtPosMicro k).2 = (Spec.formatWordMicro s mask >>> k) % 2 := by
  exact Proofs.Placement.format_written_micro m m' v lvl mask s hv1 hv2 hm hs hsym h

/-- `add_format_info` touches only format cells and the dark module -/
theorem format_info_touches_only_format_cells (m m' : Model.Matrix) (v : Int) (lvl : Option Nat) (mask i j : Nat)
    (hv1 : -3 ≤ v) (hv2 : v ≤ 40) (hs : SquareN m (Spec.size v))
    (h : Model.addFormatInfo m v lvl mask = .ok m')
    (hk : Spec.kind v i j ≠ .format ∧ Spec.kind v i j ≠ .darkmodule) :
    Spec.cell m' i j = Spec.cell m i j := by
  exact Proofs.Placement.format_info_touches_only_format_cells m m' v lvl mask i j hv1 hv2 hs h hk

/-- **version information**: for versions 7..40 bit k of the (18,6) Golay word of v sits at both ISO blocks -/
theorem version_written (m m' : Model.Matrix) (v : Int) (hv1 : 7 ≤ v) (hv2 : v ≤ 40) (hs : SquareN m (Spec.size v))
    (h : Model.addVersionInfo m v = .ok m') :
    (∀ k, k < 18 → Spec.cell m' (Spec.verPos1 (Spec.size v) k).1 (Spec.verPos1 (Spec.size v) k).2 = (Spec.golay18 v.toNat >>> k) % 2)
    ∧ (∀ k, k < 18 → Spec.cell m' (Spec.verPos2 (Spec.size v) k).1 (Spec.verPos2 (Spec.size v) k).2 = (Spec.golay18 v.toNat >>> k) % 2) := by
  exact Proofs.Placement.version_written m m' v hv1 hv2 hs h

/-- versions below 7 carry no version information -/
theorem version_info_noop (m : Model.Matrix) (v : Int) (h : v < 7) : Model.addVersionInfo m v = .ok m := by
  exact Proofs.Placement.addVersionInfo_small m v h

/-- what the skeleton of version v must look like: fixed function modules have their ISO value,
    reserved format / version cells are light, the dark module is set, data cells hold the placeholder 2 -/
def skeletonOk (v : Int) : Bool :=
  let n := Spec.size v
  match Model.functionMatrix n with
  | .error _ => false
  | .ok fm =>
    fm.size == n &&
    (List.range n).all (fun i => (List.range n).all (fun j =>
      let x := Model.get2 fm i j
      match Spec.kind v i j with
      | .data => x == 2
      | .format => x == 0
      | .version => x == 0
      | .darkmodule => x == 1
      | _ => some x == Spec.fixedValue v i j))

/-- **function patterns**, every version: the model of make_matrix + add_finder_patterns +
    add_alignment_patterns (+ dark module) equals the ISO skeleton (from `Proofs.Placement2.functionMatrix_skeleton`:
    the three loops cell by cell, Proofs/Cells.lean) -/
theorem skeleton_iso (v : Int) (h1 : -3 ≤ v) (h2 : v ≤ 40) : skeletonOk v = true := by
  obtain ⟨fm, hfm, hr⟩ := Proofs.Placement2.functionMatrix_skeleton v h1 h2
  unfold skeletonOk
  simp only [hfm, Bool.and_eq_true, beq_iff_eq, List.all_eq_true, List.mem_range]
  refine ⟨(Proofs.Placement2.sq_of_toRows 1 v fm hr).1, fun i hi j hj => ?_⟩
  rw [Proofs.Placement2.cells_of_toRows 1 v fm hr i j hi hj]
  unfold Proofs.Placement2.skelCell Spec.fixedValue
  cases Spec.kind v i j <;> simp

theorem all_skeletonOk (l : List Int) (h : ∀ v ∈ l, -3 ≤ v ∧ v ≤ 40) : l.all skeletonOk = true :=
  List.all_eq_true.mpr fun v hv => skeleton_iso v (h v hv).1 (h v hv).2

theorem skeleton_iso_micro : ([-3, -2, -1, 0] : List Int).all skeletonOk = true :=
  all_skeletonOk _ (by decide)

theorem skeleton_iso_v1_to_v6 : ([1, 2, 3, 4, 5, 6] : List Int).all skeletonOk = true :=
  all_skeletonOk _ (by decide)

theorem skeleton_iso_v7_to_v10 : ([7, 8, 9, 10] : List Int).all skeletonOk = true :=
  all_skeletonOk _ (by decide)

end Props.C02

#print axioms Props.C02.calcFormatInfo_qr
#print axioms Props.C02.calcFormatInfo_micro
#print axioms Props.C02.format_written_qr
#print axioms Props.C02.format_written_micro
#print axioms Props.C02.format_info_touches_only_format_cells
#print axioms Props.C02.version_written
#print axioms Props.C02.version_info_noop
#print axioms Props.C02.skeleton_iso_micro
#print axioms Props.C02.skeleton_iso_v1_to_v6
#print axioms Props.C02.skeleton_iso_v7_to_v10
