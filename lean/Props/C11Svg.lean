/-
  C11 — the colourful (per-type colour) SVG output paints each module with the colour configured for its type.
  Property theorems about the multicolour branch of the model of `write_svg` (Model/SvgDoc.lean: `vrowGo`,
  `vlinesGo` = `matrix_to_lines_verbose`, `accumulate` = the `xy` / `coordinates` loop, `colorfulLines`), tied to the
  real code by the whole-document correspondence of harness/vecdocs.py.  Reference semantics: `Spec.Vector.svgAbs`
  (relative `m dx dy h len` sequences, the same that `Props.C10.rel_abs` uses) and `Spec.Vector.coverAt` (the judge's
  coverage count).  Mathlib-free.
-/
import Proofs.SvgColorful
import Proofs.Raster
import Proofs.Except

namespace Props.C11Svg

open Model Model.Svg Spec.Vector Proofs.Lines Proofs.SvgColorful

/-- For every grid of colour objects with non-empty rows and every notion of equality
    `key` of colour objects (Python's `==` is `pyKey`): let `d` be the dict `coordinates` after the loop over
    `matrix_to_lines_verbose()` — one entry per `<path>`.  Then
    (1) the colour keys of the entries are pairwise distinct (one path per colour);
    (2) absolutising the relative triples of an entry with the reference semantics `svgAbs` (pen at the origin) and
        counting, with the judge's `coverAt`, the segments on the centre line of grid row i: a cell (i, j) of the grid
        is covered exactly once if its colour equals the entry's colour, and not at all otherwise — so the path of a
        colour covers exactly the cells of that colour, every one once, and paths of different colours are disjoint;
    (3) nothing is covered right of a row, and no segment lies on a line that is not the centre line of a row;
    (4) every cell's colour has an entry — the union of the paths is the whole grid. -/
theorem svg_colorful_paths {α κ : Type} [DecidableEq κ] (key : α → κ) (rows : List (List α))
    (lines : List (α × Int × Int × Int)) (hl : verboseLines key rows = some lines) :
    let d := accumulate key lines
    (d.map (fun e => key e.obj)).Nodup
    ∧ (∀ e ∈ d, ∀ (i : Nat) (hi : i < rows.length) (j : Nat),
          ((hj : j < (rows[i]).length) →
            coverAt (rowSegs (svgAbs 0 0 e.coords) i) j = if key ((rows[i])[j]) = key e.obj then 1 else 0)
          ∧ ((rows[i]).length ≤ j → coverAt (rowSegs (svgAbs 0 0 e.coords) i) j = 0))
    ∧ (∀ e ∈ d, ∀ t ∈ svgAbs 0 0 e.coords, ∃ i : Nat, i < rows.length ∧ t.2.1 = 2 * (i : Int) + 1)
    ∧ (∀ (i : Nat) (hi : i < rows.length) (j : Nat) (hj : j < (rows[i]).length), ∃ e ∈ d, key e.obj = key ((rows[i])[j])) := by
  intro d
  obtain ⟨hnd, hent, hall⟩ := inv_accumulate key lines
  have hrows := vlinesGo_rows key rows (-1) lines hl
  have hcov : ∀ e ∈ d, ∀ (i : Nat) (hi : i < rows.length) (j : Nat),
      coverAt (rowSegs (svgAbs 0 0 e.coords) i) j = colAt key 0 (rows[i]) (key e.obj) j := by
    intro e he i hi j
    obtain ⟨rs, hrs, hseg⟩ := hrows i hi
    rw [(hent e he).1, rowSegs_sel]
    have e1 : (2 * (i : Int) + 1) = -1 + 2 * ((i : Int) + 1) := by omega
    rw [e1, hseg (key e.obj)]
    exact vrowRuns_cover key _ rs hrs _ j
  refine ⟨hnd, ?_, ?_, ?_⟩
  · intro e he i hi j
    constructor
    · intro hj
      rw [hcov e he i hi j, colAt_inside key _ 0 _ j (by omega) (by simpa using hj)]
      simp
    · intro hj
      rw [hcov e he i hi j]
      exact colAt_outside key _ 0 _ j (.inr (by omega))
  · intro e he t ht
    rw [(hent e he).1] at ht
    simp only [sel, List.mem_map, List.mem_filter] at ht
    obtain ⟨l, ⟨hl', _⟩, rfl⟩ := ht
    obtain ⟨i, hi, hy⟩ := vlinesGo_heights key rows (-1) lines hl l hl'
    exact ⟨i, hi, by rw [hy]; omega⟩
  · intro i hi j hj
    obtain ⟨rs, hrs, hseg⟩ := hrows i hi
    -- the cell is covered by the runs of its own colour, so a line of that colour exists
    have hc : coverAt (selRuns key (key ((rows[i])[j])) rs) j = 1 := by
      rw [vrowRuns_cover key _ rs hrs, colAt_inside key _ 0 _ j (by omega) (by simpa using hj)]
      simp
    have hne : segsAt key (key ((rows[i])[j])) (-1 + 2 * ((i : Int) + 1)) lines ≠ [] := by
      rw [hseg]
      intro h0
      rw [h0, coverAt_nil] at hc
      cases hc
    obtain ⟨_, hs⟩ := List.exists_mem_of_ne_nil _ hne
    obtain ⟨l, hf, _⟩ := List.mem_map.1 hs
    obtain ⟨hl', hp⟩ := List.mem_filter.1 hf
    have hk := (of_decide_eq_true hp).1
    obtain ⟨e, he, hek⟩ := hall l hl'
    exact ⟨e, he, hek.trans hk⟩

/-- non-vacuity: a 2 × 3 grid with three colours (colours are numbers here, equality is equality) -/
example : verboseLines (fun (c : Nat) => c) [[7, 7, 8], [9, 7, 7]] = some [(7, 0, 1, 2), (8, 2, 1, 3), (9, 0, 3, 1), (7, 1, 3, 3)] := by decide
example : (accumulate (fun (c : Nat) => c) [(7, 0, 1, 2), (8, 2, 1, 3), (9, 0, 3, 1), (7, 1, 3, 3)]).map (fun e => (e.obj, e.coords))
    = [(7, [(0, 1, 2), (-1, 2, 2)]), (8, [(2, 1, 1)]), (9, [(0, 3, 1)])] := by decide

/-- C11, for every matrix of a symbol size w = h, every colour map and every border b:
    if the multicolour branch of the model of `write_svg` produces its lines, then with `A` the alignment-pattern
    matrix and `d` the dict `coordinates` (one entry per `<path>`, colour object `e.obj`, relative triples `e.coords`
    — exactly the numbers printed into the `d` attribute by `pathD`):
    (1) the entries have pairwise different colours (Python equality of the colour objects = `pyKey`);
    (2) every position (i, j) of the (h+2b) × (w+2b) page has a module type `verboseCell M A w h b i j` — the value
        `matrix_iter_verbose` reports, the ISO type by `Props.C11.types_iso_partial` (D8 excepted), the quiet zone
        type outside the symbol — to which the colour map assigns a colour `c`, and the path of an entry, absolutised
        by `svgAbs` (cf. `Props.C10.rel_abs`) and rasterised by the judge's `coverAt` on the centre line of row i,
        covers (i, j) exactly once if `c` is the entry's colour and not at all otherwise: the runs of the path
        painted in colour c cover exactly the modules whose type the colour map sends to c, the paths are pairwise
        disjoint, and the path of `c` exists — their union is the whole page;
    (3) nothing is covered right of the page and no segment lies off the centre lines of the h+2b rows. -/
theorem svg_colorful_picture (M : List (List Nat)) (w h b : Nat) (cm : List (Nat × ColorArg))
    (lines : List (ColorArg × Int × Int × Int)) (hl : colorfulLines M w h b cm = .ok lines) :
    ∃ A, alignmentMatrix w = .ok A ∧
      let d := accumulate pyKey lines
      (d.map (fun e => pyKey e.obj)).Nodup
      ∧ (∀ i j, i < h + 2 * b → j < w + 2 * b →
          ∃ c, cmGet cm (verboseCell M A w h b i j) = some c
            ∧ (∃ e ∈ d, pyKey e.obj = pyKey c)
            ∧ ∀ e ∈ d, coverAt (rowSegs (svgAbs 0 0 e.coords) i) j = if pyKey c = pyKey e.obj then 1 else 0)
      ∧ (∀ e ∈ d, ∀ i j, i < h + 2 * b → w + 2 * b ≤ j → coverAt (rowSegs (svgAbs 0 0 e.coords) i) j = 0)
      ∧ (∀ e ∈ d, ∀ t ∈ svgAbs 0 0 e.coords, ∃ i : Nat, i < h + 2 * b ∧ t.2.1 = 2 * (i : Int) + 1) := by
  unfold colorfulLines at hl
  obtain ⟨rows, hrows, h1⟩ := Proofs.Except.bind_ok.1 hl
  obtain ⟨crows, hc, h2⟩ := Proofs.Except.bind_ok.1 h1
  obtain ⟨A, hA, rfl⟩ := Proofs.Raster.matrixIterVerbose_page M w h b rows hrows
  obtain ⟨hclen, hcrow⟩ := mapM_grid_ok _ (verboseCell M A w h b) _ _ crows hc
  cases hv : verboseLines pyKey crows with
  | none => rw [hv] at h2; cases h2
  | some lines' =>
    rw [hv] at h2
    cases h2
    refine ⟨A, hA, ?_⟩
    intro d
    obtain ⟨hnd, hcell, hoff, hexist⟩ := svg_colorful_paths pyKey crows lines hv
    refine ⟨hnd, ?_, ?_, ?_⟩
    · intro i j hi hj
      obtain ⟨hwl, hget⟩ := hcrow i (by omega)
      have hj' : j < (crows[i]'(by omega)).length := by omega
      have hc := hget j hj'
      cases hg : cmGet cm (verboseCell M A w h b i j) with
      | none => rw [hg] at hc; cases hc
      | some c =>
        rw [hg] at hc
        cases hc
        refine ⟨_, rfl, hexist i (by omega) j hj', ?_⟩
        intro e he
        rw [(hcell e he i (by omega) j).1 hj']
    · intro e he i j hi hj
      obtain ⟨hwl, _⟩ := hcrow i (by omega)
      exact (hcell e he i (by omega) j).2 (by omega)
    · intro e he t ht
      obtain ⟨i, hi, hy⟩ := hoff e he t ht
      exact ⟨i, by omega, hy⟩

/-- non-vacuity: an (all dark) M1-sized matrix, border 1, red finder patterns, light modules transparent: 49 lines in three colours -/
example : (match colorfulLines (List.replicate 11 (List.replicate 11 1)) 11 11 1
    [(Gen.TYPE_FINDER_PATTERN_DARK, .str "red"), (Gen.TYPE_FINDER_PATTERN_LIGHT, .none), (Gen.TYPE_DATA_DARK, .str "#000"), (Gen.TYPE_DATA_LIGHT, .none),
     (Gen.TYPE_TIMING_DARK, .str "#000"), (Gen.TYPE_TIMING_LIGHT, .none), (Gen.TYPE_FORMAT_DARK, .str "#000"), (Gen.TYPE_FORMAT_LIGHT, .none),
     (Gen.TYPE_SEPARATOR, .none), (Gen.TYPE_QUIET_ZONE, .none)] with
    | .ok l => (l.length, (accumulate pyKey l).map (fun (e : Entry ColorArg) => (e.obj, e.coords.length)))
    | .error _ => (0, [])) = (49, [(.none, 31), (.str "red", 7), (.str "#000", 11)]) := by
  decide +kernel

/-- The link from `svg_colorful_picture` to the text of the document: in the multicolour branch the
    `<path …/>` elements of the model's document are exactly one element per entry of the dict `coordinates` after the loop
    (`accumulate`; without `draw_transparent` the entry of `None` removed) — the element of an entry is the common opening `p`
    (transform / class), the stroke attributes of the entry's colour (`toWebColor`; none for `None`), and the `d` attribute
    `pathD e.coords` printing the entry's relative triples — ordered by `sorted(…, key=len)` -/
theorem svg_paths_multicolor (M : List (List Nat)) (w h b : Nat) (cm : List (Nat × ColorArg)) (o : Opts) (qz : ColorArg)
    (lines : List (ColorArg × Int × Int × Int)) (hm : isMulticolor cm = true) (hq : cmGet cm Gen.TYPE_QUIET_ZONE = some qz)
    (hl : colorfulLines M w h b cm = .ok lines) :
    svgPaths M w h cm o b =
      (pathElems (match o.svgversion with | some v => !v.lt2 | none => false)
          ("<path" ++ "" ++ (match o.lineclass with | some c => if c.isEmpty then "" else " class=" ++ quoteattr c | none => ""))
          (if !o.drawTransparent then dictDel pyKey (accumulate pyKey lines) .none else accumulate pyKey lines)).map
        (fun paths => sortByLen (paths.map (·.2))) := by
  have hp0 : (if !o.scale.notOne then (if o.scale.notOne then " transform=\"scale(" ++ o.scale.text ++ ")\"" else "") else "") = "" := by
    cases o.scale.notOne <;> rfl
  unfold svgPaths
  simp only [hq, hm, hl, bind, Except.bind, pure, Except.pure, Bool.not_true, Bool.false_and, Bool.false_eq_true, if_false, if_true,
    Bool.or_true, Bool.and_true, hp0]
  cases pathElems (match o.svgversion with | some v => !v.lt2 | none => false)
      ("<path" ++ "" ++ (match o.lineclass with | some c => if c.isEmpty then "" else " class=" ++ quoteattr c | none => ""))
      (if !o.drawTransparent then dictDel pyKey (accumulate pyKey lines) .none else accumulate pyKey lines) with
  | error e => simp [Except.map]
  | ok ps => simp [Except.map]

/-- Without `draw_transparent` the entry of the colour `None` is deleted (`del coordinates[None]`)
    and nothing else — the modules whose type is mapped to `None` are not painted, all other paths stay -/
theorem svg_draw_transparent (d : List (Entry ColorArg)) (e : Entry ColorArg) :
    e ∈ dictDel pyKey d .none ↔ e ∈ d ∧ e.obj ≠ .none := by
  unfold dictDel
  rw [List.mem_filter]
  have : pyKey e.obj = pyKey .none ↔ e.obj = .none := by
    cases h : e.obj with
    | none => simp
    | str s => simp [pyKey]
    | ints l => simp [pyKey]
    | floatAlpha r g bb k =>
      simp only [pyKey]
      split <;> simp
  simp [this]

/-- Completes `svg_colorful_picture` for the other branch: whenever the model of `write_svg` does
    NOT take the multicolour branch, all dark module types of the colour map carry one colour and all light ones
    (separator and quiet zone included) one colour (as Python values) — so painting the dark modules in the colour of the
    dark data modules and the page in the colour of the quiet zone, which is what the two-colour branch does (Props/C10),
    IS painting every module in the colour configured for its type -/
theorem svg_two_tone_uniform (cm : List (Nat × ColorArg)) (hm : isMulticolor cm = false)
    (t1 t2 : Nat) (c1 c2 : ColorArg) (h1 : cmGet cm t1 = some c1) (h2 : cmGet cm t2 = some c2)
    (hsame : (t1 >>> 8 != 0) = (t2 >>> 8 != 0)) : pyKey c1 = pyKey c2 := by
  unfold isMulticolor at hm
  simp only [Bool.or_eq_false_iff, Bool.not_eq_false'] at hm
  have htt := hm.2
  unfold Svg.isTwoTone at htt
  simp only [Bool.and_eq_true, beq_iff_eq] at htt
  -- both types pass the same test, the one for dark or the one for light types
  cases hd : (t1 >>> 8 != 0) with
  | true =>
    exact distinct_one pyKey _ htt.1 c1 c2 (Proofs.Png.cmGet_mem_filter cm (fun t => t >>> 8 != 0) t1 c1 h1 hd)
      (Proofs.Png.cmGet_mem_filter cm (fun t => t >>> 8 != 0) t2 c2 h2 (hsame ▸ hd))
  | false =>
    exact distinct_one pyKey _ htt.2 c1 c2 (Proofs.Png.cmGet_mem_filter cm (fun t => !(t >>> 8 != 0)) t1 c1 h1 (by rw [hd]; rfl))
      (Proofs.Png.cmGet_mem_filter cm (fun t => !(t >>> 8 != 0)) t2 c2 h2 (by rw [← hsame, hd]; rfl))

/-- Python's `==` on colour values, as far as `ColorArg` expresses them: `(r, g, b, 1.0) == (r, g, b, 1)` -/
example : pyKey (.floatAlpha 1 2 3 1000) = pyKey (.ints [1, 2, 3, 1]) := by decide
example : pyKey (.floatAlpha 1 2 3 500) ≠ pyKey (.ints [1, 2, 3, 0]) := by decide
example : isMulticolor [(Gen.TYPE_DATA_DARK, .str "#000"), (Gen.TYPE_QUIET_ZONE, .none)] = false := by decide
example : isMulticolor [(Gen.TYPE_DATA_DARK, .str "#000"), (Gen.TYPE_FINDER_PATTERN_DARK, .str "black"), (Gen.TYPE_QUIET_ZONE, .none)] = true := by decide

end Props.C11Svg
