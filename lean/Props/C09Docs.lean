/-
  C09, whole documents.  `Model.RasterDocs.*` models `write_pbm`, `_ppm`, `_pam`, `_xbm`, `_xpm`, `_txt`, `_terminal`, `_terminal_compact`
  and the chunk framing of `write_png` (segno/writers.py), tied to the real code byte for byte by `./check C09`; `Spec.L.*` are the
  reference readers (the judge command `c09l` runs them beside the readers that judge the real files).  Every statement: the reader applied
  to the document the model writes returns exactly the `Spec.grid` picture, (w+2b)·s × (h+2b)·s, quiet zone light, in the configured colours.
-/
import Props.C09Png
import Proofs.RasterDocsNetpbm
import Proofs.RasterDocsPpm
import Proofs.RasterDocsPam
import Proofs.RasterDocsXbm
import Proofs.RasterDocsXpm
import Proofs.RasterDocsText
import Proofs.RasterDocsPng
import Proofs.RasterDocsPngOk
import Proofs.RasterDocsPngPicture
import Proofs.Except

namespace Props.C09Docs

open Model Model.RasterDocs Spec Proofs.Raster Proofs.RasterDocs

/-- the picture of a 0 / 1 grid in two colours -/
def twoTone (g : List (List Nat)) (dark light : RGBA) : List (List (Option RGBA)) :=
  g.map (fun row => row.map (fun v => some (if v ≠ 0 then dark else light)))

/-- a scale below 1 (after truncation) and a negative or fractional border are refused with
    `ValueError` by every document writer of the model (the raster writers take `scale`; the text writers only
    `border`) -/
theorem docs_refused (M : List (List Nat)) (w h : Nat) (scale : Num) (border : Option Num) (hr : Props.C09.Refused scale border)
    (plain : Bool) (colormap : List (Nat × ColorArg)) (dark light : Option ColorArg) (name : List Char)
    (setOrder : List PColor → List PColor) (o : TypeOpts ColorArg) (dpi : Option Dpi) (comp : List Nat) :
    pbmDoc M w h scale border plain = .error .valueError
    ∧ ppmDoc M w h colormap scale border = .error .valueError
    ∧ pamDoc M w h scale border dark light = .error .valueError
    ∧ xbmDoc M w h scale border name = .error .valueError
    ∧ xpmDoc M w h scale border dark light name = .error .valueError
    ∧ savePngFile setOrder M w h dark light o scale border dpi comp = .error .valueError := by
  -- the scale is refused, or it passes and the border is refused
  have hchecks : checkValidScale scale.toInt = .error .valueError
      ∨ (checkValidScale scale.toInt = .ok () ∧ checkValidBorder border = .error .valueError) := by
    rw [checkValidScale_eq]
    by_cases hs : scale.toInt < 1
    · left; rw [if_pos hs]
    · rcases hr with h | ⟨x, rfl, hx⟩
      · exact absurd h hs
      · right
        rw [if_neg hs, checkValidBorder_some, if_pos (Bool.or_eq_true _ _ ▸ hx)]
        exact ⟨rfl, rfl⟩
  have hv : validSB scale border = .error .valueError := by
    rcases hchecks with h | ⟨h1, h2⟩
    · simp [validSB, h, bind, Except.bind]
    · simp [validSB, h1, h2, bind, Except.bind]
  have hppm : ppmRaster M w h colormap scale border = .error .valueError := by
    rcases hchecks with h | ⟨h1, h2⟩
    · simp [ppmRaster, h, bind, Except.bind]
    · simp [ppmRaster, h1, h2, bind, Except.bind]
  refine ⟨?_, ?_, ?_, ?_, ?_, ?_⟩
  · simp [pbmDoc, hv, bind, Except.bind]
  · simp [ppmDoc, hppm, bind, Except.bind]
  · unfold pamDoc
    by_cases hf : isFalsy (dark.getD (.str "#000")) = true
    · simp [hf, bind, Except.bind, Proofs.Except.throw_eq_error]
    · simp [hf, hv, bind, Except.bind]
  · simp [xbmDoc, hv, bind, Except.bind]
  · simp [xpmDoc, hv, bind, Except.bind]
  · simp [savePngFile, hv, bind, Except.bind]

/-- the text writers (scale is always 1) refuse a negative or fractional border -/
theorem text_docs_refused (M : List (List Nat)) (w h : Nat) (border : Option Num) (hr : Props.C09.Refused (.int 1) border)
    (dark light : List Char) :
    txtDoc M w h border dark light = .error .valueError ∧ ansiDoc M w h border = .error .valueError
    ∧ compactDoc M w h border = .error .valueError := by
  have hi := Props.C09.matrix_iter_refused M w h (.int 1) border hr
  refine ⟨?_, ?_, ?_⟩
  · simp [txtDoc, hi, bind, Except.bind]
  · simp [ansiDoc, hi, bind, Except.bind]
  · simp [compactDoc, hi, bind, Except.bind]

/-- PBM, binary P4; every 0 / 1 matrix of at least one module, scale ≥ 1, border ≥ 0 or default:
    the model writes a file — `P4`, the comment, width and height, the packed rows — which the reference PBM
    reader decodes to exactly the `Spec.grid` picture: black for dark modules, white for light ones and the
    whole quiet zone -/
theorem pbm_p4_picture (M : List (List Nat)) (w h : Nat) (scale : Num) (border : Option Num) (b : Nat)
    (hM : WellFormed M w h) (hbits : Bits M) (hw : 0 < w) (hh : 0 < h)
    (hnr : ¬ Props.C09.Refused scale border) (hb : Props.C09.borderValue w h border = some b) :
    ∃ doc, pbmDoc M w h scale border false = .ok doc
      ∧ L.readPbm doc = .ok { w := (w + 2 * b) * scale.toInt.toNat, h := (h + 2 * b) * scale.toInt.toNat,
                              px := twoTone (grid M w h scale.toInt.toNat b) black white } :=
  pbm_doc (Props.C09.checks_pass hnr hb) M hM hbits hw hh false

/-- plain PBM, P1: the same for `plain=True` (one ASCII digit per pixel, one line per row) -/
theorem pbm_p1_picture (M : List (List Nat)) (w h : Nat) (scale : Num) (border : Option Num) (b : Nat)
    (hM : WellFormed M w h) (hbits : Bits M) (hw : 0 < w) (hh : 0 < h)
    (hnr : ¬ Props.C09.Refused scale border) (hb : Props.C09.borderValue w h border = some b) :
    ∃ doc, pbmDoc M w h scale border true = .ok doc
      ∧ L.readPbm doc = .ok { w := (w + 2 * b) * scale.toInt.toNat, h := (h + 2 * b) * scale.toInt.toNat,
                              px := twoTone (grid M w h scale.toInt.toNat b) black white } :=
  pbm_doc (Props.C09.checks_pass hnr hb) M hM hbits hw hh true

/-- PPM P6 with the per-type colours of `colorful`; every matrix, colour map, scale, border:
    whenever the model of `write_ppm` succeeds, the reference PPM reader decodes its whole file (header with
    comment, width, height, maxval 255, raster) to a picture of (w+2b)·s × (h+2b)·s pixels in which every pixel
    shows — exact R, G, B, opaque — the colour configured for the module type that `matrix_iter_verbose` yields
    for that pixel (`Props.C11.iter_verbose_pixel`: the ISO type of module (y div s − b, x div s − b), D8 excepted) -/
theorem ppm_picture_types (M : List (List Nat)) (w h : Nat) (colormap : List (Nat × ColorArg)) (scale : Num) (border : Option Num) (b : Nat)
    (hw : 0 < w) (hh : 0 < h) (hnr : ¬ Props.C09.Refused scale border) (hb : Props.C09.borderValue w h border = some b)
    (doc : List Nat) (hdoc : ppmDoc M w h colormap scale border = .ok doc) :
    ∃ (rows : List (List Nat)) (px : Nat → RGBA),
      matrixIterVerbose M w h scale border = .ok rows
      ∧ rows.length = (h + 2 * b) * scale.toInt.toNat ∧ (∀ r ∈ rows, r.length = (w + 2 * b) * scale.toInt.toNat)
      ∧ (∀ r ∈ rows, ∀ t ∈ r, ∃ c rr g bb, cmGet colormap t = some c ∧ colorToRgb c = .ok [rr, g, bb] ∧ px t = ⟨rr, g, bb, 255⟩)
      ∧ L.readPpm doc = .ok { w := (w + 2 * b) * scale.toInt.toNat, h := (h + 2 * b) * scale.toInt.toNat,
                              px := rows.map (fun row => row.map (fun t => some (px t))) } :=
  ppm_doc (Props.C09.checks_pass hnr hb) M hw hh colormap doc hdoc

/-- PAM P7; every tuple type the colour logic of `write_pam` can choose (BLACKANDWHITE,
    GRAYSCALE_ALPHA, RGB, RGB_ALPHA): whenever the model succeeds, the reference PAM reader decodes its whole
    file (WIDTH / HEIGHT / DEPTH / MAXVAL / TUPLTYPE / ENDHDR, raster) to exactly the `Spec.grid` picture in
    the two configured colours; "shows": exact R, G, B, A, `None` = alpha 0 -/
theorem pam_picture (M : List (List Nat)) (w h : Nat) (scale : Num) (border : Option Num) (b : Nat)
    (hM : WellFormed M w h) (hbits : Bits M) (hw : 0 < w) (hh : 0 < h)
    (hnr : ¬ Props.C09.Refused scale border) (hb : Props.C09.borderValue w h border = some b)
    (dark light : Option ColorArg) (doc : List Nat) (hdoc : pamDoc M w h scale border dark light = .ok doc) :
    ∃ dC lC dPx lPx,
      pngColor (dark.getD (.str "#000")) = .ok dC ∧ pngColor (light.getD (.str "#fff")) = .ok lC
      ∧ Proofs.Png.Shows dC dPx ∧ Proofs.Png.Shows lC lPx
      ∧ L.readPam doc = .ok { w := (w + 2 * b) * scale.toInt.toNat, h := (h + 2 * b) * scale.toInt.toNat,
                              px := twoTone (grid M w h scale.toInt.toNat b) dPx lPx } :=
  pam_doc (Props.C09.checks_pass hnr hb) M hM hbits hw hh dark light doc hdoc

/-- XBM; every C identifier as `name`: the model writes a C source text — two `#define`s, the
    declaration `static unsigned char NAME_bits[] = {`, the rows as `0x..` bytes (least significant bit = leftmost
    pixel), `};` — which the reference reader (C tokenizer + XBM grammar) decodes to exactly the `Spec.grid`
    picture in black and white -/
theorem xbm_picture (M : List (List Nat)) (w h : Nat) (scale : Num) (border : Option Num) (b : Nat)
    (hM : WellFormed M w h) (hbits : Bits M) (hw : 0 < w) (hh : 0 < h)
    (hnr : ¬ Props.C09.Refused scale border) (hb : Props.C09.borderValue w h border = some b)
    (name : List Char) (hname : IsCIdent name) :
    ∃ doc, xbmDoc M w h scale border name = .ok doc
      ∧ L.readXbm doc name = .ok { w := (w + 2 * b) * scale.toInt.toNat, h := (h + 2 * b) * scale.toInt.toNat,
                                   px := twoTone (grid M w h scale.toInt.toNat b) black white } :=
  xbm_doc (Props.C09.checks_pass hnr hb) M hM hbits hw hh name hname

/-- XPM3; every C identifier as `name`, colours of any accepted notation, `None` on either side:
    whenever the model of `write_xpm` succeeds, the reference reader decodes its whole text (`/* XPM */`,
    declaration, values line, the two colour lines, one string per row) to exactly the `Spec.grid` picture in the
    two configured colours: the opaque R, G, B `color_to_rgb_hex` prints, alpha 0 for `None` -/
theorem xpm_picture (M : List (List Nat)) (w h : Nat) (scale : Num) (border : Option Num) (b : Nat)
    (hM : WellFormed M w h) (hw : 0 < w) (hh : 0 < h)
    (hnr : ¬ Props.C09.Refused scale border) (hb : Props.C09.borderValue w h border = some b)
    (dark light : Option ColorArg) (name : List Char) (hname : IsCIdent name) (doc : List Char)
    (hdoc : xpmDoc M w h scale border dark light name = .ok doc) :
    ∃ dPx lPx, XpmShows (dark.getD (.str "#000")) dPx ∧ XpmShows (light.getD (.str "#fff")) lPx
      ∧ L.readXpm doc name = .ok { w := (w + 2 * b) * scale.toInt.toNat, h := (h + 2 * b) * scale.toInt.toNat,
                                   px := twoTone (grid M w h scale.toInt.toNat b) dPx lPx } :=
  xpm_doc (Props.C09.checks_pass hnr hb) M hM hw hh dark light name hname doc hdoc

/-- TXT: the text consists of exactly one line per row of the `Spec.grid` (scale 1), each the
    concatenation of the strings configured for dark / light modules — what the judge compares line by line.
    (`dark` / `light` may be any strings without a line feed.) -/
theorem txt_lines (M : List (List Nat)) (w h : Nat) (border : Option Num) (b : Nat)
    (hM : WellFormed M w h) (hbits : Bits M)
    (hnr : ¬ Props.C09.Refused (.int 1) border) (hb : Props.C09.borderValue w h border = some b)
    (dark light : List Char) (hd : ∀ c ∈ dark, c ≠ '\n') (hl : ∀ c ∈ light, c ≠ '\n') :
    ∃ doc, txtDoc M w h border dark light = .ok doc
      ∧ L.linesT doc [] = some ((grid M w h 1 b).map (fun row => row.flatMap (fun v => if v ≠ 0 then dark else light))) :=
  txt_doc (Props.C09.checks_pass hnr hb) M hM hbits dark light hd hl

/-- ANSI terminal: the reference reader (SGR state machine: `ESC[7m` reverse video = light,
    `ESC[49m` = dark, two spaces per cell, `ESC[0m`) decodes the model's text to exactly the `Spec.grid` picture -/
theorem ansi_picture (M : List (List Nat)) (w h : Nat) (border : Option Num) (b : Nat)
    (hM : WellFormed M w h) (hbits : Bits M) (hh : 0 < h)
    (hnr : ¬ Props.C09.Refused (.int 1) border) (hb : Props.C09.borderValue w h border = some b) :
    ∃ doc, ansiDoc M w h border = .ok doc
      ∧ L.readAnsi doc = .ok { w := (w + 2 * b) * 1, h := (h + 2 * b) * 1, px := twoTone (grid M w h 1 b) black white } :=
  ansi_doc (Props.C09.checks_pass hnr hb) M hM hbits hh

/-- compact terminal, half blocks: the reference reader decodes the model's text to the
    `Spec.grid` picture, followed — when the number of rows is odd, which it is for every symbol — by one more
    row of dark cells: the lower half of the last text line, which lies outside the picture (`padOdd`) -/
theorem compact_picture (M : List (List Nat)) (w h : Nat) (border : Option Num) (b : Nat)
    (hM : WellFormed M w h) (hbits : Bits M) (hh : 0 < h)
    (hnr : ¬ Props.C09.Refused (.int 1) border) (hb : Props.C09.borderValue w h border = some b) :
    ∃ doc, compactDoc M w h border = .ok doc
      ∧ L.readCompact doc = .ok { w := (w + 2 * b) * 1, h := List.length (padOdd ((w + 2 * b) * 1) (grid M w h 1 b)),
                                  px := twoTone (padOdd ((w + 2 * b) * 1) (grid M w h 1 b)) black white }
      ∧ (padOdd ((w + 2 * b) * 1) (grid M w h 1 b)).take ((h + 2 * b) * 1) = grid M w h 1 b := by
  obtain ⟨doc, h1, h2⟩ := compact_doc (Props.C09.checks_pass hnr hb) M hM hbits hh
  refine ⟨doc, h1, h2, ?_⟩
  rw [← grid_length M w h 1 b]
  exact padOdd_take _ _

/-- the value of the pHYs chunk for a `dpi` argument (0 = no chunk): `int(int(dpi) // 0.0254)` for a truthy `dpi` -/
def ppmOf : Option Dpi → Nat
  | none => 0
  | some d => if d.truthy then d.ppm else 0

theorem dpiPpm_ok (dpi : Option Dpi) (ppm : Nat) (hp : dpiPpm dpi = .ok ppm) : ppm = ppmOf dpi := by
  rw [dpiPpm_eq] at hp
  cases dpi with
  | none => cases hp; rfl
  | some d =>
    dsimp only at hp
    split at hp <;> cases hp
    rfl

/-- every colour configuration, scale, border, dpi; any compressed payload: whenever the
    model of `save(kind='png')` writes a file, it starts with the PNG signature and the reference chunk walk —
    which checks the length, the four-letter name and the CRC-32 of EVERY chunk — accepts it and returns exactly
    the chunks of `Proofs.RasterDocs.fileChunks`: IHDR (width, height, bit depth, colour type, 0, 0, 0) first,
    pHYs when a resolution is given, PLTE for indexed colour, tRNS when there is transparency, IDAT with the
    payload, IEND last and empty.  The IHDR fields, PLTE and tRNS are those of `Props.C09Png.png_model_picture`. -/
theorem png_file_wellformed (setOrder : List PColor → List PColor) (M : List (List Nat)) (w h : Nat) (dark light : Option ColorArg)
    (o : TypeOpts ColorArg) (scale : Num) (border : Option Num) (dpi : Option Dpi) (comp file : List Nat)
    (hfile : savePngFile setOrder M w h dark light o scale border dpi comp = .ok (some file)) :
    ∃ out ppm, savePng setOrder M w h dark light o scale border = .ok out
      ∧ ppm = ppmOf dpi
      ∧ file = pngFile out ppm comp
      ∧ file.take 8 = [137, 80, 78, 71, 13, 10, 26, 10]
      ∧ L.pngChunks file.length (file.drop 8) = .ok (fileChunks out ppm comp)
      ∧ out.width < 4294967296 ∧ out.height < 4294967296 ∧ ppm < 4294967296 ∧ comp.length < 4294967296 := by
  unfold savePngFile at hfile
  obtain ⟨_, _, hfile⟩ := Proofs.Except.bind_ok.1 hfile
  obtain ⟨ppm, hp, hfile⟩ := Proofs.Except.bind_ok.1 hfile
  split at hfile
  · -- border 0.0: never a file
    obtain ⟨_, _, hfile⟩ := Proofs.Except.bind_ok.1 hfile
    cases hfile
  · obtain ⟨out, hs, hfile⟩ := Proofs.Except.bind_ok.1 hfile
    split at hfile
    · cases hfile
    · rename_i hbound
      cases hfile
      simp only [Bool.or_eq_true, decide_eq_true_eq, not_or, Nat.not_le, ge_iff_le] at hbound
      obtain ⟨⟨⟨⟨⟨hwl, hhl⟩, hpl⟩, hplte⟩, htrns⟩, hcomp⟩ := hbound
      obtain ⟨h1, h2⟩ := png_file_chunks out ppm comp hplte htrns hcomp
      exact ⟨out, ppm, hs, dpiPpm_ok dpi ppm hp, rfl, h1, h2, hwl, hhl, hpl, hcomp⟩

/-- symbols of at least one module; every colour configuration, scale, border, dpi; any
    compressed payload; any iteration order of `set()`: the reference container reader — signature, chunk walk
    with every CRC, IHDR first and IEND last, no unknown critical chunk, PLTE / tRNS / pHYs before IDAT, PLTE only
    and non-empty for indexed colour and not larger than the bit depth allows, tRNS length / grey value in range —
    ACCEPTS the whole file the model writes and returns the IHDR fields, the resolution (`dpi / 0.0254`, both
    axes, unit metre), the IDAT payload, and a colour table that shows every sample exactly as the reference
    semantics of `Props.C09Png.png_model_picture` (`readColour`) do.  Together with `png_model_picture` (pixels of
    the inflated stream) this covers the file up to zlib. -/
theorem png_file_accepted (setOrder : List PColor → List PColor) (hset : Proofs.Png.SetOrderOK setOrder) (M : List (List Nat)) (w h : Nat)
    (dark light : Option ColorArg) (o : TypeOpts ColorArg) (scale : Num) (border : Option Num) (dpi : Option Dpi) (comp file : List Nat)
    (hw : 0 < w) (hh : 0 < h)
    (hfile : savePngFile setOrder M w h dark light o scale border dpi comp = .ok (some file)) :
    ∃ out, savePng setOrder M w h dark light o scale border = .ok out
      ∧ L.readPngContainer file = .ok (containerOf out (ppmOf dpi) comp)
      ∧ (containerOf out (ppmOf dpi) comp).hdr = { width := out.width, height := out.height, depth := out.depth, ctype := out.ctype }
      ∧ (containerOf out (ppmOf dpi) comp).comp = comp
      ∧ (containerOf out (ppmOf dpi) comp).phys = (if ppmOf dpi = 0 then none else some (ppmOf dpi, ppmOf dpi, 1))
      ∧ ∀ k, L.pngColour (containerOf out (ppmOf dpi) comp) k = Proofs.Png.readColour out.depth out.ctype out.plte out.trns k := by
  obtain ⟨out, ppm, hs, hppm, hf, _, _, hwl, hhl, hpl, hcomp⟩ :=
    png_file_wellformed setOrder M w h dark light o scale border dpi comp file hfile
  subst hppm
  have ok := savePng_outOK setOrder hset M w h dark light o scale border out hw hh hs hwl hhl
  refine ⟨out, hs, ?_, rfl, rfl, rfl, fun k => pngColour_container out ok _ comp k⟩
  rw [hf]
  exact container_accepts out ok _ hpl comp hcomp

/-- the WHOLE PNG file as a picture; every symbol matrix, colour configuration incl.
    per-type options, scale, border, dpi; any iteration order of `set()`: whenever the model writes a file, the
    reference reader `Spec.L.readPng` — container with every CRC, zlib header and Adler-32 (`ZlibOK`: what the
    reader checks of the compressed payload; inflating it is a runtime service and yields the model's scanline
    stream `out.idat`, as the correspondence run checks byte for byte), scanline filters, samples, colour table —
    returns a picture of (w+2b)·s × (h+2b)·s pixels in which EVERY pixel shows the colour configured for its
    module type (`pixelType`, as in `Props.C09Png.png_model_picture_types`) -/
theorem png_file_picture_types (setOrder : List PColor → List PColor) (hset : Proofs.Png.SetOrderOK setOrder) (M : List (List Nat)) (w h : Nat)
    (dark light : Option ColorArg) (o : TypeOpts ColorArg) (scale : Num) (border : Option Num) (dpi : Option Dpi) (comp file : List Nat)
    (hM : WellFormed M w h) (hw : 0 < w) (hh : 0 < h)
    (hfile : savePngFile setOrder M w h dark light o scale border dpi comp = .ok (some file)) :
    ∃ out clrMap p b A,
      savePng setOrder M w h dark light o scale border = .ok out
      ∧ Proofs.Png.parseColormap (makeColormap w h (dark.getD (.str "#000")) (light.getD (.str "#fff")) o) = .ok clrMap
      ∧ buildPalette setOrder clrMap = .ok p ∧ borderForRange w h border = .ok b ∧ 0 < scale.toInt.toNat
      ∧ (useVerbose p = true → alignmentMatrix w = .ok A)
      ∧ out.width = (w + 2 * b) * scale.toInt.toNat ∧ out.height = (h + 2 * b) * scale.toInt.toNat
      ∧ (ZlibOK comp out.idat →
          ∃ px, L.readPng file out.idat = .ok (containerOf out (ppmOf dpi) comp, { w := out.width, h := out.height, px := px })
            ∧ ∀ x y, x < out.width → y < out.height →
                ∃ c rgba, cmGet clrMap (Proofs.Png.pixelType p M A w h scale.toInt.toNat b x y) = some c
                  ∧ (px.getD y []).getD x none = some rgba ∧ Proofs.Png.Shows c rgba) := by
  obtain ⟨out, hs, hcont, _, _, _, hcol⟩ :=
    png_file_accepted setOrder hset M w h dark light o scale border dpi comp file hw hh hfile
  have hs' := hs
  unfold savePng at hs'
  have hn : (makeColormap w h (dark.getD (.str "#000")) (light.getD (.str "#fff")) o).length ≤ 16 :=
    Nat.le_trans (Proofs.Png.makeColormap_length w h _ _ _) (by decide)
  obtain ⟨clrMap, p, b, idx, A, hparse, hpal, hb, hidx, hspos, hA, _, hout, hlen, hline, hpix⟩ :=
    Props.C09Png.png_model_picture_types setOrder hset M w h _ scale border out hM hn hs'
  obtain ⟨hrows, hqz⟩ := indexRows_bounds setOrder hset M w h _ hM hn clrMap p idx hparse hpal hidx
  have hbytes := pngLines_bytes idx w p.depth scale.toInt.toNat b (typeIndex p Gen.TYPE_QUIET_ZONE) hqz hrows
  have hrecon := Proofs.Png.recon_scanlines idx w p.depth _ b _ hspos hqz hrows
  clear hs'
  -- with the record written out, the fields of `out` and of the container the reader returns are there by reduction
  subst hout
  refine ⟨_, clrMap, p, b, A, hs, hparse, hpal, hb, hspos, hA, rfl, rfl, ?_⟩
  intro hz
  generalize Proofs.Png.pngLines idx w p.depth scale.toInt.toNat b (typeIndex p Gen.TYPE_QUIET_ZONE) = lines at *
  have hread := readPng_lines file _ hcont lines hz hlen (fun l hl => ⟨(hline l hl).1, (hline l hl).2, hbytes l hl⟩)
  refine ⟨(picOf _ lines).px, hread, ?_⟩
  intro x y hx hy
  obtain ⟨col, rgba, h1, h2, h3⟩ := hpix x y hx hy
  refine ⟨col, rgba, h1, ?_, h3⟩
  -- `recon_scanlines` holds whatever stands in front of the first scanline: the reader's row of zeros is as good as none
  rw [picOf_pixel _ lines ((hrecon _).trans (hrecon _).symm) x y hx (by rw [hlen]; exact hy), hcol]
  exact h2

/-- C09; dark / light colours only: the reference reader applied to the WHOLE file the model
    writes (and to the model's scanline stream as the inflated IDAT data) returns EXACTLY the `Spec.grid` picture in
    the two configured colours: pixel (x, y) shows the dark colour where module (y div s − b, x div s − b) is dark,
    the light colour elsewhere, the whole quiet zone included ("shows": exact R, G, B, A; None = alpha 0) -/
theorem png_file_picture (setOrder : List PColor → List PColor) (hset : Proofs.Png.SetOrderOK setOrder) (M : List (List Nat)) (w h : Nat)
    (dark light : Option ColorArg) (scale : Num) (border : Option Num) (dpi : Option Dpi) (comp file : List Nat)
    (hM : WellFormed M w h) (hw : 0 < w) (hh : 0 < h)
    (hfile : savePngFile setOrder M w h dark light {} scale border dpi comp = .ok (some file)) :
    ∃ out dC lC b,
      savePng setOrder M w h dark light {} scale border = .ok out
      ∧ pngColor (dark.getD (.str "#000")) = .ok dC ∧ pngColor (light.getD (.str "#fff")) = .ok lC
      ∧ borderForRange w h border = .ok b ∧ 0 < scale.toInt.toNat
      ∧ out.width = (w + 2 * b) * scale.toInt.toNat ∧ out.height = (h + 2 * b) * scale.toInt.toNat
      ∧ (ZlibOK comp out.idat →
          ∃ px, L.readPng file out.idat = .ok (containerOf out (ppmOf dpi) comp, { w := out.width, h := out.height, px := px })
            ∧ ∀ x y, x < out.width → y < out.height →
                ∃ rgba, (px.getD y []).getD x none = some rgba
                  ∧ Proofs.Png.Shows (if ((grid M w h scale.toInt.toNat b).getD y []).getD x 0 ≠ 0 then dC else lC) rgba) := by
  obtain ⟨out, clrMap, p, b, A, hs, hparse, hpal, hb, hspos, _, hwd, hht, hpic⟩ :=
    png_file_picture_types setOrder hset M w h dark light {} scale border dpi comp file hM hw hh hfile
  obtain ⟨dC, lC, hD, hL, hcm⟩ := Proofs.Png.parseColormap_default w h _ _ clrMap hparse
  subst hcm
  have hcheap := Proofs.Png.useVerbose_default setOrder hset w h dC lC p hpal
  refine ⟨out, dC, lC, b, hs, hD, hL, hb, hspos, hwd, hht, ?_⟩
  intro hz
  obtain ⟨px, hread, hpix⟩ := hpic hz
  refine ⟨px, hread, ?_⟩
  intro x y hx hy
  obtain ⟨c, rgba, hc, hpx, hshows⟩ := hpix x y hx hy
  refine ⟨rgba, hpx, ?_⟩
  rw [← Proofs.Png.default_pixel_colour p hcheap M A w h _ b x y dC lC c (hwd ▸ hx) (hht ▸ hy) hc]
  exact hshows

/-! ### non-vacuity: the hypotheses hold, the writers succeed, on small instances -/

example : Admitted 2 2 (.float false 2 true) (some (.int 1)) 1 :=
  Props.C09.checks_pass (by intro h; rcases h with h | ⟨x, hx, h⟩
                            · simp [Num.toInt] at h
                            · cases hx; simp [Num.isFractional, Num.isNegative] at h) rfl
example : WellFormed [[1, 0], [0, 1]] 2 2 ∧ Bits [[1, 0], [0, 1]] := by
  constructor
  · simp [WellFormed]
  · intro r hr v hv; simp at hr; rcases hr with rfl | rfl <;> simp at hv <;> omega
example : IsCIdent "qr_1".toList := isCIdent_literal 'q' ['r', '_', '1'] (by decide) (by decide)
example : (pbmDoc [[1, 0], [0, 1]] 2 2 (.int 2) (some (.int 1)) false).toOption.map
    (fun d => (d.length, (L.readPbm d).toOption.map (fun p => (p.w, p.h, p.px == twoTone (grid [[1, 0], [0, 1]] 2 2 2 1) black white))))
    = some (68, some (8, 8, true)) := by decide +kernel
example : (pamDoc [[1, 0], [0, 1]] 2 2 (.int 1) (some (.int 0)) (some (.str "red")) (some .none)).toOption.map
    (fun d => (L.readPam d).toOption.map (fun p => p.px))
    = some (some [[some ⟨255, 0, 0, 255⟩, some ⟨0, 255, 255, 0⟩], [some ⟨0, 255, 255, 0⟩, some ⟨255, 0, 0, 255⟩]]) := by decide +kernel
example : (xpmDoc [[1, 0], [0, 1]] 2 2 (.int 1) (some (.int 0)) (some (.str "red")) (some .none) "qr".toList).toOption.map
    (fun d => (L.readXpm d "qr".toList).toOption.map (fun p => p.px))
    = some (some [[some ⟨255, 0, 0, 255⟩, some ⟨0, 0, 0, 0⟩], [some ⟨0, 0, 0, 0⟩, some ⟨255, 0, 0, 255⟩]]) := by decide +kernel
example : (xbmDoc [[1, 0], [0, 1]] 2 2 (.int 1) (some (.int 0)) "qr".toList).toOption
    = some "#define qr_width 2\n#define qr_height 2\nstatic unsigned char qr_bits[] = {\n    0x01,\n    0x02\n};\n".toList := by decide +kernel
example : (compactDoc [[1, 0, 1], [0, 1, 1], [1, 1, 0]] 3 3 (some (.int 0))).toOption.map
    (fun d => (d, (L.readCompact d).toOption.map (fun p => (p.w, p.h)))) = some ("▄▀ \n  ▀\n".toList, some (3, 4)) := by decide +kernel
example : (ppmDoc [[1, 0], [0, 1]] 2 2 [] (.int 1) (some (.int 0))).toOption = none := by decide +kernel
/-- a whole PNG file with a pHYs chunk (72 dpi): the IEND chunk ends in the well-known CRC AE 42 60 82 -/
example : (savePngFile (fun l => l.eraseDups) [[1, 0], [0, 1]] 2 2 none none {} (.int 1) (some (.int 0)) (some ⟨true, 72, 2834⟩)
      [120, 156, 99, 0, 1]).toOption =
    some (some [137, 80, 78, 71, 13, 10, 26, 10, 0, 0, 0, 13, 73, 72, 68, 82, 0, 0, 0, 2, 0, 0, 0, 2, 1, 0, 0, 0, 0, 90,
      205, 48, 137, 0, 0, 0, 9, 112, 72, 89, 115, 0, 0, 11, 18, 0, 0, 11, 18, 1, 210, 221, 126, 252, 0, 0, 0, 5, 73, 68, 65,
      84, 120, 156, 99, 0, 1, 79, 46, 233, 52, 0, 0, 0, 0, 73, 69, 78, 68, 174, 66, 96, 130]) := by decide +kernel

/-- … and the container reader accepts that file -/
example : (L.readPngContainer [137, 80, 78, 71, 13, 10, 26, 10, 0, 0, 0, 13, 73, 72, 68, 82, 0, 0, 0, 2, 0, 0, 0, 2, 1, 0, 0, 0, 0, 90,
      205, 48, 137, 0, 0, 0, 9, 112, 72, 89, 115, 0, 0, 11, 18, 0, 0, 11, 18, 1, 210, 221, 126, 252, 0, 0, 0, 5, 73, 68, 65,
      84, 120, 156, 99, 0, 1, 79, 46, 233, 52, 0, 0, 0, 0, 73, 69, 78, 68, 174, 66, 96, 130]).toOption.map
      (fun p => ([p.hdr.width, p.hdr.height, p.hdr.depth, p.hdr.ctype], p.phys, p.comp)) =
    some ([2, 2, 1, 0], some (2834, 2834, 1), [120, 156, 99, 0, 1]) := by decide +kernel
example : Proofs.Png.SetOrderOK (fun l => l.eraseDups) := Proofs.Png.setOrderOK_eraseDups

/-- a whole PNG file with the payload zlib produces for the model's scanline stream: `ZlibOK` holds and the reader
    returns the 2 × 2 picture -/
example : ZlibOK [120, 218, 99, 112, 96, 104, 0, 0, 1, 68, 0, 193] [0, 64, 0, 128] := by unfold ZlibOK; decide
example : (savePngFile (fun l => l.eraseDups) [[1, 0], [0, 1]] 2 2 none none {} (.int 1) (some (.int 0)) none
      [120, 218, 99, 112, 96, 104, 0, 0, 1, 68, 0, 193]).toOption.map
      (fun f => f.map (fun f => (L.readPng f [0, 64, 0, 128]).toOption.map (fun r => r.2.px))) =
    some (some (some [[some black, some white], [some white, some black]])) := by decide +kernel

end Props.C09Docs
