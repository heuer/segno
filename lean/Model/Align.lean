/-
  Model.Align — model of the alignment look-up of `utils.matrix_iter_verbose`:
  `alignment_matrix = encoder.make_matrix(w, h, reserve_regions=False, add_timing=False)` (all 2)
  followed by `encoder.add_alignment_patterns(alignment_matrix, w, h)`, on lists of rows.
  Imports only Gen.Align (the table `consts.ALIGNMENT_POS`), so that the theorems about it
  (Proofs/Align.lean) are rebuilt only when that table changes.
-/
import Gen.Align

namespace Model

/-- the 5×5 alignment pattern, row by row -/
def alignPatternRows : List (List Nat) := [[1,1,1,1,1], [1,0,0,0,1], [1,0,1,0,1], [1,0,0,0,1], [1,1,1,1,1]]

/-- `row[j:j+5] = pat` -/
def sliceAssign (row : List Nat) (j : Nat) (pat : List Nat) : List Nat := row.take j ++ pat ++ row.drop (j + 5)

/-- rows i … i+4 of the matrix get `pattern` at columns j … j+4 -/
def placeAlignment (m : List (List Nat)) (i j : Nat) : List (List Nat) :=
  m.zipIdx.map (fun (row, k) => if i ≤ k ∧ k < i + 5 then sliceAssign row j (alignPatternRows.getD (k - i) []) else row)

/-- the alignment matrix of a square symbol of `n` modules: 2 = no alignment pattern, else the
    pattern value.  `none` = `IndexError` (no entry in `ALIGNMENT_POS`) -/
def alignmentMatrix? (n : Nat) : Option (List (List Nat)) :=
  let m0 := List.replicate n (List.replicate n 2)
  let version : Int := Int.fdiv ((n : Int) - 17) 4
  if version < 2 then some m0 else
  match Gen.Align.ALIGNMENT_POS[(version - 2).toNat]? with
  | none => none
  | some positions =>
    match positions.head?, positions.getLast? with
    | some minPos, some maxPos =>
      let centres := positions.flatMap (fun x => positions.map (fun y => (x, y)))
      some (centres.foldl (fun m (x, y) =>
        if (x, y) == (minPos, minPos) || (x, y) == (minPos, maxPos) || (x, y) == (maxPos, minPos) then m
        else placeAlignment m (x - 2) (y - 2)) m0)
    | _, _ => none

end Model
