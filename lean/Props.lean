import Props.C01
import Props.C01Placement
import Props.C01Stream
import Props.C02
import Props.C02Model
import Props.C03
import Props.C03Distance
import Props.C03Message
import Props.C03Tables
import Props.C04
import Props.C05
import Props.C06
import Props.C07
import Props.C08
import Props.C08Roundtrip
import Props.C09
import Props.C09Docs
import Props.C09Png
import Props.C10
import Props.C10Accept
import Props.C10Docs
import Props.C11
import Props.C11Colormap
import Props.C11Svg
import Props.C12
import Props.C12Routes
import Props.C13
import Props.C14
import Props.C14Colour
import Props.C14NoCrash
import Props.C14Routes
import Props.C14Serializers
import Props.C15
import Props.C16
import Props.C16Epc
import Props.EncodeLevel
import Props.EndToEnd
import Props.TieA
import Props.TieA2
import Props.TieA3
import Props.TieA3Kanji
import Props.TieA4
import Props.TieA5
import Props.TieA6
