/-
  Proofs.TieA2Timing — `add_timing_pattern` (translated, Gen/Funcs2.lean).  The model has no separate function for it:
  the timing pattern is the last fold of `Model.makeMatrix`.  `timingM` is that fold on an arbitrary n × n matrix,
  `makeMatrix_eq_timingM` shows that `Model.makeMatrix n` is `timingM` applied to the matrix with the reserved
  version / format areas (`reservedM n`, the first two folds), and `add_timing_pattern_eq` ties the translated function
  to `timingM`.
-/
import Proofs.TieA2Matrix

namespace Proofs.TieA2
open Gen.Py Model

/-- the first part of `Model.makeMatrix`: the matrix of `0x2` with the version and format areas set to 0 -/
def reservedM (n : Nat) : Matrix :=
  let isMicro := n < 21
  let m0 : Matrix := Array.replicate n (Array.replicate n 2)
  let m1 := if n > 41 then
      (List.range 6).foldl (fun m i =>
        let m := set2 (set2 (set2 m i (n - 11) 0) i (n - 10) 0) i (n - 9) 0
        set2 (set2 (set2 m (n - 11) i 0) (n - 10) i 0) (n - 9) i 0) m0
    else m0
  (List.range 9).foldl (fun m i =>
      let m := set2 (set2 m i 8 0) 8 i 0
      if !isMicro then
        let ni := if i == 0 then 0 else n - i
        set2 (set2 m ni 8 0) 8 ni 0
      else m) m1

/-- one round of the timing loop: `matrix[i][j] = bit; matrix[j][i] = bit` for i = 8 + k, bit = (k + 1) % 2 -/
def timingStep (j : Nat) (m : Matrix) (k : Nat) : Matrix :=
  let i := 8 + k
  let bit := (k + 1) % 2
  set2 (set2 m i j bit) j i bit

/-- the timing pattern part of `Model.makeMatrix` (its last fold) applied to an n × n matrix -/
def timingM (m : Matrix) (n : Nat) (isMicro : Bool) : Matrix :=
  let (j, stop) := if isMicro then (0, n) else (6, n - 8)
  (List.range (stop - 8)).foldl (fun m k =>
    let i := 8 + k
    let bit := (k + 1) % 2
    set2 (set2 m i j bit) j i bit) m

theorem makeMatrix_eq_timingM (n : Nat) : Model.makeMatrix n = timingM (reservedM n) n (decide (n < 21)) := by
  unfold Model.makeMatrix timingM reservedM
  by_cases h : n < 21
  · simp only [h, decide_true, if_true]
  · simp only [h, decide_false, if_false, Bool.false_eq_true]

theorem checkByte_bit (k : Nat) : checkByte (Int.ofNat (k % 2)) = .ok () := by
  unfold checkByte
  rw [if_pos]
  simp only [Int.ofNat_eq_natCast]
  omega

theorem bxor_one_mod_two (k : Nat) : bxor (Int.ofNat ((k + 1) % 2)) 1 = Int.ofNat ((k + 1 + 1) % 2) := by
  show Int.ofNat (((k + 1) % 2) ^^^ 1) = _
  congr 1
  have h : k % 2 = 0 ∨ k % 2 = 1 := by omega
  rcases h with h | h
  · have e1 : (k + 1) % 2 = 1 := by omega
    have e2 : (k + 1 + 1) % 2 = 0 := by omega
    rw [e1, e2]; rfl
  · have e1 : (k + 1) % 2 = 0 := by omega
    have e2 : (k + 1 + 1) % 2 = 1 := by omega
    rw [e1, e2]; rfl

/-- `add_timing_pattern(matrix, is_micro)` on an n × n matrix (n ≥ 1 for Micro, n ≥ 7 for QR so that row 0 resp. 6 exists) -/
theorem add_timing_pattern_yields (m : Matrix) (n : Nat) (hs : Sq m n) (isMicro : Bool) (hn : if isMicro then 1 ≤ n else 7 ≤ n) :
    Yields (Sq · n) (Gen.Funcs2.add_timing_pattern (mI m) isMicro) mI (timingM m n isMicro) := by
  -- the row / column `j` of the pattern and the end `stop` of the loop, on both sides
  obtain ⟨j, stop, c, hj, hstop, hc, e1, e2⟩ : ∃ (j : Nat) (stop : Int) (c : Nat), j < n ∧ stop ≤ n ∧ (stop - 8).toNat = c ∧
      (if isMicro then ((0 : Int), (n : Int)) else (6, (n : Int) - 8)) = ((j : Int), stop) ∧
      timingM m n isMicro = (List.range c).foldl (timingStep j) m := by
    cases isMicro <;> simp only [Bool.false_eq_true, if_false, if_true] at hn
    · exact ⟨6, (n : Int) - 8, n - 8 - 8, by omega, by omega, by omega, rfl, rfl⟩
    · exact ⟨0, n, n - 8, by omega, by omega, by omega, rfl, rfl⟩
  unfold Gen.Funcs2.add_timing_pattern
  simp only [mI_length, hs.size, Int.ofNat_eq_natCast, e1, e2]
  have hJ : normIndex n (j : Int) = some j := normIndex_nat n j hj
  refine .row hs hJ (.bind (.range_loop (fun k t => (Int.ofNat ((k + 1) % 2), mI t)) (timingStep j) c hc hs
    fun k hk t ht => ?_) fun h => ⟨by simp only [], h⟩)
  have hi : normIndex n (8 + (k : Int)) = some (8 + k) := by
    rw [show (8 : Int) + (k : Int) = ((8 + k : Nat) : Int) by omega]; exact normIndex_nat n (8 + k) (by omega)
  simp only [checkByte_bit, bind_ok]
  exact .row ht hi (.set ht hi hJ fun h1 => .row h1 hJ (.set h1 hJ hi fun h2 => ⟨by rw [bxor_one_mod_two]; rfl, h2⟩))

theorem add_timing_pattern_eq (m : Matrix) (n : Nat) (hs : Sq m n) (isMicro : Bool) (hn : if isMicro then 1 ≤ n else 7 ≤ n) :
    Gen.Funcs2.add_timing_pattern (mI m) isMicro = .ok (mI (timingM m n isMicro)) :=
  (add_timing_pattern_yields m n hs isMicro hn).eq

end Proofs.TieA2
