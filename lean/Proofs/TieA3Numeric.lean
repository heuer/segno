/-
  `make_segment`, numeric mode: the loop `for i in range(0, n, 3): chunk = data[i:i + 3]; append_bits(int(chunk),
  len(chunk) * 3 + 1)` against `Model.chunks 3` / `Model.digitsVal`.  The loop over the chunks `data[i:i + k]` against
  `Model.chunks k` (`chunk_loop`) is shared with the alphanumeric mode (k = 2).
-/
import Proofs.TieA3Segment

namespace Proofs.TieA3
open Gen.Py Proofs.TieA2 Model

theorem rangeStep_nat (len k : Nat) :
    rangeStep 0 (len : Int) k = (List.range ((len + k - 1) / k)).map (fun (j : Nat) => (0 : Int) + Int.ofNat j * Int.ofNat k) := by
  unfold rangeStep
  rw [show ((len : Int) - 0).toNat = len by omega]

/-- `data[i:i + k]` at `i = j · k` (`ki` is the literal `k` of the code) -/
theorem slice_chunk (data : List Nat) (j k : Nat) (ki : Int) (hk : ki = (k : Int)) :
    Gen.Py.slice (toI data) (some ((0 : Int) + Int.ofNat j * Int.ofNat k)) (some ((0 : Int) + Int.ofNat j * Int.ofNat k + ki))
      = toI ((data.drop (j * k)).take k) := by
  subst hk
  have e : (0 : Int) + Int.ofNat j * Int.ofNat k = ((j * k : Nat) : Int) := by simp only [Int.ofNat_eq_natCast]; push_cast; omega
  rw [e, show ((j * k : Nat) : Int) + (k : Int) = ((j * k + k : Nat) : Int) by push_cast; rfl, slice_nat, Nat.add_sub_cancel_left,
    ← toI_drop, ← toI_take]

theorem chunk_count (n k : Nat) (hk : 0 < k) (hn : 0 < n) : (n + k - 1) / k = (n - k + k - 1) / k + 1 := by
  by_cases h : k ≤ n
  · rw [show n + k - 1 = n - k + k - 1 + k by omega, Nat.add_div_right _ hk]
  · rw [show n - k = 0 by omega, Nat.div_eq_of_lt (show 0 + k - 1 < k by omega)]
    exact Nat.div_eq_of_lt_le (by omega) (by omega)

theorem chunks_eq (k : Nat) (hk : 0 < k) : ∀ (fuel : Nat) (l : List Nat), l.length ≤ fuel →
    chunks k fuel l = (List.range ((l.length + k - 1) / k)).map (fun j => (l.drop (j * k)).take k) := by
  have h0 : (0 + k - 1) / k = 0 := Nat.div_eq_of_lt (by omega)
  intro fuel
  induction fuel with
  | zero =>
    intro l h
    rw [List.eq_nil_of_length_eq_zero (Nat.le_zero.mp h), List.length_nil, h0]
    rfl
  | succ f ih =>
    intro l h
    cases l with
    | nil => rw [List.length_nil, h0]; rfl
    | cons x t =>
      have hc : chunks k (f + 1) (x :: t) = (x :: t).take k :: chunks k f ((x :: t).drop k) := rfl
      have hlen : ((x :: t).drop k).length = (x :: t).length - k := List.length_drop
      rw [hc, ih _ (by rw [hlen, List.length_cons] at *; omega), hlen,
        chunk_count (x :: t).length k hk (by simp), List.range_succ_eq_map, List.map_cons, List.map_map]
      congr 1
      · rw [Nat.zero_mul, List.drop_zero]
      · apply List.map_congr_left
        intro j _
        simp only [Function.comp, List.drop_drop, Nat.succ_mul, Nat.add_comm]

theorem chunk_loop (data : List Nat) (k : Nat) (hk : 0 < k) (body : List Int → Int → M (List Int)) (h : List Nat → List Nat)
    (hstep : ∀ acc j, j < (data.length + k - 1) / k →
      body (toI acc) ((0 : Int) + Int.ofNat j * Int.ofNat k) = .ok (toI (acc ++ h ((data.drop (j * k)).take k)))) :
    foldlM (rangeStep 0 (data.length : Int) k) [] body = .ok (toI (((chunks k data.length data).map h).flatten)) := by
  rw [rangeStep_nat, chunks_eq k hk data.length data (Nat.le_refl _), List.map_map]
  exact append_loop body _ (fun j => h ((data.drop (j * k)).take k)) _ (fun acc j hj => hstep acc j (List.mem_range.mp hj)) []

theorem findMode_numeric (data : List Nat) (h : findMode data = 1) : ∀ b ∈ data, 48 ≤ b ∧ b ≤ 57 := by
  have hr := findMode_representable data
  rw [h, Proofs.Modes.representable_1] at hr
  simp only [Bool.and_eq_true, List.all_eq_true, Spec.isDigit, decide_eq_true_eq] at hr
  exact hr.2

/-- numeric mode requested (`find_mode` then finds numeric too, or the request is refused) -/
theorem make_segment_numeric_some (raw : String) (data : List Nat) (enc : Option String) (encName : String) (g : Int)
    (intOf : List Int → M Int)
    (hint : ∀ c : List Nat, c ≠ [] → (∀ b ∈ c, 48 ≤ b ∧ b ≤ 57) → intOf (toI c) = .ok (Int.ofNat (digitsVal c)))
    (hd : ∀ b ∈ data, 48 ≤ b ∧ b ≤ 57) (hg : ¬ (1 : Int) < g) :
    Gen.Funcs3.make_segment raw (some (1 : Int)) enc (.ok (toI data, (data.length : Int), encName)) g intOf
      = .ok (toI (((chunks 3 data.length data).map (fun c => Model.appendBits (digitsVal c) (c.length * 3 + 1))).flatten),
          (data.length : Int), 1, none) := by
  unfold Gen.Funcs3.make_segment
  mode_branch [hg]
  rw [chunk_loop data 3 (by omega) _ (fun c => Model.appendBits (digitsVal c) (c.length * 3 + 1)), bind_ok]
  intro acc j hj
  rw [slice_chunk data j 3 3 rfl]
  generalize hc : (data.drop (j * 3)).take 3 = c
  have hne : c ≠ [] := by
    intro h
    have := congrArg List.length (hc.trans h)
    simp only [List.length_take, List.length_drop, List.length_nil] at this
    omega
  have hdig : ∀ b ∈ c, 48 ≤ b ∧ b ≤ 57 := fun b hb => hd b (List.mem_of_mem_drop (List.mem_of_mem_take (hc ▸ hb)))
  rw [hint c hne hdig, bind_ok, toI_length,
    appendBits_lit (digitsVal c) (c.length * 3 + 1) (Int.ofNat (digitsVal c)) (Int.ofNat c.length * 3 + 1) rfl
      (by simp only [Int.ofNat_eq_natCast]; push_cast; rfl), toI_append]

theorem make_segment_numeric_py (raw : String) (data : List Nat) (mode : Option Nat) (enc : Option String) (encName : String)
    (intOf : List Int → M Int)
    (hint : ∀ c : List Nat, c ≠ [] → (∀ b ∈ c, 48 ≤ b ∧ b ≤ 57) → intOf (toI c) = .ok (Int.ofNat (digitsVal c)))
    (hg : findMode data = 1) (hmode : mode = none ∨ mode = some 1) :
    Gen.Funcs3.make_segment raw (mode.map Int.ofNat) enc (.ok (toI data, (data.length : Int), encName)) (findMode data : Int) intOf
      = .ok (toI (((chunks 3 data.length data).map (fun c => Model.appendBits (digitsVal c) (c.length * 3 + 1))).flatten),
          (data.length : Int), 1, none) :=
  (make_segment_found raw data mode enc _ intOf 1 hg hmode).trans
    (make_segment_numeric_some raw data enc encName (findMode data : Int) intOf hint (findMode_numeric data hg) (by omega))

theorem make_segment_numeric_model (data : List Nat) (mode : Option Nat) (encName : String)
    (hg : findMode data = 1) (hmode : mode = none ∨ mode = some 1) :
    Model.makeSegment data mode encName
      = .ok { bits := ((chunks 3 data.length data).map (fun c => Model.appendBits (digitsVal c) (c.length * 3 + 1))).flatten,
              charCount := data.length, mode := 1, encoding := none } :=
  makeSegment_accepted data mode encName 1 (hmode.symm.imp id (⟨·, hg⟩)) (.inr (by omega))

theorem make_segment_refused (raw : String) (data : List Nat) (md : Nat) (enc : Option String) (encName : String)
    (intOf : List Int → M Int) (hmd : md ≠ 4) (hlt : md < findMode data) :
    Gen.Funcs3.make_segment raw (some (md : Int)) enc (.ok (toI data, (data.length : Int), encName)) (findMode data : Int) intOf
      = .error .valueError
    ∧ Model.makeSegment data (some md) encName = .error .valueError := by
  constructor
  · unfold Gen.Funcs3.make_segment
    have h4 : ((some (md : Int)) == some (4 : Int)) = false := by
      simp only [beq_eq_false_iff_ne, ne_eq, Option.some.injEq]; omega
    have hlt' : ((md : Int) < (findMode data : Int)) := by omega
    simp [h4, hlt']
  · rw [Proofs.Modes.makeSegment_some data md encName hmd, ← Proofs.Modes.findMode_eq_autoMode, if_pos hlt]

end Proofs.TieA3
