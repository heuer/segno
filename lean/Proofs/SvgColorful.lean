/-
  The multicolour branch of the model of `write_svg` (Model/SvgDoc.lean), for C11: the run machine
  `vrowGo` / `vlinesGo`, the `coordinates` / `xy` loop `accumulate`, and the reference semantics `svgAbs`
  of the relative moves.
-/
import Model.SvgDoc
import Proofs.Lines
import Proofs.Except
import Proofs.PngPalette

namespace Proofs.SvgColorful

open Model.Svg Spec.Vector Proofs.Lines

section generic
variable {α κ : Type} [DecidableEq κ] (key : α → κ)

/-- 1 iff column `j` holds a colour of key `k`, the colours laid out from column `x` on -/
def colAt : Nat → List α → κ → Nat → Nat
  | _, [], _, _ => 0
  | x, c :: rest, k, j => (if j = x ∧ key c = k then 1 else 0) + colAt (x + 1) rest k j

/-- the runs `(x1, x2)` of colour key `k` -/
def selRuns (k : κ) (rs : List (α × Nat × Nat)) : List (Nat × Nat) := (rs.filter (fun r => key r.1 = k)).map (·.2)

theorem selRuns_cons (k : κ) (r : α × Nat × Nat) (rs : List (α × Nat × Nat)) :
    selRuns key k (r :: rs) = if key r.1 = k then r.2 :: selRuns key k rs else selRuns key k rs := by
  unfold selRuns
  by_cases h : key r.1 = k <;> simp [h]

theorem ind_succ (x1 x2 j : Nat) (h : x1 ≤ x2) : ind x1 (x2 + 1) j = ind x1 x2 j + (if j = x2 then 1 else 0) := by
  unfold ind
  repeat' (first | omega | split)

theorem ind_single (x j : Nat) : ind x (x + 1) j = if j = x then 1 else 0 := by
  unfold ind
  repeat' (first | omega | split)

theorem coverAt_selRuns_cons (k : κ) (r : α × Nat × Nat) (rs : List (α × Nat × Nat)) (j : Nat) :
    coverAt (selRuns key k (r :: rs)) j = (if key r.1 = k then ind r.2.1 r.2.2 j else 0) + coverAt (selRuns key k rs) j := by
  rw [selRuns_cons]
  split
  · rw [coverAt_cons]
  · rw [Nat.zero_add]

/-- the loop invariant of `matrix_to_lines_verbose`: `[x1, x2)` is the pending run of colour `last` -/
theorem vrowGo_cover (cols : List α) : ∀ (x1 x2 : Nat) (last : α) (k : κ) (j : Nat), x1 ≤ x2 →
    coverAt (selRuns key k (vrowGo key x1 x2 last cols)) j
      = (if key last = k then ind x1 x2 j else 0) + colAt key x2 cols k j := by
  induction cols with
  | nil => intro x1 x2 last k j _; rw [vrowGo, coverAt_selRuns_cons]; rfl
  | cons c rest ih =>
    intro x1 x2 last k j h12
    simp only [vrowGo, colAt]
    split
    · -- the same colour: the pending run grows by the column `x2`
      next hlc =>
      rw [ih x1 (x2 + 1) c k j (by omega), hlc, ind_succ x1 x2 j h12]
      by_cases hk : key c = k <;> simp [hk]; omega
    · -- another colour: the pending run is yielded and a new one starts at `x2`
      next hlc =>
      rw [coverAt_selRuns_cons, ih x2 (x2 + 1) c k j (by omega), ind_single]
      by_cases hk : key c = k <;> simp [hk]

theorem colAt_outside (cols : List α) : ∀ x k j, j < x ∨ x + cols.length ≤ j → colAt key x cols k j = 0 := by
  induction cols with
  | nil => intros; rfl
  | cons c rest ih =>
    intro x k j h
    simp only [List.length_cons] at h
    have h1 : ¬ (j = x ∧ key c = k) := by omega
    simp [colAt, h1, ih (x + 1) k j (by omega)]

theorem colAt_inside (cols : List α) : ∀ x k j (h1 : x ≤ j) (h2 : j - x < cols.length),
    colAt key x cols k j = if key (cols[j - x]) = k then 1 else 0 := by
  induction cols with
  | nil => intro x k j _ h2; simp at h2
  | cons c rest ih =>
    intro x k j h1 h2
    by_cases hj : j = x
    · subst hj
      simp [colAt, colAt_outside key rest (j + 1) k j (.inl (by omega))]
    · have hne : ¬ (j = x ∧ key c = k) := fun h => hj h.1
      simp only [List.length_cons] at h2
      have h3 : j - (x + 1) < rest.length := by omega
      simp only [colAt, hne, if_false, Nat.zero_add]
      rw [ih (x + 1) k j (by omega) h3]
      have e : j - x = (j - (x + 1)) + 1 := by omega
      simp [e]

theorem vrowRuns_cover (row : List α) (rs : List (α × Nat × Nat)) (h : vrowRuns key row = some rs) (k : κ) (j : Nat) :
    coverAt (selRuns key k rs) j = colAt key 0 row k j := by
  cases row with
  | nil => simp [vrowRuns] at h
  | cons c rest =>
    simp only [vrowRuns, Option.some.injEq] at h
    subst h
    rw [vrowGo_cover key rest 0 1 c k j (by omega), ind_single, colAt, Nat.zero_add]
    by_cases hk : key c = k <;> simp [hk]

/-- the runs of colour key `k` among the lines at doubled height `y2` -/
def segsAt (k : κ) (y2 : Int) (lines : List (α × Int × Int × Int)) : List (Nat × Nat) :=
  (lines.filter (fun l => key l.1 = k ∧ l.2.2.1 = y2)).map (fun l => (l.2.1.toNat, l.2.2.2.toNat))

theorem segsAt_append (k : κ) (y2 : Int) (a b : List (α × Int × Int × Int)) :
    segsAt key k y2 (a ++ b) = segsAt key k y2 a ++ segsAt key k y2 b := by
  simp [segsAt, List.filter_append]

theorem segsAt_nil_of (k : κ) (y2 : Int) (a : List (α × Int × Int × Int)) (h : ∀ l ∈ a, l.2.2.1 ≠ y2) :
    segsAt key k y2 a = [] := by
  unfold segsAt
  rw [List.map_eq_nil_iff, List.filter_eq_nil_iff]
  intro l hl
  have := h l hl
  simp [this]

theorem segsAt_row (k : κ) (y2 : Int) (rs : List (α × Nat × Nat)) :
    segsAt key k y2 (rs.map (fun r => (r.1, (r.2.1 : Int), y2, (r.2.2 : Int)))) = selRuns key k rs := by
  simp [segsAt, selRuns, List.filter_map, Function.comp_def]

theorem vlinesGo_cons {j2 : Int} {row : List α} {rest : List (List α)} {lines : List (α × Int × Int × Int)}
    (h : vlinesGo key j2 (row :: rest) = some lines) :
    ∃ rs more, vrowRuns key row = some rs ∧ vlinesGo key (j2 + 2) rest = some more
      ∧ lines = rs.map (fun r => (r.1, (r.2.1 : Int), j2 + 2, (r.2.2 : Int))) ++ more := by
  simp only [vlinesGo] at h
  split at h
  · next rs more hr hm => exact ⟨rs, more, hr, hm, (Option.some.inj h).symm⟩
  · cases h

theorem vlinesGo_heights (rows : List (List α)) : ∀ (j2 : Int) (lines : List (α × Int × Int × Int)),
    vlinesGo key j2 rows = some lines → ∀ l ∈ lines, ∃ i : Nat, i < rows.length ∧ l.2.2.1 = j2 + 2 * ((i : Int) + 1) := by
  induction rows with
  | nil => intro j2 lines h l hl; simp [vlinesGo] at h; subst h; simp at hl
  | cons row rest ih =>
    intro j2 lines h l hl
    obtain ⟨rs, more, _, hm, rfl⟩ := vlinesGo_cons key h
    rcases List.mem_append.1 hl with hl | hl
    · obtain ⟨r, _, rfl⟩ := List.mem_map.1 hl
      exact ⟨0, by simp, by simp⟩
    · obtain ⟨i, hi, e⟩ := ih (j2 + 2) more hm l hl
      exact ⟨i + 1, by simpa using hi, by rw [e]; push_cast; omega⟩

theorem vlinesGo_below (rows : List (List α)) (j2 : Int) (lines : List (α × Int × Int × Int))
    (h : vlinesGo key j2 rows = some lines) : ∀ l ∈ lines, j2 < l.2.2.1 := by
  intro l hl
  obtain ⟨i, _, e⟩ := vlinesGo_heights key rows j2 lines h l hl
  omega

theorem vlinesGo_rows (rows : List (List α)) : ∀ (j2 : Int) (lines : List (α × Int × Int × Int)),
    vlinesGo key j2 rows = some lines → ∀ (i : Nat) (hi : i < rows.length),
      ∃ rs, vrowRuns key (rows[i]) = some rs ∧ ∀ k, segsAt key k (j2 + 2 * ((i : Int) + 1)) lines = selRuns key k rs := by
  induction rows with
  | nil => intro j2 lines _ i hi; simp at hi
  | cons row rest ih =>
    intro j2 lines h i hi
    obtain ⟨rs, more, hr, hm, rfl⟩ := vlinesGo_cons key h
    cases i with
    | zero =>
      refine ⟨rs, by simpa using hr, fun k => ?_⟩
      have e : j2 + 2 * (((0 : Nat) : Int) + 1) = j2 + 2 := by omega
      rw [segsAt_append, e, segsAt_row, segsAt_nil_of key k (j2 + 2) more, List.append_nil]
      intro l hl
      have := vlinesGo_below key rest (j2 + 2) more hm l hl
      omega
    | succ n =>
      obtain ⟨rs', hrs', hseg⟩ := ih (j2 + 2) more hm n (by simpa using hi)
      refine ⟨rs', by simpa using hrs', fun k => ?_⟩
      have e : j2 + 2 * (((n + 1 : Nat) : Int) + 1) = j2 + 2 + 2 * ((n : Int) + 1) := by omega
      rw [segsAt_append, e, hseg k, segsAt_nil_of, List.nil_append]
      intro l hl
      obtain ⟨r, _, rfl⟩ := List.mem_map.1 hl
      simp; omega

/-- the lines `(x1, 2·y, x2)` of colour key `k`, in order -/
def sel (k : κ) (lines : List (α × Int × Int × Int)) : List (Int × Int × Int) := (lines.filter (fun l => key l.1 = k)).map (·.2)

/-- the pen after drawing the relative triples -/
def penEnd : Int → Int → List (Int × Int × Int) → Int × Int
  | px, py, [] => (px, py)
  | px, py, (dx, dy, len) :: rest => penEnd (px + dx + len) (py + dy) rest

theorem svgAbs_snoc (a : List (Int × Int × Int)) : ∀ (px py : Int) (t : Int × Int × Int),
    svgAbs px py (a ++ [t]) = svgAbs px py a
      ++ [((penEnd px py a).1 + t.1, (penEnd px py a).2 + t.2.1, (penEnd px py a).1 + t.1 + t.2.2)] := by
  induction a with
  | nil => intro px py t; obtain ⟨dx, dy, len⟩ := t; simp [svgAbs, penEnd]
  | cons r rest ih =>
    intro px py t
    obtain ⟨dx, dy, len⟩ := r
    simp only [List.cons_append, svgAbs, penEnd]
    rw [ih]

theorem penEnd_snoc (a : List (Int × Int × Int)) : ∀ (px py : Int) (t : Int × Int × Int),
    penEnd px py (a ++ [t]) = ((penEnd px py a).1 + t.1 + t.2.2, (penEnd px py a).2 + t.2.1) := by
  induction a with
  | nil => intro px py t; obtain ⟨dx, dy, len⟩ := t; simp [penEnd]
  | cons r rest ih =>
    intro px py t
    obtain ⟨dx, dy, len⟩ := r
    simp only [List.cons_append, penEnd]
    rw [ih]

/-- the invariant of the loop after the lines `pre`: distinct keys; every entry's triples absolutise (`svgAbs`,
    pen at the origin) to the lines of its colour key in order and its pen is where they end; every colour seen has an entry -/
def Inv (d : List (Entry α)) (pre : List (α × Int × Int × Int)) : Prop :=
  (d.map (fun e => key e.obj)).Nodup
  ∧ (∀ e ∈ d, svgAbs 0 0 e.coords = sel key (key e.obj) pre ∧ (e.px, e.py2) = penEnd 0 0 e.coords)
  ∧ (∀ l ∈ pre, ∃ e ∈ d, key e.obj = key l.1)

theorem inv_nil : Inv key ([] : List (Entry α)) [] := by
  refine ⟨by simp, ?_, ?_⟩ <;> intro _ h <;> simp at h

theorem sel_snoc (k : κ) (pre : List (α × Int × Int × Int)) (l : α × Int × Int × Int) :
    sel key k (pre ++ [l]) = sel key k pre ++ (if key l.1 = k then [l.2] else []) := by
  by_cases h : key l.1 = k <;> simp [sel, List.filter_append, h]

theorem inv_step (d : List (Entry α)) (pre : List (α × Int × Int × Int)) (l : α × Int × Int × Int) (h : Inv key d pre) :
    Inv key (accumStep key d l) (pre ++ [l]) := by
  obtain ⟨hnd, hent, hall⟩ := h
  obtain ⟨c, x1, y2, x2⟩ := l
  -- an entry of another colour is not touched and stays right
  have other : ∀ e ∈ d, key e.obj ≠ key c →
      svgAbs 0 0 e.coords = sel key (key e.obj) (pre ++ [(c, x1, y2, x2)]) ∧ (e.px, e.py2) = penEnd 0 0 e.coords := by
    intro e he hk
    rw [sel_snoc, if_neg (fun h => hk h.symm), List.append_nil]
    exact hent e he
  unfold accumStep
  by_cases hany : (d.any (fun e => decide (key e.obj = key c))) = true
  · -- the colour has an entry: it is extended by the move from its pen, the others stay
    rw [if_pos hany]
    have hkey : ∀ e : Entry α, key (if key e.obj = key c then
        ({ e with px := x2, py2 := y2, coords := e.coords ++ [(x1 - e.px, y2 - e.py2, x2 - x1)] } : Entry α) else e).obj = key e.obj := by
      intro e; split <;> rfl
    refine ⟨?_, ?_, ?_⟩
    · rw [List.map_map]
      exact (List.map_congr_left (fun e _ => hkey e)) ▸ hnd
    · intro e' he'
      obtain ⟨e, he, rfl⟩ := List.mem_map.1 he'
      by_cases hk : key e.obj = key c
      · obtain ⟨habs, hpen⟩ := hent e he
        have hpx : (penEnd 0 0 e.coords).1 = e.px := by rw [← hpen]
        have hpy : (penEnd 0 0 e.coords).2 = e.py2 := by rw [← hpen]
        simp only [hk, if_true]
        rw [svgAbs_snoc, penEnd_snoc, sel_snoc, if_pos rfl, ← hk, ← habs, hpx, hpy]
        simp only [List.append_cancel_left_eq, List.cons.injEq, Prod.mk.injEq, and_true]
        omega
      · simp only [hk, if_false]
        exact other e he hk
    · intro l hl
      obtain ⟨e, he, hek⟩ : ∃ e ∈ d, key e.obj = key l.1 := by
        rcases List.mem_append.1 hl with hl | hl
        · exact hall l hl
        · obtain ⟨e, he, hek⟩ := List.any_eq_true.1 hany
          exact ⟨e, he, by simpa [List.mem_singleton.1 hl] using hek⟩
      exact ⟨_, List.mem_map_of_mem he, (hkey e).trans hek⟩
  · -- a new colour: a new entry at the end, whose first move starts at the origin
    rw [if_neg hany]
    have hnone : ∀ e ∈ d, key e.obj ≠ key c := fun e he hk => hany (List.any_eq_true.2 ⟨e, he, by simpa using hk⟩)
    have hselnil : sel key (key c) pre = [] := by
      unfold sel
      rw [List.map_eq_nil_iff, List.filter_eq_nil_iff]
      intro l hl hk
      obtain ⟨e, he, hek⟩ := hall l hl
      exact hnone e he (hek.trans (by simpa using hk))
    refine ⟨?_, ?_, ?_⟩
    · rw [List.map_append, List.nodup_append]
      refine ⟨hnd, by simp, ?_⟩
      intro a ha b hb
      obtain ⟨e, he, rfl⟩ := List.mem_map.1 ha
      simp only [List.map_cons, List.map_nil, List.mem_singleton] at hb
      exact hb ▸ hnone e he
    · intro e he
      rcases List.mem_append.1 he with he | he
      · exact other e he (hnone e he)
      · rw [List.mem_singleton.1 he, sel_snoc, hselnil]
        simp [svgAbs, penEnd]
        omega
    · intro l hl
      rcases List.mem_append.1 hl with hl | hl
      · obtain ⟨e, he, hek⟩ := hall l hl
        exact ⟨e, List.mem_append_left _ he, hek⟩
      · exact ⟨_, List.mem_append_right _ (List.mem_singleton.2 rfl), by rw [List.mem_singleton.1 hl]⟩

theorem inv_foldl (rest : List (α × Int × Int × Int)) : ∀ (d : List (Entry α)) (pre : List (α × Int × Int × Int)),
    Inv key d pre → Inv key (rest.foldl (accumStep key) d) (pre ++ rest) := by
  induction rest with
  | nil => intro d pre h; simpa using h
  | cons l rest ih =>
    intro d pre h
    have := ih (accumStep key d l) (pre ++ [l]) (inv_step key d pre l h)
    simpa [List.foldl_cons, List.append_assoc] using this

theorem inv_accumulate (lines : List (α × Int × Int × Int)) : Inv key (accumulate key lines) lines := by
  have := inv_foldl key lines [] [] (inv_nil key)
  simpa [accumulate] using this

/-- the segments `(x1, x2)` of absolute lines that lie on grid row `i` (centre line y = i + ½) -/
def rowSegs (abs : List (Int × Int × Int)) (i : Nat) : List (Nat × Nat) :=
  (abs.filter (fun t => t.2.1 = 2 * (i : Int) + 1)).map (fun t => (t.1.toNat, t.2.2.toNat))

theorem rowSegs_sel (k : κ) (lines : List (α × Int × Int × Int)) (i : Nat) :
    rowSegs (sel key k lines) i = segsAt key k (2 * (i : Int) + 1) lines := by
  unfold rowSegs sel segsAt
  rw [List.filter_map, List.map_map, List.filter_filter]
  congr 1
  apply List.filter_congr
  intro l _
  simp [Function.comp, Bool.and_comm]

end generic

theorem distinct_one {α κ : Type} [DecidableEq κ] (key : α → κ) (l : List α) (h : distinctCount key l = 1) (x y : α) (hx : x ∈ l) (hy : y ∈ l) :
    key x = key y :=
  Proofs.Png.eraseDups_singleton_all_eq (l.map key) h _ _ (List.mem_map_of_mem hx) (List.mem_map_of_mem hy)

theorem mapM_grid_ok {ε β γ : Type} (f : β → Except ε γ) (cell : Nat → Nat → β) (H W : Nat) (crows : List (List γ))
    (hc : ((List.range H).map (fun y => (List.range W).map (fun x => cell y x))).mapM (fun row => row.mapM f) = .ok crows) :
    crows.length = H ∧ ∀ (i : Nat) (hi : i < crows.length), (crows[i]).length = W
      ∧ ∀ (j : Nat) (hj : j < (crows[i]).length), f (cell i j) = .ok ((crows[i])[j]) := by
  obtain ⟨hlen, hel⟩ := Proofs.Except.mapM_ok _ _ _ hc
  rw [List.length_map, List.length_range] at hlen
  refine ⟨hlen, fun i hi => ?_⟩
  have h1 := hel i (by simpa using hlen ▸ hi) hi
  rw [List.getElem_map, List.getElem_range] at h1
  obtain ⟨hl2, hel2⟩ := Proofs.Except.mapM_ok _ _ _ h1
  rw [List.length_map, List.length_range] at hl2
  refine ⟨hl2, fun j hj => ?_⟩
  have h2 := hel2 j (by simpa using hl2 ▸ hj) hj
  rwa [List.getElem_map, List.getElem_range] at h2

end Proofs.SvgColorful
