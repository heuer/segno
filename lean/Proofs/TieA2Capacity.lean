/-
  Proofs.TieA2Capacity — `consts.SYMBOL_CAPACITY[version][error]` as the translated code reads it (nested dicts in
  iteration order, `Py.lookup` twice) against `Model.capacity` (flat sorted table of `Gen.Tables`), for EVERY version
  number and every error level (or `None`), inside and outside the tables.
-/
import Proofs.TieA2
import Model.Encoder

namespace Proofs.TieA2
open Gen.Py Proofs.TieA

/-- `SYMBOL_CAPACITY[v][e]` of the translated code -/
def capLookup (v : Int) (e : Option Int) : M Int :=
  Gen.Py.bind (lookup Gen.Funcs2.T_consts_SYMBOL_CAPACITY v) (fun d => lookup d e)

theorem cap_same : sameTable Gen.Funcs2.T_consts_SYMBOL_CAPACITY Gen.SYMBOL_CAPACITY id unKey Int.ofNat = true := by decide +kernel

theorem capacity_lookup (v : Int) (e : Option Nat) :
    capLookup v (e.map Int.ofNat) = ofOption .keyError ((Model.capacity v e).map Int.ofNat) :=
  version_level_of_sameTable cap_same v e

end Proofs.TieA2
