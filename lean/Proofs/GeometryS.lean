/-
  Proofs.GeometryS — kernel-checked strip facts for all 44 versions:
  the strip columns of `add_codewords` are those of the reference reader, strip k runs upwards iff k
  is even, and the strips cover every column except the vertical timing column.
  Declares in `Proofs.Placement2`, beside `stripsOK`.
-/
import Proofs.Placement2

namespace Proofs.Placement2

theorem strips_all : allVersions.all stripsOK = true := by decide +kernel

theorem strips_ok (v : Int) (h1 : -3 ≤ v) (h2 : v ≤ 40) : orderOK v = true ∧ colsOK v = true := by
  have := List.all_eq_true.mp strips_all v (mem_allVersions v h1 h2)
  unfold stripsOK at this
  simpa using this

end Proofs.Placement2
