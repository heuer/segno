/-
  Proofs.Sequence — `encode_sequence` (Model/Sequence.lean) read backwards.  `divide_into_chunks` cuts
  at the boundaries `chunkStart`, which start at 0, never decrease and end at the whole characters of the
  data; one-segment symbols of one mode grow with their chunk, so the longest chunk decides the version;
  and a successful `planSequence` / `encodeSequenceAux` went through the stages listed in
  `planSequence_ok` / `encodeSequenceAux_ok` (as records with named fields: `Plan`, `SaRun` for the Structured Append
  branch).  In front: the bit length of no and of one segment (`bitLength_nil`, `_single`), and `fit_final`: segments
  that fit still fit at the level of the symbol `_encode` returned (`boost_error`).  (`_encode` itself:
  Proofs/EncodeCore.lean.)
-/
import Proofs.EncodeCore
import Proofs.EndToEndSeg
import Proofs.Sizing

namespace Proofs.Sequence
open Model Proofs.Except
open Proofs.Modes (makeSegment_mode)

theorem fit_final (segs : List Segment) (error : Option Nat) (v : Int) (mask : Option Nat) (eci boost : Bool)
    (f : String → Option Nat) (sa : Nat × Nat × Nat) (c : Code) (hfit : Proofs.EncodeStages.FitsAt segs v eci true error)
    (h : encodeCore segs error v mask eci boost f (some sa) = .ok c) :
    Proofs.EncodeStages.FitsAt segs v eci true c.error :=
  Proofs.Sizing.boost_step_fits v _ c.error segs eci true boost (encodeCore_ok _ _ _ _ _ _ _ _ _ h).2.2.1 hfit

theorem makeSegment_bits (data : List Nat) (m : Nat) (enc : String) (s : Segment) (hm : m ∈ [1, 2, 4, 8, 13])
    (h : makeSegment data (some m) enc = .ok s) :
    s.bits.length = Spec.payloadBits m (Spec.charCount m data.length) := by
  have hwf := Proofs.Sizing.makeSegment_wf data (some m) enc s (List.mem_cons_of_mem _ (List.mem_map_of_mem hm)) h
  rw [hwf.2, Proofs.Modes.makeSegment_charCount _ _ _ _ h, makeSegment_mode _ _ _ _ h]

theorem bitLength_nil (v : Int) (eci isSa : Bool) : bitLengthWithOverhead [] v eci isSa = some (if isSa then 20 else 0) := by
  cases isSa <;> simp [bitLengthWithOverhead, sumNat, pure, bind]

theorem bitLength_single (s : Segment) (v : Int) (eci isSa : Bool) :
    bitLengthWithOverhead [s] v eci isSa =
      (cciLen s.mode (if v > 0 then Gen.version_range v else v)).map
        (fun cl => cl + Proofs.Sizing.segShare v eci s + (if isSa then 20 else 0)) := by
  rw [Proofs.Sizing.bitLength_cons, bitLength_nil]
  cases cciLen s.mode (if v > 0 then Gen.version_range v else v) <;> rfl

theorem cci_table_modes : Gen.CHAR_COUNT_INDICATOR_LENGTH.all (fun x => [1, 2, 4, 8, 13].contains x.1) = true := by
  decide +kernel

theorem cciLen_mode (mode : Nat) (vr : Int) (cl : Nat) (h : cciLen mode vr = some cl) : mode ∈ [1, 2, 4, 8, 13] := by
  have hm := List.all_eq_true.mp cci_table_modes _ (Proofs.Stream.find_key_mem _ mode vr cl h)
  simpa using hm

theorem bitLength_single_mode (s : Segment) (v : Int) (eci isSa : Bool) (bl : Nat)
    (h : bitLengthWithOverhead [s] v eci isSa = some bl) : s.mode ∈ [1, 2, 4, 8, 13] := by
  rw [bitLength_single] at h
  cases hc : cciLen s.mode (if v > 0 then Gen.version_range v else v) with
  | none => rw [hc] at h; cases h
  | some cl => exact cciLen_mode _ _ _ hc

theorem map_ok {ε α β : Type} {x : Except ε α} {f : α → β} {b : β} :
    (f <$> x) = .ok b ↔ ∃ a, x = .ok a ∧ f a = b :=
  Proofs.Except.map_ok

theorem flatten_slices {α : Type} (d : List α) (f : Nat → Nat) (h0 : f 0 = 0) (hmono : ∀ i, f i ≤ f (i + 1)) (n : Nat) :
    ((List.range n).map (fun i => (d.drop (f i)).take (f (i + 1) - f i))).flatten = d.take (f n) := by
  induction n with
  | zero => simp [h0]
  | succ n ih =>
    rw [List.range_succ, List.map_append, List.flatten_append, ih]
    simp only [List.map_cons, List.map_nil, List.flatten_cons, List.flatten_nil, List.append_nil]
    have : f (n + 1) = f n + (f (n + 1) - f n) := by have := hmono n; omega
    conv => rhs; rw [this, List.take_add]

theorem chunkStart_zero (k m cs : Nat) : chunkStart k m cs 0 = 0 := by simp [chunkStart]

theorem chunkStart_step (k m cs i : Nat) :
    chunkStart k m cs (i + 1) = chunkStart k m cs i + (k + (if i < m then 1 else 0)) * cs := by
  unfold chunkStart
  rw [← Nat.add_mul]
  congr 1
  have hmin : min (i + 1) m = min i m + (if i < m then 1 else 0) := by
    by_cases h : i < m
    · simp [h]; omega
    · simp [h]; omega
  rw [hmin, Nat.add_mul i 1 k]
  omega

theorem chunkStart_mono (k m cs i : Nat) : chunkStart k m cs i ≤ chunkStart k m cs (i + 1) := by
  rw [chunkStart_step]; omega

theorem chunkStart_last (n num cs : Nat) (hnum : 0 < num) :
    chunkStart (n / num) (n % num) cs num = n * cs := by
  unfold chunkStart
  have hm : n % num < num := Nat.mod_lt _ hnum
  have : min num (n % num) = n % num := by omega
  rw [this]
  congr 1
  exact Nat.div_add_mod n num

theorem chunkStart_le_last (k m cs num i : Nat) (hi : i ≤ num) : chunkStart k m cs i ≤ chunkStart k m cs num := by
  induction hi with
  | refl => exact Nat.le_refl _
  | step _ ih => exact Nat.le_trans ih (chunkStart_mono _ _ _ _)

theorem divideIntoChunks_length (d : List Nat) (num cs : Nat) : (divideIntoChunks d num cs).length = num := by
  simp [divideIntoChunks]

theorem divideIntoChunks_flatten (d : List Nat) (num cs : Nat) (hnum : 0 < num) :
    (divideIntoChunks d num cs).flatten = d.take (d.length / cs * cs) := by
  unfold divideIntoChunks
  simp only []
  rw [flatten_slices d (chunkStart (d.length / cs / num) (d.length / cs % num) cs) (chunkStart_zero _ _ _)
      (chunkStart_mono _ _ _), chunkStart_last _ _ _ hnum]

theorem divideIntoChunks_getElem_length (d : List Nat) (num cs : Nat) (hnum : 0 < num) (i : Nat)
    (hi : i < (divideIntoChunks d num cs).length) :
    ((divideIntoChunks d num cs)[i]).length
      = (d.length / cs / num + (if i < d.length / cs % num then 1 else 0)) * cs := by
  have hin : i < num := by simpa [divideIntoChunks] using hi
  have hget : (divideIntoChunks d num cs)[i]
      = (d.drop (chunkStart (d.length / cs / num) (d.length / cs % num) cs i)).take
          (chunkStart (d.length / cs / num) (d.length / cs % num) cs (i + 1)
            - chunkStart (d.length / cs / num) (d.length / cs % num) cs i) := by
    simp [divideIntoChunks]
  rw [hget]
  simp only [List.length_take, List.length_drop]
  have h1 : chunkStart (d.length / cs / num) (d.length / cs % num) cs (i + 1) ≤ d.length := by
    have := chunkStart_le_last (d.length / cs / num) (d.length / cs % num) cs num (i + 1) (by omega)
    rw [chunkStart_last _ _ _ hnum] at this
    exact Nat.le_trans this (Nat.div_mul_le_self _ _)
  rw [chunkStart_step] at h1 ⊢
  omega

theorem payloadBits_charCount_mono (m a b : Nat) (h : a ≤ b) :
    Spec.payloadBits m (Spec.charCount m a) ≤ Spec.payloadBits m (Spec.charCount m b) := by
  refine Proofs.Roundtrip.payloadBits_mono _ _ _ ?_
  unfold Spec.charCount
  split
  · exact Nat.div_le_div_right h
  · exact h

theorem foldl_longest_ge (l : List (List Nat)) (best : List Nat) :
    best.length ≤ (l.foldl (fun best x => if x.length > best.length then x else best) best).length
    ∧ ∀ c ∈ l, c.length ≤ (l.foldl (fun best x => if x.length > best.length then x else best) best).length := by
  induction l generalizing best with
  | nil => simp
  | cons x xs ih =>
    simp only [List.foldl_cons]
    obtain ⟨h1, h2⟩ := ih (if x.length > best.length then x else best)
    have hstep : best.length ≤ (if x.length > best.length then x else best).length
        ∧ x.length ≤ (if x.length > best.length then x else best).length := by
      split <;> omega
    refine ⟨Nat.le_trans hstep.1 h1, fun c hc => ?_⟩
    rcases List.mem_cons.1 hc with rfl | hc
    · exact Nat.le_trans hstep.2 h1
    · exact h2 c hc

theorem longest_ge (cs : List (List Nat)) : ∀ c ∈ cs, c.length ≤ (longest cs).length := by
  cases cs with
  | nil => simp
  | cons c0 t =>
    intro c hc
    rcases List.mem_cons.1 hc with rfl | hc
    · exact (foldl_longest_ge t c).1
    · exact (foldl_longest_ge t c0).2 c hc

theorem oneItemSegments_ok (chunk : List Nat) (mode : Nat) (enc : String) (segs : List Segment)
    (h : oneItemSegments chunk mode enc = .ok segs) :
    ∃ s, segs = [s]
      ∧ makeSegment chunk (some mode) (if mode == Gen.MODE_HANZI then Gen.HANZI_ENCODING else enc) = .ok s := by
  unfold oneItemSegments at h
  obtain ⟨s, hs, hp⟩ := bind_ok.1 h
  rw [pure_eq_ok] at hp
  exact ⟨s, by rw [← hp]; simp [addSegment], hs⟩

theorem oneItem_bitLength_mono (a b : List Nat) (mode : Nat) (enc : String) (v : Int) (eci isSa : Bool)
    (segsA segsB : List Segment) (blB : Nat) (hab : a.length ≤ b.length)
    (ha : oneItemSegments a mode enc = .ok segsA) (hb : oneItemSegments b mode enc = .ok segsB)
    (hbl : bitLengthWithOverhead segsB v eci isSa = some blB) :
    ∃ blA, bitLengthWithOverhead segsA v eci isSa = some blA ∧ blA ≤ blB := by
  obtain ⟨sA, rfl, hmkA⟩ := oneItemSegments_ok _ _ _ _ ha
  obtain ⟨sB, rfl, hmkB⟩ := oneItemSegments_ok _ _ _ _ hb
  rw [bitLength_single, makeSegment_mode _ _ _ _ hmkB] at hbl
  rw [bitLength_single, makeSegment_mode _ _ _ _ hmkA]
  cases hcl : cciLen mode (if v > 0 then Gen.version_range v else v) with
  | none => rw [hcl] at hbl; cases hbl
  | some cl =>
    rw [hcl, Option.map_some, Option.some.injEq] at hbl
    rw [Option.map_some]
    have hm5 := cciLen_mode _ _ _ hcl
    have hmono : sA.bits.length ≤ sB.bits.length := by
      rw [makeSegment_bits _ _ _ _ hm5 hmkA, makeSegment_bits _ _ _ _ hm5 hmkB]
      exact payloadBits_charCount_mono _ _ _ hab
    -- same mode, same encoding, same version: the two segments differ in the payload only
    have hK : Proofs.Sizing.segShare v eci sA + sB.bits.length = Proofs.Sizing.segShare v eci sB + sA.bits.length := by
      unfold Proofs.Sizing.segShare Proofs.Sizing.info
      rw [Proofs.EndToEnd.makeSegment_enc _ _ _ _ hmkA, Proofs.EndToEnd.makeSegment_enc _ _ _ _ hmkB,
        makeSegment_mode _ _ _ _ hmkA, makeSegment_mode _ _ _ _ hmkB]
      dsimp only
      omega
    exact ⟨_, rfl, by omega⟩

theorem ceilDiv_pos (a b : Nat) (ha : 0 < a) (hb : 0 < b) : 0 < ceilDiv a b := by
  unfold ceilDiv
  exact Nat.div_pos (by omega) hb

theorem numberOfSymbols_pos (len cs : Nat) (v : Int) (error : Option Nat) (mode : Nat) (enc : String) (eci : Bool) (num : Nat)
    (h : numberOfSymbolsByVersion len cs v error mode enc eci = .ok num) : 0 < num := by
  unfold numberOfSymbolsByVersion at h
  dsimp only at h
  split at h
  case h_2 => cases h
  case h_1 bl hbl =>
  split at h
  case h_2 => cases h
  case h_1 cap hcap =>
  rw [pure_eq_ok] at h
  subst h
  have hc := capacity_pos hcap
  have hb : 0 < bl := by
    unfold calcQrcodeBitLength at hbl
    cases hcl : cciLen mode (Gen.version_range v) with
    | none => simp [hcl, bind, Option.bind] at hbl
    | some cl =>
      simp only [hcl, bind, Option.bind, pure, Option.some.injEq] at hbl
      rw [← hbl]
      split <;> split <;> omega
  exact ceilDiv_pos _ _ (by omega) hc

theorem foldl_xor_lt (n : Nat) (l : List Nat) (acc : Nat) (ha : acc < 2 ^ n) (hl : ∀ b ∈ l, b < 2 ^ n) :
    l.foldl (· ^^^ ·) acc < 2 ^ n := by
  induction l generalizing acc with
  | nil => exact ha
  | cons x xs ih =>
    exact ih _ (Nat.xor_lt_two_pow ha (hl x (by simp))) (fun b hb => hl b (by simp [hb]))

theorem xorBytes_lt (msg : List Nat) (h : ∀ b ∈ msg, b < 256) : xorBytes msg < 256 :=
  foldl_xor_lt 8 msg 0 (by omega) h

/-- bytes per character: `char_size = 2 if mode in (MODE_KANJI, MODE_HANZI) else 1` in `encode_sequence` -/
def csOf (mode : Nat) : Nat := if (mode == Gen.MODE_KANJI || mode == Gen.MODE_HANZI) = true then 2 else 1

theorem planSequence_eq (segs : List Segment) (msg : List Nat) (msgEnc : String) (error : Option Nat) (version : Option Int)
    (eci : Bool) (symbolCount : Option Nat) :
    planSequence segs msg msgEnc error version eci symbolCount =
      if segs.length > 1 then throw PyErr.valueError else
      match segs.head? with
      | none => throw PyErr.indexError
      | some s0 =>
        (match symbolCount with
          | some k => if msg.length / csOf s0.mode < k then throw PyErr.valueError else pure ()
          | none => pure ()) >>= fun _ =>
        (match version with
          | some v => numberOfSymbolsByVersion msg.length (csOf s0.mode) v error s0.mode msgEnc eci
          | none => pure (symbolCount.getD 16)) >>= fun num =>
        if num > 16 then throw PyErr.dataOverflow else
          (match symbolCount, version with
            | some _, _ =>
              oneItemSegments (longest (divideIntoChunks msg num (csOf s0.mode))) s0.mode msgEnc >>= fun segs' =>
                findVersion segs' error eci (some false) true
            | none, some v => pure v
            | none, none => throw PyErr.valueError) >>= fun v =>
          pure (s0.mode, divideIntoChunks msg num (csOf s0.mode), v, xorBytes msg) := by
  unfold planSequence csOf
  dsimp only
  by_cases hlen : segs.length > 1
  · rw [if_pos hlen, if_pos hlen]; rfl
  rw [if_neg hlen, if_neg hlen]
  cases segs.head? with
  | none => rfl
  | some s0 =>
  dsimp only
  generalize (if (s0.mode == Gen.MODE_KANJI || s0.mode == Gen.MODE_HANZI) = true then 2 else 1) = cs
  cases symbolCount with
  | none => cases version <;> rfl
  | some k =>
    dsimp only
    split
    · rfl
    -- the two sides differ by the associativity of `>>=` in the branch `num ≤ 16`
    · cases version <;> exact bind_congr fun num => ite_congr rfl (fun _ => rfl) (fun _ => (bind_assoc _ _ _).symm)

/-- what a successful `planSequence` settled: the mode of the first segment, the parity, the chunks (their number
    from the requested version or the requested count, at most 16) and the version (searched for the longest chunk
    when a count is requested, otherwise the requested one) -/
structure Plan (segs : List Segment) (msg : List Nat) (msgEnc : String) (error : Option Nat) (version : Option Int)
    (eci : Bool) (symbolCount : Option Nat) (mode : Nat) (chunks : List (List Nat)) (v : Int) (parity : Nat) : Prop where
  head : ∃ s0, segs.head? = some s0 ∧ mode = s0.mode
  parity_eq : parity = xorBytes msg
  le16 : chunks.length ≤ 16
  chunks_eq : chunks = divideIntoChunks msg chunks.length (csOf mode)
  byVersion : ∀ vv, version = some vv →
    numberOfSymbolsByVersion msg.length (csOf mode) vv error mode msgEnc eci = .ok chunks.length
  byCount : version = none → chunks.length = symbolCount.getD 16
  find : ∀ k, symbolCount = some k → ∃ segsL, oneItemSegments (longest chunks) mode msgEnc = .ok segsL
    ∧ findVersion segsL error eci (some false) true = .ok v
  requested : symbolCount = none → version = some v

theorem planSequence_ok {segs : List Segment} {msg : List Nat} {msgEnc : String} {error : Option Nat} {version : Option Int}
    {eci : Bool} {symbolCount : Option Nat} {mode : Nat} {chunks : List (List Nat)} {v : Int} {parity : Nat}
    (h : planSequence segs msg msgEnc error version eci symbolCount = .ok (mode, chunks, v, parity)) :
    Plan segs msg msgEnc error version eci symbolCount mode chunks v parity := by
  rw [planSequence_eq] at h
  split at h
  · cases h
  cases hs0 : segs.head? with
  | none => rw [hs0] at h; cases h
  | some s0 =>
  rw [hs0] at h
  dsimp only at h
  obtain ⟨-, -, h⟩ := bind_ok.1 h
  obtain ⟨num, hnum, h⟩ := bind_ok.1 h
  split at h
  · cases h
  · rename_i hle
    obtain ⟨v', hv', h⟩ := bind_ok.1 h
    rw [pure_eq_ok] at h
    simp only [Prod.mk.injEq] at h
    obtain ⟨rfl, rfl, rfl, rfl⟩ := h
    have hl := divideIntoChunks_length msg num (csOf s0.mode)
    refine ⟨⟨s0, hs0, rfl⟩, rfl, by omega, by rw [hl], ?_, ?_, ?_, ?_⟩
    · intro vv hvv; subst hvv; rw [hl]; simpa using hnum
    · intro hvn; subst hvn; rw [pure_eq_ok] at hnum; rw [hl]; exact hnum.symm
    · intro k hk'; subst hk'
      simp only at hv'
      exact bind_ok.1 hv'
    · intro hn; subst hn
      cases version with
      | none => cases hv'
      | some vv => simp only at hv'; rw [pure_eq_ok] at hv'; rw [hv']

/-- `encode_sequence` always works with a definite error level (default L) -/
theorem level_some (error : Option Nat) : ∃ e, (if error.isNone = true then some Gen.ERROR_LEVEL_L else error) = some e := by
  cases error <;> exact ⟨_, rfl⟩

theorem encodeSequenceAux_ok {parts : List Part} {msg : List Nat} {msgEnc : String} {error : Option Nat} {version : Option Int}
    {mask : Option Nat} {eci boost : Bool} {symbolCount : Option Int} {n : String → Option Nat} {isSa : Bool} {cs : List Code}
    (h : encodeSequenceAux parts msg msgEnc error version mask eci boost symbolCount n = .ok (isSa, cs)) :
    (∀ vv, version = some vv → 1 ≤ vv) ∧ (∀ k, symbolCount = some k → 1 ≤ k ∧ k ≤ 16)
    ∧ ∃ segs, prepareData parts = .ok segs ∧
      match isSa with
      | false => symbolCount = none ∧ ∃ g c,
          findVersion segs (if error.isNone then some Gen.ERROR_LEVEL_L else error) eci (some false) = .ok g
          ∧ g ≤ version.getD g
          ∧ encodeCore segs (if error.isNone then some Gen.ERROR_LEVEL_L else error) (version.getD g) mask eci boost n = .ok c
          ∧ cs = [c]
      | true => ∃ mode chunks v parity,
          planSequence segs msg msgEnc (if error.isNone then some Gen.ERROR_LEVEL_L else error) version eci
            (symbolCount.map Int.toNat) = .ok (mode, chunks, v, parity)
          ∧ cs.length = chunks.length
          ∧ ∀ (i : Nat) (h1 : i < chunks.length) (h2 : i < cs.length), ∃ segs',
              oneItemSegments chunks[i] mode msgEnc = .ok segs'
              ∧ encodeCore segs' (if error.isNone then some Gen.ERROR_LEVEL_L else error) v mask eci boost n
                  (some (i, chunks.length - 1, parity)) = .ok cs[i] := by
  unfold encodeSequenceAux at h
  -- the `do` block is elaborated with one join point for what follows each optional guard:
  -- `jpA ()` is the function after the guard on the version, `jpB ()` after the guard on the symbol
  -- count, `jpC ()` after the guard on the mask (from `prepareData` on); `jpD shortcut`, further
  -- down, is the final `match shortcut with …`
  extract_lets error' jpC jpB jpA at h
  have hA : jpA () = .ok (isSa, cs) ∧ (∀ vv, version = some vv → 1 ≤ vv) := by
    cases version with
    | some vv =>
      obtain ⟨hc, h⟩ := guard_ok h
      exact ⟨h, by intro v' hv'; cases hv'; omega⟩
    | none => exact ⟨(guard_ok h).2, by intro v' hv'; cases hv'⟩
  obtain ⟨hA, hv1⟩ := hA
  have hB : jpB () = .ok (isSa, cs) ∧ (∀ k, symbolCount = some k → 1 ≤ k ∧ k ≤ 16) := by
    cases symbolCount with
    | none => exact ⟨hA, (by intro k hk; cases hk)⟩
    | some k =>
      obtain ⟨hc, hA⟩ := guard_ok hA
      refine ⟨hA, ?_⟩
      intro k' hk'; cases hk'
      simp at hc
      omega
  obtain ⟨hB, hk⟩ := hB
  have hC : jpC () = .ok (isSa, cs) := by
    cases mask with
    | none => exact hB
    | some mk => exact (guard_ok hB).2
  refine ⟨hv1, hk, ?_⟩
  simp -zeta only [jpC] at hC
  obtain ⟨segs, hsegs, hC⟩ := bind_ok.1 hC
  refine ⟨segs, hsegs, ?_⟩
  extract_lets jpD at hC
  have hsome : ∀ vsc, jpD (some vsc) = .ok (isSa, cs) →
      isSa = false ∧ ∃ c, encodeCore segs error' vsc mask eci boost n = .ok c ∧ cs = [c] := by
    intro vsc hsc
    obtain ⟨c, hc, hp⟩ := bind_ok.1 hsc
    rw [pure_eq_ok, Prod.mk.injEq] at hp
    exact ⟨hp.1.symm, c, hc, hp.2.symm⟩
  have hnone : jpD none = .ok (isSa, cs) →
      isSa = true ∧ ∃ mode chunks v parity,
        planSequence segs msg msgEnc error' version eci (symbolCount.map Int.toNat) = .ok (mode, chunks, v, parity)
        ∧ cs.length = chunks.length
        ∧ ∀ (i : Nat) (h1 : i < chunks.length) (h2 : i < cs.length), ∃ segs',
            oneItemSegments chunks[i] mode msgEnc = .ok segs'
            ∧ encodeCore segs' error' v mask eci boost n (some (i, chunks.length - 1, parity)) = .ok cs[i] := by
    intro hsc
    obtain ⟨⟨mode, chunks, v, parity⟩, hplan, hp⟩ := bind_ok.1 hsc
    obtain ⟨cs', hcs', hp⟩ := bind_ok.1 hp
    rw [pure_eq_ok, Prod.mk.injEq] at hp
    obtain ⟨hsa, rfl⟩ := hp
    -- symbol i is made from the pair (chunk i, i)
    obtain ⟨hl, hi⟩ := mapM_ok _ _ _ hcs'
    rw [List.length_zipIdx] at hl
    refine ⟨hsa.symm, mode, chunks, v, parity, hplan, hl, fun i h1 h2 => ?_⟩
    have := hi i (by rw [List.length_zipIdx]; exact h1) h2
    rw [List.getElem_zipIdx, Nat.zero_add] at this
    exact bind_ok.1 this
  -- the single-symbol shortcut is taken only without a symbol count, when the content fits the version
  split at hC
  · rename_i hcount
    split at hC
    · rename_i g hg
      rw [pure_bind] at hC
      split at hC
      · rename_i hle
        obtain ⟨rfl, c, hc, hcs⟩ := hsome _ hC
        exact ⟨Option.isNone_iff_eq_none.1 hcount, g, c, hg, hle, hc, hcs⟩
      · obtain ⟨rfl, r⟩ := hnone hC; exact r
    · obtain ⟨rfl, r⟩ := hnone hC; exact r
    · cases hC
  · obtain ⟨rfl, r⟩ := hnone hC; exact r

/-- what `encodeSequenceAux` went through when it returned a Structured Append sequence `cs`: the prepared
    segments, the plan, and symbol `i` as `_encode`'s answer for chunk `i` under the header (i, last, parity) -/
structure SaRun (parts : List Part) (msg : List Nat) (msgEnc : String) (error : Option Nat) (version : Option Int)
    (mask : Option Nat) (eci boost : Bool) (symbolCount : Option Int) (n : String → Option Nat) (cs : List Code)
    (segs : List Segment) (mode : Nat) (chunks : List (List Nat)) (v : Int) (parity : Nat) : Prop where
  prep : prepareData parts = .ok segs
  plan : planSequence segs msg msgEnc (if error.isNone then some Gen.ERROR_LEVEL_L else error) version eci
    (symbolCount.map Int.toNat) = .ok (mode, chunks, v, parity)
  len : cs.length = chunks.length
  symbol : ∀ (i : Nat) (hi : i < cs.length), ∃ segs', oneItemSegments (chunks[i]'(len ▸ hi)) mode msgEnc = .ok segs'
    ∧ encodeCore segs' (if error.isNone then some Gen.ERROR_LEVEL_L else error) v mask eci boost n
        (some (i, cs.length - 1, parity)) = .ok cs[i]

theorem encodeSequenceAux_sa {parts : List Part} {msg : List Nat} {msgEnc : String} {error : Option Nat} {version : Option Int}
    {mask : Option Nat} {eci boost : Bool} {symbolCount : Option Int} {n : String → Option Nat} {cs : List Code}
    (h : encodeSequenceAux parts msg msgEnc error version mask eci boost symbolCount n = .ok (true, cs)) :
    ∃ segs mode chunks v parity, SaRun parts msg msgEnc error version mask eci boost symbolCount n cs segs mode chunks v parity := by
  obtain ⟨-, -, segs, hprep, mode, chunks, v, parity, hplan, hlen, hget⟩ := encodeSequenceAux_ok h
  refine ⟨segs, mode, chunks, v, parity, hprep, hplan, hlen, fun i hi => ?_⟩
  have h1 : i < chunks.length := hlen ▸ hi
  have := hget i h1 hi
  rwa [← hlen] at this

theorem encodeSequenceAux_count {parts : List Part} {msg : List Nat} {msgEnc : String} {error : Option Nat} {version : Option Int}
    {mask : Option Nat} {eci boost : Bool} {symbolCount : Option Int} {n : String → Option Nat} {isSa : Bool} {cs : List Code}
    (haux : encodeSequenceAux parts msg msgEnc error version mask eci boost symbolCount n = .ok (isSa, cs)) :
    1 ≤ cs.length ∧ cs.length ≤ 16
    ∧ (∀ k, symbolCount = some k → version = none → (cs.length : Int) = k)
    ∧ (∀ v, version = some v → symbolCount = none → ∀ c ∈ cs, c.version = v)
    ∧ (∀ c ∈ cs, 1 ≤ c.version ∧ c.version ≤ 40) := by
  obtain ⟨hv1, hk, segs, _, hcase⟩ := encodeSequenceAux_ok haux
  cases isSa
  · obtain ⟨hsn, g, c, hg, hle, hc, hcs⟩ := hcase
    subst hcs
    obtain ⟨hcv, _⟩ := encodeCore_ok _ _ _ _ _ _ _ _ _ hc
    have h1 : 1 ≤ version.getD g := by
      cases version with
      | none =>
        exact (Proofs.EncodeStages.findVersion_qr _ _ _ _ _ hg).1
      | some vv => exact hv1 vv rfl
    refine ⟨by simp, by simp, ?_, ?_, ?_⟩
    · intro k hk'; rw [hsn] at hk'; cases hk'
    · intro v hv _ c' hc'; rw [List.mem_singleton.1 hc', hcv, hv]; rfl
    · intro c' hc'; rw [List.mem_singleton.1 hc', hcv]
      exact ⟨h1, encodeCore_version_le _ _ _ _ _ _ _ _ _ hc⟩
  · obtain ⟨mode, chunks, v, parity, hplan, hlen, hget⟩ := hcase
    have pl := planSequence_ok hplan
    -- every symbol is `_encode`'s answer for version v, so v has a capacity entry
    have hver : ∀ c ∈ cs, c.version = v ∧ v ≤ 40 := by
      intro c hc
      obtain ⟨i, hi, rfl⟩ := List.getElem_of_mem hc
      obtain ⟨segs', _, henc⟩ := hget i (by omega) hi
      exact ⟨(encodeCore_ok _ _ _ _ _ _ _ _ _ henc).1, encodeCore_version_le _ _ _ _ _ _ _ _ _ henc⟩
    have hpos : 1 ≤ chunks.length := by
      cases version with
      | some vv => exact numberOfSymbols_pos _ _ _ _ _ _ _ _ (pl.byVersion vv rfl)
      | none =>
        rw [pl.byCount rfl]
        cases symbolCount with
        | none => simp
        | some k => have := hk k rfl; simp only [Option.map_some, Option.getD_some]; omega
    have hv : 1 ≤ v := by
      cases symbolCount with
      | some k =>
        obtain ⟨segsL, _, hf⟩ := pl.find k.toNat rfl
        exact (Proofs.EncodeStages.findVersion_qr _ _ _ _ _ hf).1
      | none => exact hv1 v (pl.requested rfl)
    refine ⟨by omega, by have := pl.le16; omega, ?_, ?_, ?_⟩
    · intro k hk' hvn
      subst hk' hvn
      rw [hlen, pl.byCount rfl]
      have := hk k rfl
      simp only [Option.map_some, Option.getD_some]
      omega
    · intro vv hvv hsn c hc
      subst hsn
      rw [(hver c hc).1]
      exact Option.some.inj ((pl.requested rfl).symm.trans hvv)
    · intro c hc
      obtain ⟨hcv, h40⟩ := hver c hc
      rw [hcv]
      exact ⟨hv, h40⟩

end Proofs.Sequence
