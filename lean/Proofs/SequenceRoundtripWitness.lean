/-
  Proofs.SequenceRoundtripWitness — kernel-evaluated witnesses for Props/C08Roundtrip.lean.
-/
import Spec.Decode
import Model.Sequence

namespace Proofs.SequenceRoundtrip
open Model

/-- the ten digits "1234567890" -/
def tenDigits : List Nat := [49, 50, 51, 52, 53, 54, 55, 56, 57, 48]

/-- the call took the Structured Append path and returned exactly one symbol -/
def oneSymbol (r : R (Bool × List Code)) : Bool :=
  match r with
  | .ok (true, cs) => cs.length == 1
  | _ => false

theorem of_oneSymbol {r : R (Bool × List Code)} (h : oneSymbol r = true) : ∃ c, r = .ok (true, [c]) := by
  unfold oneSymbol at h
  split at h
  · rename_i cs
    match cs, h with
    | [c], _ => exact ⟨c, rfl⟩
  · cases h

/-- `make_sequence('1234567890', version=1, symbol_count=3)` returns ONE symbol -/
theorem version_and_count_witness :
    oneSymbol (encodeSequenceAux [⟨tenDigits, none, "iso-8859-1"⟩] tenDigits "iso-8859-1" none (some 1) (some 0) false false
      (some 3) (fun _ => none)) = true := by decide +kernel

/-- kanji content 点 (93 5F) with message bytes 93 5F 93 (not the content) is accepted: one symbol -/
theorem foreign_message_witness :
    oneSymbol (encodeSequenceAux [⟨[0x93, 0x5f], none, "shift_jis"⟩] [0x93, 0x5f, 0x93] "shift_jis" none none (some 0) false false
      (some 1) (fun _ => none)) = true := by decide +kernel

/-- "123" in 2 symbols: accepted, two symbols, the second one decodes (valid blocks) to the header
    (1, 1, parity 48 = 49 ^ 50 ^ 51) and the digit 3 -/
def twoSymbolsCheck : Bool :=
  match encodeSequenceAux [⟨[49, 50, 51], none, "iso-8859-1"⟩] [49, 50, 51] "iso-8859-1" none none (some 0) false false
      (some 2) (fun _ => none) with
  | .ok (true, [_, c]) =>
    (match Spec.decode c.matrix with
     | .ok d => d.badBlocks == 0 && (match d.parsed with
       | .ok p => p.sa == some (1, 1, 48) && (p.segments.map (·.bytes)).flatten == [51]
       | .error _ => false)
     | .error _ => false)
  | _ => false

theorem two_symbols_witness : twoSymbolsCheck = true := by decide +kernel

end Proofs.SequenceRoundtrip
