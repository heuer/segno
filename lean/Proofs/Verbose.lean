/-
  Proofs.Verbose — what `get_bit` returns inside the symbol (`getBitInside_iso`): the decision chain
  (Proofs/IterShape.lean, all widths) joined with the alignment look-up (Proofs/Align.lean), and the
  value returned at each `return` as an ISO type code.
-/
import Proofs.IterShape
import Proofs.Align
import Proofs.Except
import Model.Iter
import Spec.Raster

namespace Proofs.Verbose

open Model Spec Proofs.IterShape Proofs.Align

theorem branchCode_typeCode (br : Branch) (a val : Nat) :
    branchCode br a val = typeCode (toKind br) (match br with | .alignment => a | _ => val) := by
  cases br <;> simp only [branchCode, pick, typeCode, toKind, bne_iff_ne, ne_eq, beq_iff_eq, ite_not] <;> rfl

theorem branchCode_eq (br : Branch) (a val : Nat) (ha : br = .alignment → a = val) :
    branchCode br a val = typeCode (toKind br) val := by
  rw [branchCode_typeCode]
  split
  · rw [ha rfl]
  · rfl

theorem alignmentMatrix_eq_ok (n : Nat) (A : List (List Nat)) :
    alignmentMatrix n = .ok A ↔ alignmentMatrix? n = some A := by
  unfold alignmentMatrix
  cases alignmentMatrix? n <;> simp [Proofs.Except.pure_eq_ok, Proofs.Except.throw_ne_ok]

/-- `matrix_iter_verbose` gets its alignment matrix for every version (no `IndexError`) -/
theorem alignmentMatrix_ok (v : Int) (hv1 : -3 ≤ v) (hv2 : v ≤ 40) : ∃ A, alignmentMatrix (size v) = .ok A :=
  have ⟨A, hA, _⟩ := alignmentMatrix?_alignCell v hv1 hv2
  ⟨A, (alignmentMatrix_eq_ok _ _).2 hA⟩

theorem alignCell_of_matrix (v : Int) (hv1 : -3 ≤ v) (hv2 : v ≤ 40) (A : List (List Nat))
    (hA : alignmentMatrix (size v) = .ok A) (i j : Nat) (hi : i < size v) (hj : j < size v) :
    AlignCell v i j ((A.getD i []).getD j 2) := by
  obtain ⟨A', hA', -, hcells⟩ := alignmentMatrix?_alignCell v hv1 hv2
  cases hA'.symm.trans ((alignmentMatrix_eq_ok _ _).1 hA)
  exact hcells i j hi hj

theorem verboseCell_eq_getBitInside (M A : List (List Nat)) (n b i j : Nat) (hi : i < n) (hj : j < n) :
    verboseCell M A n n b (i + b) (j + b)
      = getBitInside n n true (decide (n < 21)) ((A.getD i []).getD j 2) (cellL M i j) i j := by
  unfold verboseCell
  have h1 : b ≤ i + b ∧ i + b < b + n ∧ b ≤ j + b ∧ j + b < b + n := by omega
  simp only [h1, and_self, if_true, Nat.add_sub_cancel, beq_self_eq_true, Bool.true_and]
  rfl

/-- cell-level classification: inside the symbol the Python chain, with the alignment look-up `a`
    satisfying `AlignCell`, returns the ISO type code — except at the D8 coordinate (8, n−9) of QR Codes -/
theorem getBitInside_iso (v : Int) (hv1 : -3 ≤ v) (hv2 : v ≤ 40) (i j a val : Nat)
    (hi : i < size v) (hj : j < size v)
    (hcell : AlignCell v i j a) (hsym : a ≠ 2 → val = a)
    (hd8 : ¬ (1 ≤ v ∧ i = 8 ∧ j + 9 = size v)) :
    getBitInside (size v) (size v) true (decide (size v < 21)) a val i j = isoType v i j val := by
  unfold getBitInside isoType
  -- the codes agree once the branches do; the alignment branch is taken only where `a` is not 2
  have hcode (mi : Bool) : branchCode (getBitBranch (size v) (size v) true mi a i j) a val
      = typeCode (toKind (getBitBranch (size v) (size v) true mi a i j)) val :=
    branchCode_eq _ _ _ (fun hbr => (hsym ((branch_alignment_iff ..).1 hbr).2).symm)
  by_cases hm : v < 1
  · have hn := Size.size_micro v hv1 hm
    rw [decide_eq_true (by omega : size v < 21), kind_eq_kindMicro v hm, ← branch_micro (size v) (size v) true a i j]
    exact hcode true
  · have hv : 1 ≤ v := by omega
    have hn := Size.size_qr v hv
    rw [decide_eq_false (by omega : ¬ size v < 21), kind_eq_kindQR v hv, hcode]
    congr 1
    by_cases hal : inAlignment v.toNat (size v) i j = true
    · rw [(branch_alignment_iff ..).2 ⟨rfl, hcell.1.2 hal⟩, ← kind_eq_kindQR v hv, (hcell.2 hal).1]
      rfl
    · rw [hcell.eq_two (Bool.eq_false_iff.2 hal), Bool.eq_false_iff.2 hal]
      exact branch_qr v hv (size v) i j hn hi hj (fun h => hd8 ⟨hv, h.1, h.2⟩)

end Proofs.Verbose
