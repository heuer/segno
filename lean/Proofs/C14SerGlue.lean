/-
  `ErrIff r P`: the computation `r` returns a value or raises ValueError, and raises it exactly when `P`.  Every writer of the
  document models is a sequence of checks, colour parses and steps that cannot fail; the lemmas of the namespace `ErrIff` read
  the refusal condition off that sequence.  Then: the refusal conditions of `Proofs.C14Ser.Malformed` (on tagged Python values)
  are those of the typed document models on the values read from them.
-/
import Proofs.C14SerDefs
import Props.C09
import Proofs.Except

namespace Proofs.C14Ser
open Gen (PyV)
open Model Model.Routes Model.RoutesDocs Model.RoutesVec
open Proofs.Except (RaisesOnly)

/-- `r` ends in a value or in ValueError, in ValueError exactly when `P` -/
def ErrIff {α : Type} (r : R α) (P : Prop) : Prop := RaisesOnly (· = .valueError) r ∧ (r = .error .valueError ↔ P)

namespace ErrIff
variable {α β : Type} {r : R α} {P Q : Prop}

theorem of_cases (h1 : P → r = .error .valueError) (h2 : ¬ P → ∃ d, r = .ok d) : ErrIff r P := by
  by_cases hP : P
  · exact ⟨h1 hP ▸ .error rfl, fun _ => hP, h1⟩
  · obtain ⟨d, rfl⟩ := h2 hP
    exact ⟨.ok d, (fun h => nomatch h), fun h => absurd h hP⟩

theorem ok (x : α) : ErrIff (.ok x : R α) False := ⟨.ok x, (fun h => nomatch h), False.elim⟩

theorem refuse : ErrIff (.error .valueError : R α) True := ⟨.error rfl, fun _ => trivial, fun _ => rfl⟩

theorem congr (h : ErrIff r P) (hpq : P ↔ Q) : ErrIff r Q := ⟨h.1, h.2.trans hpq⟩

theorem value (h : ErrIff r P) (hn : ¬ P) : ∃ x, r = .ok x := h.1.ok_or_eq.resolve_right (fun e => hn (h.2.1 e))

theorem error (h : ErrIff r P) (hp : P) : r = .error .valueError := h.2.2 hp

theorem guard {c : Prop} [Decidable c] (h : ¬ c → ErrIff r P) : ErrIff (if c then .error .valueError else r) (c ∨ P) := by
  by_cases hc : c
  · rw [if_pos hc]; exact refuse.congr ⟨fun _ => Or.inl hc, fun _ => trivial⟩
  · rw [if_neg hc]; exact (h hc).congr ⟨Or.inr, fun hcp => hcp.resolve_left hc⟩

theorem guardNot {c : Prop} [Decidable c] (h : c → ErrIff r P) : ErrIff (if c then r else throw PyErr.valueError) (¬ c ∨ P) := by
  by_cases hc : c
  · rw [if_pos hc]; exact (h hc).congr ⟨Or.inr, fun hcp => hcp.resolve_left (fun hn => hn hc)⟩
  · rw [if_neg hc]; exact refuse.congr ⟨fun _ => Or.inl hc, fun _ => trivial⟩

theorem test {c : Prop} [Decidable c] (x : α) : ErrIff (if c then pure x else throw PyErr.valueError : R α) (¬ c) := by
  by_cases hc : c
  · rw [if_pos hc]; exact (ok x).congr (by simp [hc])
  · rw [if_neg hc]; exact refuse.congr (by simp [hc])

theorem transfer {r' : R β} (h : ErrIff r P) (hok : ∀ x, r = .ok x → ∃ y, r' = .ok y)
    (herr : r = .error .valueError → r' = .error .valueError) : ErrIff r' P := by
  rcases h.1.ok_or_eq with ⟨x, hx⟩ | he
  · obtain ⟨y, rfl⟩ := hok x hx
    exact (ok y).congr ⟨False.elim, fun hp => by rw [h.2.2 hp] at hx; cases hx⟩
  · rw [herr he]; exact refuse.congr ⟨fun _ => h.2.1 he, fun _ => trivial⟩

theorem bind {k : α → R β} (h : ErrIff r P) (hk : ∀ x, r = .ok x → ErrIff (k x) Q) : ErrIff (r >>= k) (P ∨ Q) := by
  rcases h.1.ok_or_eq with ⟨x, rfl⟩ | rfl
  · exact (hk x rfl).congr ⟨Or.inr, fun hpq => hpq.resolve_left (fun hp => by cases h.2.2 hp)⟩
  · exact refuse.congr ⟨fun _ => Or.inl (h.2.1 rfl), fun _ => trivial⟩

/-- a parse `p` that a test `c` lets pass, then the rest `k` of the writer (`A` = the rest after the default value), as `do` notation
    arranges `let x ← if c then pure a else p` -/
theorem unlessThen {c : Prop} [Decidable c] {A : R β} {p : R α} {k : α → R β} (hp : ErrIff p P) (hA : c → ErrIff A Q)
    (hk : ∀ x, ErrIff (k x) Q) : ErrIff (if c then A else p >>= k) ((¬ c ∧ P) ∨ Q) := by
  by_cases hc : c
  · rw [if_pos hc]; exact (hA hc).congr ⟨Or.inr, fun h => h.resolve_left fun hn => hn.1 hc⟩
  · rw [if_neg hc]; exact (hp.bind fun x _ => hk x).congr (or_congr_left ⟨fun h => ⟨hc, h⟩, fun h => h.2⟩)

theorem andThen {k : α → R β} (h : ErrIff r P) (hk : ∀ x, r = .ok x → ∃ y, k x = .ok y) : ErrIff (r >>= k) P :=
  h.transfer (fun x hx => by rw [hx]; exact hk x hx) (fun he => by rw [he]; rfl)

theorem first (h1 : P → r = .error .valueError) (h2 : ¬ P → ErrIff r Q) : ErrIff r (P ∨ Q) := by
  by_cases hP : P
  · rw [h1 hP]; exact refuse.congr ⟨fun _ => Or.inl hP, fun _ => trivial⟩
  · exact (h2 hP).congr ⟨Or.inr, fun hpq => hpq.resolve_left hP⟩

theorem mapM {f : α → R β} {bad : α → Prop} : ∀ (l : List α), (∀ x ∈ l, ErrIff (f x) (bad x)) → ErrIff (l.mapM f) (∃ x ∈ l, bad x)
  | [], _ => (ok []).congr (by simp)
  | a :: l, hf => by
    rw [List.mapM_cons]
    exact ((hf a List.mem_cons_self).bind fun _ _ =>
      (mapM l fun x hx => hf x (List.mem_cons_of_mem _ hx)).andThen fun _ _ => ⟨_, rfl⟩).congr (by simp)

theorem map (f : α → β) : ErrIff (r.map f) P ↔ ErrIff r P := by
  cases r <;> simp [ErrIff, RaisesOnly, Except.map]

end ErrIff

theorem border_cases {b : PyV} (hb : hasType .border b = true) :
    b = .none ∨ (∃ i, b = .int i) ∨ ∃ n d, b = .float n d ∧ refusedFloat (.float n d) = true := by
  cases b with
  | none => exact .inl rfl
  | int i => exact .inr (.inl ⟨i, rfl⟩)
  | float n d => exact .inr (.inr ⟨n, d, rfl, hb⟩)
  | _ => cases hb

theorem border_plain {b : PyV} (hb : hasType .border b = true) (hf : refusedFloat b = false) : b = .none ∨ ∃ i, b = .int i := by
  rcases border_cases hb with h | h | ⟨n, d, rfl, h⟩
  · exact .inl h
  · exact .inr h
  · rw [h] at hf; cases hf

theorem borderRefused_of_float (b : PyV) (hf : refusedFloat b = true) : borderRefused b = true := by
  cases b with
  | int i => cases hf
  | _ => exact hf

theorem borderRefused_iff (b : PyV) (hb : hasType .border b = true) :
    (∃ x, optNumV b = some x ∧ (x.isFractional = true ∨ x.isNegative = true)) ↔ borderRefused b = true := by
  rcases border_cases hb with rfl | ⟨i, rfl⟩ | ⟨n, d, rfl, hf⟩
  · simp [optNumV, borderRefused, refusedFloat]
  · simp [optNumV, numV, borderRefused, Num.isFractional, Num.isNegative]
  · -- a refused float has a fractional part, or is negative with a whole part that is not 0
    simp only [optNumV, numV, borderRefused, hf]
    simp only [refusedFloat, Bool.and_eq_true, bne_iff_ne, ne_eq, Bool.or_eq_true, decide_eq_true_eq] at hf
    obtain ⟨hd, hr⟩ := hf
    simp only [Option.some.injEq, exists_eq_left', Num.isFractional, Num.isNegative, decide_eq_true_eq, Bool.and_eq_true,
      Bool.or_eq_true, bne_iff_ne, ne_eq, iff_true]
    by_cases hfr : n.natAbs % d = 0
    · right
      rcases hr with hn | hn
      · refine ⟨hn, Or.inl fun h0 => ?_⟩
        have := Nat.div_add_mod n.natAbs d
        rw [h0, hfr] at this
        omega
      · exact absurd hfr hn
    · left; exact hfr

theorem refused_iff (s b : PyV) (hb : hasType .border b = true) :
    Props.C09.Refused (numV s) (optNumV b) ↔ (scaleRefusedRaster s = true ∨ borderRefused b = true) := by
  have hs : (numV s).toInt < 1 ↔ scaleRefusedRaster s = true := by
    simp only [scaleRefusedRaster, decide_eq_true_eq]; omega
  exact or_congr hs (borderRefused_iff b hb)

/-- the text writers have no scale -/
theorem refused_iff_one (b : PyV) (hb : hasType .border b = true) :
    Props.C09.Refused (.int 1) (optNumV b) ↔ borderRefused b = true := by
  unfold Props.C09.Refused
  exact (or_iff_right (by decide)).trans (borderRefused_iff b hb)

theorem borderOK_of_typed (b : PyV) (hb : hasType .border b = true) : BorderOK (optNumV b) := by
  intro x hx
  rcases border_cases hb with rfl | ⟨i, rfl⟩ | ⟨n, d, rfl, hf⟩
  · cases hx
  · exact Or.inl ⟨i, (Option.some.inj hx).symm⟩
  · obtain ⟨y, hy, h⟩ := (borderRefused_iff _ hb).2 hf
    rw [hx] at hy; cases hy
    exact Or.inr h

theorem borderBad_eq (b : PyV) (hb : hasType .border b = true) (hf : refusedFloat b = false) :
    borderBad (intBorderV b) = borderRefused b := by
  rcases border_plain hb hf with rfl | ⟨i, rfl⟩ <;> rfl

theorem effBorder_eq (w h : Nat) (b : PyV) (hb : hasType .border b = true) (hf : refusedFloat b = false) :
    effBorder w h (intBorderV b) = borderNat w h b := by
  rcases border_plain hb hf with rfl | ⟨i, rfl⟩ <;> rfl

theorem borderValue_eq (w h : Nat) (b : PyV) (hb : hasType .border b = true) (hnr : borderRefused b = false) :
    Props.C09.borderValue w h (optNumV b) = some (borderNat w h b) := by
  have hf : refusedFloat b = false := Bool.eq_false_iff.2 fun hf => by rw [borderRefused_of_float b hf] at hnr; cases hnr
  rcases border_plain hb hf with rfl | ⟨i, rfl⟩ <;> rfl

theorem written_border {α : Type} {r : R α} {x : α} (w h : Nat) (s b : PyV) (hb : hasType .border b = true)
    (hr : Props.C09.Refused (numV s) (optNumV b) → r = .error .valueError) (hx : r = .ok x) :
    ¬ Props.C09.Refused (numV s) (optNumV b) ∧ Props.C09.borderValue w h (optNumV b) = some (borderNat w h b) := by
  have hnr : ¬ Props.C09.Refused (numV s) (optNumV b) := fun hR => by rw [hr hR] at hx; cases hx
  exact ⟨hnr, borderValue_eq w h b hb (Bool.eq_false_iff.2 fun hbr => hnr ((refused_iff s b hb).2 (Or.inr hbr)))⟩

/-- what `bytesOut` / `textOut` (`f` = the wrapping) handed over is the wrapped document of the writer `r` -/
theorem out_ok {α σ : Type} {f : α → σ} {r : R α} {so : σ} (hso : r.map f = .ok so) : ∃ doc, r = .ok doc ∧ so = f doc :=
  (Proofs.Except.map_ok.1 hso).imp fun _ hd => ⟨hd.1, hd.2.symm⟩

theorem written {α σ : Type} {f : α → σ} {r : R α} {so : σ} (w h : Nat) (s b : PyV) (hb : hasType .border b = true)
    (hr : Props.C09.Refused (numV s) (optNumV b) → r = .error .valueError) (hso : r.map f = .ok so) :
    ¬ Props.C09.Refused (numV s) (optNumV b) ∧ Props.C09.borderValue w h (optNumV b) = some (borderNat w h b) := by
  obtain ⟨doc, hd, _⟩ := out_ok hso
  exact written_border w h s b hb hr hd

theorem of_picture {α σ : Type} {f : α → σ} {r : R α} {so : σ} {Q : α → Prop} (hso : r.map f = .ok so)
    (h : ∃ d, r = .ok d ∧ Q d) : ∃ d, so = f d ∧ Q d := by
  obtain ⟨d, hd, hq⟩ := h
  obtain ⟨d', hd', rfl⟩ := out_ok hso
  rw [hd] at hd'
  cases hd'
  exact ⟨d, rfl, hq⟩

theorem vector_ok {σ : Type} (b : PyV) (r : R σ) (so : σ) (hso : (if refusedFloat b then (.error .valueError : R σ) else r) = .ok so) :
    refusedFloat b = false ∧ r = .ok so := by
  cases hf : refusedFloat b with
  | true => rw [hf] at hso; cases hso
  | false => rw [hf] at hso; exact ⟨rfl, hso⟩

theorem scaleBad_eq (svc : Services) (s : PyV) (hs : hasType .scale s = true) : scaleBad (scaleV svc s) = scaleRefusedVector s := by
  cases s with
  | int i => rfl
  | float n d =>
    simp only [scaleV, svgScaleOf, Option.getD_some, scaleBad, scaleRefusedVector]
    by_cases h : n ≤ 0
    · have : ¬ n > 0 := by omega
      simp [h, this]
    · have : n > 0 := by omega
      simp [h, this]
  | _ => cases hs

theorem dpiBad_eq (svc : Services) (d : PyV) (hd : hasType .dpi d = true) : dpiBad (dpiV svc d) = dpiNegative d := by
  cases d with
  | none => rfl
  | int i =>
    simp only [dpiV, dpiOf, Option.getD_some, dpiBad, dpiNegative]
    by_cases h : i < 0
    · have : i ≠ 0 := by omega
      simp [h, this]
    · simp [h]
  | _ => cases hd

theorem clean_of_exists {α : Type} (r : R α) (h : ∃ x, r = .ok x) : Clean r := Or.inl h

theorem clean_of_ve {α : Type} (r : R α) (h : r = .error .valueError) : Clean r := Or.inr h

end Proofs.C14Ser
