/-
  Proofs.Helpers — C16 for an abstract per-character escaping `s.flatMap esc`, where `esc c` is `[c]` (neither
  backslash nor delimiter) or `['\\', c]` (`Escaping`); nothing here mentions `Gen` (`Props.C16.mecard_table_escapes`
  shows that `_MECARD_ESCAPE` of helpers.py has this form).  In front the list lemmas on `takeWhile` / `rstripBy` /
  `splitPlain` that all the helper files use; at the end fields written as `KEY:escaped;` (`render`) and read back
  (`fieldsOk_render`, for keys `KeyOk`).
-/
import Spec.Helpers

namespace Proofs.Helpers
open Spec.Helpers

theorem takeWhile_until (d : Char) (k v : List Char) (h : ∀ c ∈ k, c ≠ d) : (k ++ d :: v).takeWhile (· ≠ d) = k := by
  rw [List.takeWhile_append_of_pos (by simpa using h)]; simp

theorem dropWhile_until (d : Char) (k v : List Char) (h : ∀ c ∈ k, c ≠ d) : (k ++ d :: v).dropWhile (· ≠ d) = d :: v := by
  rw [List.dropWhile_append_of_pos (by simpa using h)]; simp

theorem takeWhile_all (d : Char) (k : List Char) (h : ∀ c ∈ k, c ≠ d) : k.takeWhile (· ≠ d) = k := by
  simpa using List.takeWhile_append_of_pos (p := (· ≠ d)) (l₂ := []) (by simpa using h)

theorem dropWhile_all (d : Char) (k : List Char) (h : ∀ c ∈ k, c ≠ d) : k.dropWhile (· ≠ d) = [] := by
  simpa using List.dropWhile_append_of_pos (p := (· ≠ d)) (l₂ := []) (by simpa using h)

/-- `(s.reverse.dropWhile p).reverse` is how the model writes `str.rstrip`. -/
theorem rstripBy_sublist (p : Char → Bool) (s : List Char) : (s.reverse.dropWhile p).reverse.Sublist s := by
  simpa using (List.dropWhile_sublist (l := s.reverse) p).reverse

theorem rstripBy_append (p : Char → Bool) (w m : List Char) :
    ((w ++ m).reverse.dropWhile p).reverse
      = if (m.reverse.dropWhile p).reverse = [] then (w.reverse.dropWhile p).reverse else w ++ (m.reverse.dropWhile p).reverse := by
  rw [List.reverse_append, List.dropWhile_append]
  by_cases h : m.reverse.dropWhile p = []
  · simp [h]
  · simp [h]

theorem splitPlain_cons_delim (d : Char) (A rest : List Char) (hA : ∀ c ∈ A, c ≠ d) :
    splitPlain d (A ++ d :: rest) = A :: splitPlain d rest := by
  induction A with
  | nil => simp [splitPlain]
  | cons c t ih =>
    have hc : c ≠ d := hA c (by simp)
    simp [splitPlain, hc, ih (fun x hx => hA x (by simp [hx])), consHead]

theorem splitPlain_none (d : Char) (B : List Char) (hB : ∀ c ∈ B, c ≠ d) : splitPlain d B = [B] := by
  induction B with
  | nil => rfl
  | cons c rest ih =>
    have hc : c ≠ d := hB c (by simp)
    simp [splitPlain, hc, ih (fun x hx => hB x (by simp [hx])), consHead]

theorem splitPlain_two (d : Char) (A B : List Char) (hA : ∀ c ∈ A, c ≠ d) (hB : ∀ c ∈ B, c ≠ d) :
    splitPlain d (A ++ d :: B) = [A, B] := by
  rw [splitPlain_cons_delim d A B hA, splitPlain_none d B hB]

def prependHead (p : List Char) : List (List Char) → List (List Char)
  | [] => [p]
  | h :: t => (p ++ h) :: t

theorem consHead_eq (c : Char) (l : List (List Char)) : consHead c l = prependHead [c] l := by
  cases l <;> simp [consHead, prependHead]

theorem prependHead_nil (l : List (List Char)) (h : l ≠ []) : prependHead [] l = l := by
  cases l with
  | nil => exact absurd rfl h
  | cons a t => simp [prependHead]

theorem prependHead_append (p q : List Char) (l : List (List Char)) (h : l ≠ []) :
    prependHead p (prependHead q l) = prependHead (p ++ q) l := by
  cases l with
  | nil => exact absurd rfl h
  | cons a t => simp [prependHead]

theorem prependHead_ne_nil (p : List Char) (l : List (List Char)) : prependHead p l ≠ [] := by
  cases l <;> simp [prependHead]

theorem splitAux_ne_nil (d : Char) (b : Bool) (s : List Char) : splitAux d b s ≠ [] := by
  fun_induction splitAux d b s <;> simp [consHead_eq, prependHead_ne_nil]

/-- A text is *closed* for the delimiter `d` if, wherever it is placed (outside an escape), the
    splitter passes over it without splitting and ends outside an escape: it contains no unescaped
    `d` and does not end in an unescaped backslash. -/
def Closed (d : Char) (p : List Char) : Prop :=
  ∀ t, splitAux d false (p ++ t) = prependHead p (splitAux d false t)

theorem Closed.nil (d : Char) : Closed d [] := by
  intro t; simp [prependHead_nil _ (splitAux_ne_nil d false t)]

theorem Closed.append {d : Char} {p q : List Char} (hp : Closed d p) (hq : Closed d q) : Closed d (p ++ q) := by
  intro t
  rw [List.append_assoc, hp, hq, prependHead_append _ _ _ (splitAux_ne_nil d false t)]

theorem Closed.plain {d c : Char} (h1 : c ≠ '\\') (h2 : c ≠ d) : Closed d [c] := by
  intro t
  simp [splitAux, h1, h2, consHead_eq]

theorem Closed.escaped (d c : Char) : Closed d ['\\', c] := by
  intro t
  simp [splitAux, consHead_eq, prependHead_append _ _ _ (splitAux_ne_nil d false t)]

theorem Closed.flatMap {d : Char} {esc : Char → List Char} (h : ∀ c, Closed d (esc c)) (s : List Char) :
    Closed d (s.flatMap esc) := by
  induction s with
  | nil => exact Closed.nil d
  | cons c rest ih => rw [List.flatMap_cons]; exact (h c).append ih

theorem Closed.plainList {d : Char} {k : List Char} (h : ∀ c ∈ k, c ≠ '\\' ∧ c ≠ d) : Closed d k := by
  induction k with
  | nil => exact Closed.nil d
  | cons c rest ih =>
    have : c :: rest = [c] ++ rest := rfl
    rw [this]
    exact (Closed.plain (h c (by simp)).1 (h c (by simp)).2).append (ih (fun x hx => h x (by simp [hx])))

theorem Closed.single {d : Char} {p : List Char} (h : Closed d p) : splitUnescaped d p = [p] := by
  have := h []
  simpa [splitUnescaped, splitAux, prependHead] using this

theorem Closed.then_delim {d : Char} (hne : d ≠ '\\') {p : List Char} (h : Closed d p) (rest : List Char) :
    splitUnescaped d (p ++ d :: rest) = p :: splitUnescaped d rest := by
  unfold splitUnescaped
  rw [h]
  simp [splitAux, hne, prependHead]

/-- `esc` puts a backslash in front of the characters `sp`, the backslash among them, and copies the others: all that the
    proofs assume of an escaping table -/
structure Escaping (esc : Char → List Char) (sp : Char → Prop) : Prop where
  special : ∀ c, sp c → esc c = ['\\', c]
  other : ∀ c, ¬ sp c → esc c = [c]
  backslash : sp '\\'

theorem Escaping.closed {esc : Char → List Char} {sp : Char → Prop} (E : Escaping esc sp) {d : Char} (hd : sp d) (c : Char) :
    Closed d (esc c) := by
  by_cases h : sp c
  · rw [E.special c h]; exact Closed.escaped d c
  · rw [E.other c h]
    refine Closed.plain ?_ ?_
    · intro hc; exact h (hc ▸ E.backslash)
    · intro hc; exact h (hc ▸ hd)

/-- No value can forge or end a piece, also when it ends in a backslash. -/
theorem Escaping.split_escaped {esc : Char → List Char} {sp : Char → Prop} (E : Escaping esc sp) {d : Char} (hd : sp d)
    (hne : d ≠ '\\') (s rest : List Char) :
    splitUnescaped d (s.flatMap esc) = [s.flatMap esc]
    ∧ splitUnescaped d (s.flatMap esc ++ d :: rest) = s.flatMap esc :: splitUnescaped d rest :=
  have hc : Closed d (s.flatMap esc) := Closed.flatMap (E.closed hd) s
  ⟨hc.single, hc.then_delim hne rest⟩

theorem unescapeAux_escape {esc : Char → List Char} {sp : Char → Prop} (E : Escaping esc sp) (s t : List Char) :
    unescapeAux false (s.flatMap esc ++ t) = (unescapeAux false t).map (s ++ ·) := by
  induction s with
  | nil => simp
  | cons c rest ih =>
    rw [List.flatMap_cons, List.append_assoc]
    by_cases h : sp c
    · rw [E.special c h]
      simp only [List.cons_append, List.nil_append, unescapeAux, if_true, ih, Option.map_map]
      rfl
    · rw [E.other c h]
      have hc : c ≠ '\\' := fun hc => h (hc ▸ E.backslash)
      simp only [List.cons_append, List.nil_append, unescapeAux, if_neg hc, ih, Option.map_map]
      rfl

theorem unescape_escape {esc : Char → List Char} {sp : Char → Prop} (E : Escaping esc sp) (s : List Char) :
    unescape (s.flatMap esc) = some s := by
  have := unescapeAux_escape E s []
  simpa [unescape, unescapeAux] using this

theorem escape_noop {esc : Char → List Char} {sp : Char → Prop} (E : Escaping esc sp) (s : List Char)
    (h : ∀ c ∈ s, ¬ sp c) : s.flatMap esc = s := by
  induction s with
  | nil => rfl
  | cons c rest ih =>
    rw [List.flatMap_cons, E.other c (h c (by simp)), ih (fun x hx => h x (by simp [hx]))]
    rfl

def fieldText (esc : Char → List Char) (f : Field) : List Char := f.1 ++ ':' :: f.2.flatMap esc

/-- the fields as the builders write them: `KEY:escaped;` one after the other -/
def render (esc : Char → List Char) (fields : List Field) : List Char :=
  (fields.map (fun f => fieldText esc f ++ [';'])).flatten

def KeyOk (k : List Char) : Prop := ∀ c ∈ k, c ≠ '\\' ∧ c ≠ ';' ∧ c ≠ ':'

theorem render_cons (esc : Char → List Char) (f : Field) (fs : List Field) :
    render esc (f :: fs) = fieldText esc f ++ ';' :: render esc fs := by
  simp [render]

theorem render_append (esc : Char → List Char) (a b : List Field) : render esc (a ++ b) = render esc a ++ render esc b := by
  simp [render]

theorem fieldText_closed {esc : Char → List Char} {sp : Char → Prop} (E : Escaping esc sp) (hd : sp ';') (f : Field)
    (hk : KeyOk f.1) : Closed ';' (fieldText esc f) := by
  have h1 : Closed ';' f.1 := Closed.plainList (fun c hc => ⟨(hk c hc).1, (hk c hc).2.1⟩)
  have h2 : Closed ';' [':'] := Closed.plain (by decide) (by decide)
  have h3 : Closed ';' (f.2.flatMap esc) := Closed.flatMap (E.closed hd) _
  have : fieldText esc f = f.1 ++ ([':'] ++ f.2.flatMap esc) := rfl
  rw [this]
  exact h1.append (h2.append h3)

theorem split_render {esc : Char → List Char} {sp : Char → Prop} (E : Escaping esc sp) (hd : sp ';') (fields : List Field)
    (hk : ∀ f ∈ fields, KeyOk f.1) (term : List Char) :
    splitUnescaped ';' (render esc fields ++ term) = fields.map (fieldText esc) ++ splitUnescaped ';' term := by
  induction fields with
  | nil => simp [render]
  | cons f fs ih =>
    rw [render_cons, List.append_assoc, List.cons_append,
      (fieldText_closed E hd f (hk f (by simp))).then_delim (by decide), ih (fun g hg => hk g (by simp [hg]))]
    simp

theorem parseField_fieldText {esc : Char → List Char} {sp : Char → Prop} (E : Escaping esc sp) (f : Field) (hk : KeyOk f.1) :
    parseField (fieldText esc f) = some f := by
  have h : ∀ c ∈ f.1, c ≠ ':' := fun c hc => (hk c hc).2.2
  unfold parseField fieldText
  rw [dropWhile_until ':' _ _ h, takeWhile_until ':' _ _ h]
  simp [unescape_escape E]

theorem stripPrefix_append (p x : List Char) : stripPrefix p (p ++ x) = some x := by
  induction p with
  | nil => cases x <;> simp [stripPrefix]
  | cons c rest ih => simp [stripPrefix, ih]

/-- The round trip of C16: a payload `prefix KEY:escaped; … ;`, followed by nothing or by one more `;` (the
    builders close with `;` or `;;`), splits at the unescaped `;` into exactly the fields, each value recovered verbatim. -/
theorem fieldsOk_render {esc : Char → List Char} {sp : Char → Prop} (E : Escaping esc sp) (hd : sp ';')
    (pfx : List Char) (fields : List Field) (hk : ∀ f ∈ fields, KeyOk f.1) (term : List Char)
    (ht : term = [] ∨ term = [';']) :
    fieldsOk pfx (pfx ++ (render esc fields ++ term)) fields = true := by
  unfold fieldsOk
  rw [stripPrefix_append]
  simp only
  rw [split_render E hd fields hk term]
  have hlen : (fields.map (fieldText esc)).length = fields.length := by simp
  have hmap : (fields.map (fieldText esc)).map parseField = fields.map some := by
    rw [List.map_map]
    apply List.map_congr_left
    intro f hf
    exact parseField_fieldText E f (hk f hf)
  rw [List.drop_left' hlen, List.take_left' hlen, hmap]
  rcases ht with h | h <;> subst h <;> simp [splitUnescaped, splitAux]

end Proofs.Helpers
