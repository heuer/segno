/-
  Proofs.Align — the alignment look-up of `matrix_iter_verbose` (Model.alignmentMatrix?) against
  Annex E (`Spec.inAlignment`).  `add_alignment_patterns` stamps a 5×5 pattern around every pair of
  centre coordinates except three.  A loop of steps that act cell by cell runs on each cell separately
  (`Cellwise`, Proofs/Cellwise.lean, for any representation of the matrix), so seen from one cell the loop is a fold over
  numbers: for any coordinate list that runs from 6 to n − 7 with gaps of at least 7 (`Centres`) the cell
  ends with the ISO value if the block of a stamped centre contains it and is untouched otherwise
  (`stamp_cell`; the encoder's array version in Proofs/Cells.lean rests on the same statement).  Being in
  such a block is `Spec.inAlignment`, and the blocks lie where ISO's classifier says alignment
  (`inAlignment_iff`, `kind_alignment`).  The table `consts.ALIGNMENT_POS` enters last, through one
  kernel check of its 39 rows (`centres_table`).
-/
import Model.Align
import Spec.Geometry
import Proofs.Size
import Proofs.Cellwise

namespace Proofs.Align

open Model Spec Proofs.Cells

/-- cell (k, l) of a matrix of rows as `get_bit` reads the alignment matrix -/
abbrev cell (m : List (List Nat)) (k l : Nat) : Nat := (m.getD k []).getD l 2

def Sq (m : List (List Nat)) (n : Nat) : Prop := m.length = n ∧ ∀ row ∈ m, row.length = n

theorem sq_replicate (n x : Nat) : Sq (List.replicate n (List.replicate n x)) n :=
  ⟨List.length_replicate, fun row h => by rw [List.eq_of_mem_replicate h, List.length_replicate]⟩

theorem cell_replicate (n k l : Nat) : cell (List.replicate n (List.replicate n 2)) k l = 2 := by
  by_cases hk : k < n <;> by_cases hl : l < n <;> simp [cell, List.getD_eq_getElem?_getD, hk, hl]

theorem length_sliceAssign (row pat : List Nat) (j : Nat) (hp : pat.length = 5) (hj : j + 5 ≤ row.length) :
    (sliceAssign row j pat).length = row.length := by
  simp only [sliceAssign, List.length_append, List.length_take, List.length_drop, hp]
  omega

theorem getD_sliceAssign (row pat : List Nat) (j l d : Nat) (hp : pat.length = 5) (hj : j ≤ row.length) :
    (sliceAssign row j pat).getD l d = if j ≤ l ∧ l < j + 5 then pat.getD (l - j) d else row.getD l d := by
  have ht : (row.take j).length = j := by rw [List.length_take]; omega
  simp only [sliceAssign, List.getD_eq_getElem?_getD, List.getElem?_append, List.length_append, ht, hp,
    List.getElem?_take, List.getElem?_drop]
  by_cases h1 : l < j
  · have : l < j + 5 := by omega
    simp [h1, this, show ¬ j ≤ l by omega]
  · by_cases h2 : l < j + 5
    · simp [h1, h2, show j ≤ l by omega]
    · simp [h2, show j + 5 + (l - (j + 5)) = l by omega]

theorem getElem?_placeAlignment (m : List (List Nat)) (i j k : Nat) :
    (placeAlignment m i j)[k]? = m[k]?.map (fun row =>
      if i ≤ k ∧ k < i + 5 then sliceAssign row j (alignPatternRows.getD (k - i) []) else row) := by
  simp only [placeAlignment, List.getElem?_map, List.getElem?_zipIdx, Option.map_map]
  cases m[k]? <;> simp

theorem alignPatternRows_length : ∀ r < 5, (alignPatternRows.getD r []).length = 5 := by decide

theorem sq_placeAlignment {m : List (List Nat)} {n : Nat} (hm : Sq m n) (i j : Nat) (hj : j + 5 ≤ n) :
    Sq (placeAlignment m i j) n := by
  refine ⟨by simp [placeAlignment, hm.1], fun row hrow => ?_⟩
  obtain ⟨k, hk⟩ := List.getElem?_of_mem hrow
  rw [getElem?_placeAlignment] at hk
  obtain ⟨row', hrow', rfl⟩ := Option.map_eq_some_iff.1 hk
  have hlen := hm.2 row' (List.mem_of_getElem? hrow')
  split
  · rw [length_sliceAssign _ _ _ (alignPatternRows_length _ (by omega)) (by omega), hlen]
  · exact hlen

theorem cell_placeAlignment {m : List (List Nat)} {n : Nat} (hm : Sq m n) (i j k l : Nat)
    (hi : i + 5 ≤ n) (hj : j + 5 ≤ n) :
    cell (placeAlignment m i j) k l =
      if (i ≤ k ∧ k < i + 5) ∧ j ≤ l ∧ l < j + 5 then cell alignPatternRows (k - i) (l - j) else cell m k l := by
  unfold cell
  rw [List.getD_eq_getElem?_getD (l := placeAlignment m i j), getElem?_placeAlignment,
    List.getD_eq_getElem?_getD (l := m)]
  by_cases hk : i ≤ k ∧ k < i + 5
  · have hkm : k < m.length := by have := hm.1; omega
    have hlen := hm.2 m[k] (List.getElem_mem hkm)
    simp only [List.getElem?_eq_getElem hkm, Option.map_some, Option.getD_some, hk, and_self, if_true, true_and]
    rw [getD_sliceAssign _ _ _ _ _ (alignPatternRows_length _ (by omega)) (by omega)]
  · simp only [hk, if_false, false_and]
    cases m[k]? <;> rfl

theorem cw_placeAlignment (n i j : Nat) (hi : i + 5 ≤ n) (hj : j + 5 ≤ n) :
    Cellwise Sq cell n (fun m => placeAlignment m i j) (fun k l d =>
      if (i ≤ k ∧ k < i + 5) ∧ j ≤ l ∧ l < j + 5 then cell alignPatternRows (k - i) (l - j) else d) :=
  fun _ hm => ⟨sq_placeAlignment hm i j hj, fun k l _ _ => cell_placeAlignment hm i j k l hi hj⟩

abbrev inBlock (c : Nat × Nat) (k l : Nat) : Bool := inRange k (c.1 - 2) (c.1 + 2) && inRange l (c.2 - 2) (c.2 + 2)

/-- what the look-up needs of the centre coordinates of a symbol of `n` modules: they run from 6 to
    n − 7 and any two are at least 7 apart, so that the 5×5 blocks neither overlap nor reach the
    version information beside the finder patterns (Annex E: at least 12 apart) -/
structure Centres (n : Nat) (pos : List Nat) : Prop where
  head : pos.head? = some 6
  last : pos.getLast? = some (n - 7)
  inside : ∀ x ∈ pos, 6 ≤ x ∧ x + 7 ≤ n
  apart : ∀ x ∈ pos, ∀ y ∈ pos, x = y ∨ x + 7 ≤ y ∨ y + 7 ≤ x

instance (n : Nat) (pos : List Nat) : Decidable (Centres n pos) :=
  decidable_of_iff (_ ∧ _ ∧ _ ∧ _) ⟨fun ⟨a, b, c, d⟩ => ⟨a, b, c, d⟩, fun ⟨a, b, c, d⟩ => ⟨a, b, c, d⟩⟩

theorem Centres.last_mem {n : Nat} {pos : List Nat} (hc : Centres n pos) : n - 7 ∈ pos := by
  obtain ⟨ys, rfl⟩ := List.getLast?_eq_some_iff.1 hc.last
  simp

theorem Centres.coord_cases {n : Nat} {pos : List Nat} (hc : Centres n pos) {x : Nat} (hx : x ∈ pos) :
    (x = 6 ∨ 13 ≤ x) ∧ (x + 7 = n ∨ x + 14 ≤ n) := by
  have h6 : 6 ∈ pos := List.mem_of_mem_head? (by simp [hc.head])
  have := hc.apart x hx 6 h6
  have := hc.apart x hx _ hc.last_mem
  have := hc.inside x hx
  omega

/-- the three centres that coincide with finder patterns -/
def atFinder (n : Nat) (c : Nat × Nat) : Bool :=
  (c.1 == 6 && c.2 == 6) || (c.1 == 6 && c.2 == n - 7) || (c.1 == n - 7 && c.2 == 6)

/-- the centres `add_alignment_patterns` stamps: every pair of coordinates but those three -/
def stamped (n : Nat) (pos : List Nat) : List (Nat × Nat) :=
  (pos.flatMap (fun x => pos.map (fun y => (x, y)))).filter (fun c => !atFinder n c)

theorem mem_stamped {n : Nat} {pos : List Nat} {c : Nat × Nat} :
    c ∈ stamped n pos ↔ (c.1 ∈ pos ∧ c.2 ∈ pos) ∧ atFinder n c = false := by
  simp only [stamped, List.mem_filter, List.mem_flatMap, List.mem_map, Bool.not_eq_true']
  exact and_congr_left' ⟨fun ⟨x, hx, y, hy, e⟩ => e ▸ ⟨hx, hy⟩, fun h => ⟨c.1, h.1, c.2, h.2, rfl⟩⟩

/-- distance of the coordinate `c` from the nearest centre coordinate, as `Spec.fixedValue` computes it -/
def cdist (pos : List Nat) (c : Nat) : Nat :=
  (pos.map (fun x => if c ≥ x then c - x else x - c)).foldl min 1000

theorem foldl_min_self (l : List Nat) (m : Nat) (h : ∀ y ∈ l, m ≤ y) : l.foldl min m = m := by
  induction l with
  | nil => rfl
  | cons y t ih =>
    rw [List.foldl_cons, Nat.min_eq_left (h y List.mem_cons_self)]
    exact ih fun z hz => h z (List.mem_cons_of_mem _ hz)

theorem foldl_min_eq (l : List Nat) (init m : Nat) (hle : ∀ y ∈ l, m ≤ y) (hm : m ∈ l) (hi : m ≤ init) :
    l.foldl min init = m := by
  induction l generalizing init with
  | nil => cases hm
  | cons y t ih =>
    have ht : ∀ z ∈ t, m ≤ z := fun z hz => hle z (List.mem_cons_of_mem _ hz)
    rw [List.foldl_cons]
    rcases List.mem_cons.1 hm with rfl | hm
    · rw [Nat.min_eq_right hi]; exact foldl_min_self t m ht
    · exact ih _ ht hm (Nat.le_min.2 ⟨hi, hle y List.mem_cons_self⟩)

theorem cdist_near {n : Nat} {pos : List Nat} (hc : Centres n pos) {x : Nat} (hx : x ∈ pos) (a : Nat)
    (h : x - 2 ≤ a ∧ a ≤ x + 2) : cdist pos a = if a ≥ x then a - x else x - a := by
  unfold cdist
  refine foldl_min_eq _ _ _ ?_ (List.mem_map_of_mem (f := fun x => if a ≥ x then a - x else x - a) hx) (by split <;> omega)
  intro d hd
  obtain ⟨y, hy, rfl⟩ := List.mem_map.1 hd
  have := hc.apart x hx y hy
  have := hc.inside x hx
  split <;> split <;> omega

theorem dist_in_block (a x : Nat) (hx : 2 ≤ x) (h : x - 2 ≤ a) :
    (if a - (x - 2) ≥ 2 then a - (x - 2) - 2 else 2 - (a - (x - 2))) = if a ≥ x then a - x else x - a := by
  split <;> split <;> omega

/-- value of an alignment pattern module as `Spec.fixedValue` computes it -/
def alignVal (pos : List Nat) (a b : Nat) : Nat := if max (cdist pos a) (cdist pos b) = 1 then 0 else 1

/-- `add_alignment_patterns` seen from ONE cell (a, b), whatever the matrix is made of: `pat` is the 5 × 5 pattern,
    dark but for the ring around its centre; the centre of the block that contains the cell is the nearest one
    (`cdist_near`) -/
theorem stamp_cell {n : Nat} {pos : List Nat} (hc : Centres n pos) (pat : Nat → Nat → Nat)
    (hpat : ∀ r < 5, ∀ c < 5, pat r c =
      if max (if r ≥ 2 then r - 2 else 2 - r) (if c ≥ 2 then c - 2 else 2 - c) = 1 then 0 else 1) (a b d : Nat) :
    (stamped n pos).foldl (fun d q => if (q.1 - 2 ≤ a ∧ a < q.1 - 2 + 5) ∧ q.2 - 2 ≤ b ∧ b < q.2 - 2 + 5
        then pat (a - (q.1 - 2)) (b - (q.2 - 2)) else d) d
      = if (stamped n pos).any (fun c => inBlock c a b) then alignVal pos a b else d := by
  have hin (q : Nat × Nat) (hq : q ∈ stamped n pos) : (6 ≤ q.1 ∧ 6 ≤ q.2) ∧
      (((q.1 - 2 ≤ a ∧ a < q.1 - 2 + 5) ∧ q.2 - 2 ≤ b ∧ b < q.2 - 2 + 5) ↔ inBlock q a b = true) := by
    have ix := hc.inside _ (mem_stamped.1 hq).1.1
    have iy := hc.inside _ (mem_stamped.1 hq).1.2
    simp only [inBlock, inRange, Bool.and_eq_true, decide_eq_true_eq]; omega
  rw [foldl_ite_val _ _ _ (alignVal pos a b) _ ?hv]
  case hv =>
    intro q hq hblk
    obtain ⟨hx, hy⟩ := (mem_stamped.1 hq).1
    have := (hin q hq).1
    rw [hpat _ (by omega) _ (by omega), alignVal, cdist_near hc hx a (by omega), cdist_near hc hy b (by omega)]
    rw [dist_in_block a _ (by omega) (by omega), dist_in_block b _ (by omega) (by omega)]
  exact ite_iff ((exists_congr fun q => and_congr_right fun hq => (hin q hq).2).trans List.any_eq_true.symm) rfl rfl

theorem alignPatternRows_val : ∀ r < 5, ∀ c < 5, cell alignPatternRows r c =
    if max (if r ≥ 2 then r - 2 else 2 - r) (if c ≥ 2 then c - 2 else 2 - c) = 1 then 0 else 1 := by decide

theorem alignmentMatrix?_eq (n : Nat) (pos : List Nat) (hver : 2 ≤ Int.fdiv ((n : Int) - 17) 4)
    (hpos : Gen.Align.ALIGNMENT_POS[(Int.fdiv ((n : Int) - 17) 4 - 2).toNat]? = some pos) (hc : Centres n pos) :
    alignmentMatrix? n = some ((stamped n pos).foldl (fun m c => placeAlignment m (c.1 - 2) (c.2 - 2))
      (List.replicate n (List.replicate n 2))) := by
  simp only [alignmentMatrix?, show ¬ Int.fdiv ((n : Int) - 17) 4 < 2 by omega, if_false, hpos, hc.head, hc.last,
    stamped, List.foldl_filter]
  congr; funext m c
  show (if atFinder n c = true then _ else _) = _
  cases atFinder n c <;> rfl

theorem alignmentMatrix?_cells (n : Nat) (pos : List Nat) (hver : 2 ≤ Int.fdiv ((n : Int) - 17) 4)
    (hpos : Gen.Align.ALIGNMENT_POS[(Int.fdiv ((n : Int) - 17) 4 - 2).toNat]? = some pos) (hc : Centres n pos) :
    ∃ A, alignmentMatrix? n = some A ∧ Sq A n ∧ ∀ k l, k < n → l < n →
      cell A k l = if (stamped n pos).any (fun c => inBlock c k l) then alignVal pos k l else 2 := by
  have H := Cellwise.foldl (stamped n pos) (fun c h => by
    have h1 := hc.inside _ (mem_stamped.1 h).1.1
    have h2 := hc.inside _ (mem_stamped.1 h).1.2
    exact cw_placeAlignment n (c.1 - 2) (c.2 - 2) (by omega) (by omega)) _ (sq_replicate n 2)
  refine ⟨_, alignmentMatrix?_eq n pos hver hpos hc, H.1, fun k l hk hl => ?_⟩
  rw [H.2 k l hk hl, cell_replicate]
  exact stamp_cell hc _ alignPatternRows_val k l 2

theorem find?_near {n : Nat} {pos : List Nat} (hc : Centres n pos) (i x : Nat) (hx : x ∈ pos)
    (hi : inRange i (x - 2) (x + 2) = true) : pos.find? (fun x => inRange i (x - 2) (x + 2)) = some x := by
  cases h : pos.find? (fun x => inRange i (x - 2) (x + 2)) with
  | none => exact absurd hi (List.find?_eq_none.1 h x hx)
  | some x' =>
    have hi' := List.find?_some h
    have := hc.apart x hx x' (List.mem_of_find?_eq_some h)
    simp only [inRange, Bool.and_eq_true, decide_eq_true_eq] at hi hi'
    congr 1; omega

theorem inAlignment_iff {v n : Nat} (hc : Centres n (annexE v)) (i j : Nat) :
    inAlignment v n i j = true ↔ ∃ c ∈ stamped n (annexE v), inBlock c i j = true := by
  simp only [inAlignment, mem_stamped]
  constructor
  · intro h
    split at h
    · rename_i x y hx hy
      exact ⟨(x, y), ⟨⟨List.mem_of_find?_eq_some hx, List.mem_of_find?_eq_some hy⟩, Bool.not_eq_true' _ ▸ h⟩,
        by simp [inBlock, List.find?_some hx, List.find?_some hy]⟩
    · exact absurd h (by simp)
  · rintro ⟨c, ⟨⟨h1, h2⟩, hf⟩, hb⟩
    simp only [inBlock, Bool.and_eq_true] at hb
    simp only [find?_near hc i c.1 h1 hb.1, find?_near hc j c.2 h2 hb.2]
    unfold atFinder at hf
    rw [hf]; rfl

theorem inAlignment_last {v n : Nat} (hc : Centres n (annexE v)) (hn : 13 < n) :
    inAlignment v n (n - 7) (n - 7) = true :=
  (inAlignment_iff hc _ _).2 ⟨(n - 7, n - 7),
    mem_stamped.2 ⟨⟨hc.last_mem, hc.last_mem⟩, by simp [atFinder]; omega⟩, by simp [inBlock, inRange]⟩

/-- where the alignment blocks lie: along the top timing row or along the left timing column
    (between the finder patterns, short of the version information), or in the interior -/
theorem inAlignment_region {v n : Nat} (hc : Centres n (annexE v)) (i j : Nat) (h : inAlignment v n i j = true) :
    (4 ≤ i ∧ i ≤ 8 ∧ 11 ≤ j ∧ j + 12 ≤ n) ∨ (11 ≤ i ∧ i + 12 ≤ n ∧ 4 ≤ j ∧ j ≤ 8) ∨
    (11 ≤ i ∧ i + 5 ≤ n ∧ 11 ≤ j ∧ j + 5 ≤ n) := by
  obtain ⟨c, hs, hb⟩ := (inAlignment_iff hc i j).1 h
  obtain ⟨⟨h1, h2⟩, hf⟩ := mem_stamped.1 hs
  have m1 := hc.coord_cases h1
  have m2 := hc.coord_cases h2
  have b1 := hc.inside _ h1
  have b2 := hc.inside _ h2
  simp only [atFinder, inBlock, inRange, Bool.and_eq_true, decide_eq_true_eq, Bool.or_eq_false_iff,
    Bool.and_eq_false_iff, beq_eq_false_iff_ne] at hf hb
  -- a centre in row 6 has its column strictly between 6 and n − 7, and likewise with rows and columns exchanged
  rcases m1.1 with e1 | e1 <;> rcases m2.1 with e2 | e2 <;> omega

theorem kind_alignment (v : Int) (hv : 2 ≤ v) (i j : Nat) (hc : Centres (size v) (annexE v.toNat))
    (h : inAlignment v.toNat (size v) i j = true) : kind v i j = .alignment := by
  have hr := inAlignment_region hc i j h
  have hn := Size.size_qr v (by omega)
  simp only [kind, isMicro, h, if_true, decide_eq_true_eq, Bool.and_eq_true, Bool.or_eq_true, beq_iff_eq, ge_iff_le]
  -- Micro, finder, separator, dark module, row / column 8, version information: none of them
  rw [if_neg, if_neg, if_neg, if_neg, if_neg, if_neg] <;> omega

theorem centres_table : ∀ k < 39,
    Gen.Align.ALIGNMENT_POS[k]? = some (annexE (k + 2)) ∧ Centres (4 * k + 25) (annexE (k + 2)) := by
  decide +kernel

theorem centres_of_version (v : Int) (h1 : 2 ≤ v) (h2 : v ≤ 40) :
    Gen.Align.ALIGNMENT_POS[(v - 2).toNat]? = some (annexE v.toNat) ∧ Centres (size v) (annexE v.toNat) := by
  have h := centres_table (v - 2).toNat (by omega)
  have hn := Size.size_qr v (by omega)
  rwa [show (v - 2).toNat + 2 = v.toNat by omega, show 4 * (v - 2).toNat + 25 = size v by omega] at h

theorem inAlignment_small (v : Int) (hv : v < 2) (n i j : Nat) : inAlignment v.toNat n i j = false := by
  simp [inAlignment, annexE, show v.toNat < 2 by omega]

theorem alignmentMatrix?_small (n : Nat) (h : Int.fdiv ((n : Int) - 17) 4 < 2) :
    alignmentMatrix? n = some (List.replicate n (List.replicate n 2)) := by
  simp [alignmentMatrix?, h]

/-- what has to hold between the alignment matrix value `a` at (i, j) and ISO -/
def AlignCell (v : Int) (i j a : Nat) : Prop :=
  (a ≠ 2 ↔ inAlignment v.toNat (size v) i j = true) ∧
  (inAlignment v.toNat (size v) i j = true → kind v i j = .alignment ∧ a ≤ 1)

theorem AlignCell.eq_two {v : Int} {i j a : Nat} (h : AlignCell v i j a)
    (hal : inAlignment v.toNat (size v) i j = false) : a = 2 :=
  Decidable.by_contra fun hne => by simp [h.1.1 hne] at hal

/-- the matrix `add_alignment_patterns` fills — which `get_bit` looks up — is ≠ 2 exactly on the
    Annex E alignment blocks, holds 0 / 1 there, and these blocks lie in the region ISO calls alignment -/
theorem alignmentMatrix?_alignCell (v : Int) (h1 : -3 ≤ v) (h2 : v ≤ 40) :
    ∃ A, alignmentMatrix? (size v) = some A ∧ Sq A (size v) ∧
      ∀ i j, i < size v → j < size v → AlignCell v i j (cell A i j) := by
  have hdiv (x : Int) : Int.fdiv x 4 = x / 4 := Int.fdiv_eq_ediv_of_nonneg _ (by decide)
  by_cases hv : v < 2
  · have hn : ((size v : Nat) : Int) ≤ 21 := by rcases Size.size_cases v h1 with h | h <;> omega
    refine ⟨_, alignmentMatrix?_small _ (by rw [hdiv]; omega), sq_replicate _ 2, fun i j _ _ => ?_⟩
    rw [AlignCell, cell_replicate, inAlignment_small v hv]
    simp
  · have hn := Size.size_qr v (by omega)
    obtain ⟨hrow, hc⟩ := centres_of_version v (by omega) h2
    have hver : Int.fdiv ((size v : Int) - 17) 4 = v := by rw [hdiv]; omega
    obtain ⟨A, hA, hsq, hcells⟩ := alignmentMatrix?_cells (size v) _ (by omega) (by rw [hver]; exact hrow) hc
    refine ⟨A, hA, hsq, fun i j hi hj => ?_⟩
    rw [AlignCell, hcells i j hi hj, Bool.eq_iff_iff.2 (List.any_eq_true.trans (inAlignment_iff hc i j).symm)]
    cases hal : inAlignment v.toNat (size v) i j
    · simp
    · have : alignVal (annexE v.toNat) i j ≤ 1 := by unfold alignVal; split <;> omega
      exact ⟨⟨fun _ => rfl, fun _ => by simp only [if_true]; omega⟩,
        fun _ => ⟨kind_alignment v (by omega) i j hc hal, by simpa only [if_true] using this⟩⟩

def nearAny (pos : List Nat) (i : Nat) : Bool := pos.any (fun x => inRange i (x - 2) (x + 2))

theorem nearAny_of_inAlignment (v n i j : Nat) (h : inAlignment v n i j = true) :
    nearAny (annexE v) i = true ∧ nearAny (annexE v) j = true := by
  simp only [inAlignment] at h
  split at h
  · rename_i x y hx hy
    have hi := List.find?_some (p := fun x => inRange i (x - 2) (x + 2)) hx
    have hj := List.find?_some (p := fun y => inRange j (y - 2) (y + 2)) hy
    exact ⟨List.any_eq_true.2 ⟨x, List.mem_of_find?_eq_some hx, hi⟩,
      List.any_eq_true.2 ⟨y, List.mem_of_find?_eq_some hy, hj⟩⟩
  · exact absurd h (by simp)

/-- `alignmentMatrix?_alignCell` as a Boolean (the statement of `Props.C11.align_tie`).  Rows / columns that are not within two
    modules of a centre are compared as a whole. -/
def alignCheck (v : Int) : Bool :=
  let n := size v
  let pos := annexE v.toNat
  match alignmentMatrix? n with
  | none => false
  | some A =>
    A.length == n && A.zipIdx.all (fun (row, i) =>
      if !(nearAny pos i) then row == List.replicate n 2
      else row.length == n && row.zipIdx.all (fun (a, j) =>
        if !(nearAny pos j) then a == 2
        else if inAlignment v.toNat n i j then a != 2 && decide (a ≤ 1) && (kind v i j == .alignment)
        else a == 2))

theorem AlignCell.check {v : Int} {i j a : Nat} (h : AlignCell v i j a) :
    (if !(nearAny (annexE v.toNat) j) then a == 2
     else if inAlignment v.toNat (size v) i j then a != 2 && decide (a ≤ 1) && (kind v i j == .alignment)
     else a == 2) = true := by
  cases hal : inAlignment v.toNat (size v) i j
  · simp [h.eq_two hal]
  · obtain ⟨hk, hle⟩ := h.2 hal
    simp [(nearAny_of_inAlignment _ _ i j hal).2, hk, hle, h.1.2 hal]

theorem alignCheck_of_cells (v : Int) (A : List (List Nat)) (hA : alignmentMatrix? (size v) = some A)
    (hsq : Sq A (size v)) (hcells : ∀ i j, i < size v → j < size v → AlignCell v i j (cell A i j)) :
    alignCheck v = true := by
  simp only [alignCheck, hA, Bool.and_eq_true, beq_iff_eq, List.all_eq_true]
  refine ⟨hsq.1, fun ⟨row, i⟩ hmem => ?_⟩
  have hrow : A[i]? = some row := List.mem_zipIdx_iff_getElem?.1 hmem
  have hlen := hsq.2 row (List.mem_of_getElem? hrow)
  -- entry j of row i is `cell A i j`
  have hcell (a j : Nat) (ha : row[j]? = some a) : AlignCell v i j a := by
    have := hcells i j (hsq.1 ▸ (List.getElem?_eq_some_iff.1 hrow).1) (hlen ▸ (List.getElem?_eq_some_iff.1 ha).1)
    simpa only [cell, List.getD_eq_getElem?_getD, hrow, ha, Option.getD_some] using this
  cases hi : nearAny (annexE v.toNat) i
  · -- a row near no centre meets no block: all its entries are 2
    simp only [Bool.not_false, if_true, beq_iff_eq]
    refine List.eq_replicate_iff.2 ⟨hlen, fun a ha => ?_⟩
    obtain ⟨j, hj⟩ := List.getElem?_of_mem ha
    refine (hcell a j hj).eq_two ?_
    cases hal : inAlignment v.toNat (size v) i j
    · rfl
    · rw [(nearAny_of_inAlignment _ _ i j hal).1] at hi; cases hi
  · simp only [Bool.not_true, Bool.false_eq_true, if_false, Bool.and_eq_true, beq_iff_eq, List.all_eq_true]
    exact ⟨hlen, fun ⟨a, j⟩ hmem' => AlignCell.check (hcell a j (List.mem_zipIdx_iff_getElem?.1 hmem'))⟩

end Proofs.Align
