/-
  Proofs.Cellwise — a matrix builder is known by what it does to one cell.  `Cellwise Sq get n f g`: `f` keeps n × n
  matrices n × n, and cell (a, b) of `f m` is `g a b` of cell (a, b) of `m`; `Sq` and `get` say what an n × n matrix is
  and how a cell is read (rows in Proofs/Align.lean, the encoder's arrays in Proofs/Cells.lean).  A loop of cell-wise
  steps runs on each cell separately (`Cellwise.foldl`), so reading a cell of a built matrix is a fold over numbers,
  and such a fold closes in one of two ways: every step that touches the cell writes the same value (`foldl_ite_val`),
  or exactly one step touches it (`foldl_ite_once`; `foldl_ite_once2` is the same for a loop inside a loop).
  Declares in `Proofs.Cells`, beside the rules for the encoder's arrays (Proofs/Cells.lean).
-/

namespace Proofs.Cells

variable {M : Type} {Sq : M → Nat → Prop} {get : M → Nat → Nat → Nat}

def Cellwise (Sq : M → Nat → Prop) (get : M → Nat → Nat → Nat) (n : Nat) (f : M → M) (g : Nat → Nat → Nat → Nat) : Prop :=
  ∀ m, Sq m n → Sq (f m) n ∧ ∀ a b, a < n → b < n → get (f m) a b = g a b (get m a b)

theorem Cellwise.id (n : Nat) : Cellwise Sq get n (fun m => m) (fun _ _ d => d) := fun _ h => ⟨h, fun _ _ _ _ => rfl⟩

theorem Cellwise.comp {n : Nat} {f f' : M → M} {g g' : Nat → Nat → Nat → Nat}
    (h : Cellwise Sq get n f g) (h' : Cellwise Sq get n f' g') :
    Cellwise Sq get n (fun m => f' (f m)) (fun a b d => g' a b (g a b d)) := by
  intro m hs
  obtain ⟨s1, c1⟩ := h m hs
  obtain ⟨s2, c2⟩ := h' _ s1
  exact ⟨s2, fun a b ha hb => by rw [c2 a b ha hb, c1 a b ha hb]⟩

theorem Cellwise.ite {n : Nat} {c : Prop} [Decidable c] {f f' : M → M} {g g' : Nat → Nat → Nat → Nat}
    (h : Cellwise Sq get n f g) (h' : Cellwise Sq get n f' g') :
    Cellwise Sq get n (fun m => if c then f m else f' m) (fun a b d => if c then g a b d else g' a b d) := by
  by_cases hc : c <;> simpa only [hc, if_true, if_false]

theorem Cellwise.congr {n : Nat} {f : M → M} {g g' : Nat → Nat → Nat → Nat}
    (h : Cellwise Sq get n f g) (e : ∀ a b d, g a b d = g' a b d) : Cellwise Sq get n f g' :=
  fun m hs => ⟨(h m hs).1, fun a b ha hb => ((h m hs).2 a b ha hb).trans (e a b _)⟩

/-- the steps need be cell-wise only for the members of the list: a block stamped on rows has to lie inside the
    matrix -/
theorem Cellwise.foldl {n : Nat} {α : Type} {step : M → α → M} {g : α → Nat → Nat → Nat → Nat} (l : List α)
    (h : ∀ t ∈ l, Cellwise Sq get n (fun m => step m t) (g t)) :
    Cellwise Sq get n (fun m => l.foldl step m) (fun a b d => l.foldl (fun d t => g t a b d) d) := by
  induction l with
  | nil => exact Cellwise.id n
  | cons t l ih => exact (h t List.mem_cons_self).comp (ih fun t' h' => h t' (List.mem_cons_of_mem _ h'))

theorem foldl_ite_val {α β : Type} (l : List α) (C : α → Prop) [DecidablePred C] (V : α → β) (v d : β)
    (hv : ∀ t ∈ l, C t → V t = v) :
    l.foldl (fun d t => if C t then V t else d) d = if ∃ t ∈ l, C t then v else d := by
  induction l generalizing d with
  | nil => simp
  | cons t l ih =>
    rw [List.foldl_cons, ih _ fun t' h' => hv t' (List.mem_cons_of_mem _ h')]
    simp only [List.mem_cons, or_and_right, exists_or, exists_eq_left]
    by_cases ht : C t
    · simp only [ht, if_true, true_or, hv t List.mem_cons_self ht]; split <;> rfl
    · simp only [ht, if_false, false_or]

theorem ite_iff {β : Type} {c c' : Prop} [Decidable c] [Decidable c'] (h : c ↔ c') {x y x' y' : β} (hx : x = x') (hy : y = y') :
    (if c then x else y) = if c' then x' else y' :=
  ite_congr (propext h) (fun _ => hx) (fun _ => hy)

theorem foldl_ite_once (k x : Nat) (h : Nat → Nat → Nat) (d : Nat) :
    (List.range k).foldl (fun d t => if x = t then h t d else d) d = if x < k then h x d else d := by
  induction k with
  | zero => rfl
  | succ k ih =>
    rw [List.range_succ, List.foldl_append, ih, List.foldl_cons, List.foldl_nil]
    by_cases hx : x = k
    · subst hx; simp
    · rw [if_neg hx]
      exact ite_iff ⟨fun h' => by omega, fun h' => by omega⟩ rfl rfl

theorem foldl_ite_once2 (n a b : Nat) (ha : a < n) (hb : b < n) (h : Nat → Nat → Nat → Nat) (d : Nat) :
    (List.range n).foldl (fun d i => (List.range n).foldl (fun d j => if a = i ∧ b = j then h i j d else d) d) d = h a b d := by
  have inner : ∀ i d, (List.range n).foldl (fun d j => if a = i ∧ b = j then h i j d else d) d
      = if a = i then h i b d else d := fun i d => by
    by_cases hi : a = i
    · simp only [hi, true_and, if_true]
      rw [foldl_ite_once n b (h i) d, if_pos hb]
    · simp only [hi, false_and, if_false]
      exact List.recOn (List.range n) rfl fun _ _ ih => ih
  simp only [inner]
  rw [foldl_ite_once n a (fun i d => h i b d) d, if_pos ha]

theorem ite_ite_or {β : Type} {c c' : Prop} [Decidable c] [Decidable c'] (v d : β) :
    (if c then v else if c' then v else d) = if c ∨ c' then v else d := by
  by_cases h : c <;> by_cases h' : c' <;> simp [h, h']

end Proofs.Cells
