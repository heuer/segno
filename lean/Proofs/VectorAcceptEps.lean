/-
  C10: the judge's PostScript interpreter (`Spec.Vector.psRun`: procedure definitions,
  expansion, operand stack, `rmoveto` / `rlineto`) on the program the model emits (`Model.Lines.epsPath` between
  `newpath` and `stroke`, after the prolog `/m { rmoveto } bind def  /l { rlineto } bind def`).
-/
import Proofs.VectorAcceptPdf
import Props.C10

namespace Proofs.VectorAccept
open Spec.Vector Model.Lines Proofs.Lines

/-- the tokens of the two definitions `write_eps` prints in front of the path: `/m { rmoveto } bind def`, `/l { rlineto } bind def` -/
def prolog : List String := ["/m", "{", "rmoveto", "}", "bind", "def", "/l", "{", "rlineto", "}", "bind", "def"]

theorem drop_m : ("/m".drop 1).copy = "m" := by decide +kernel
theorem drop_l : ("/l".drop 1).copy = "l" := by decide +kernel

theorem psDefs_go_prolog (f : Nat) (rest : List String) (defs out) :
    psDefs.go (f + 2) (prolog ++ rest) defs out = psDefs.go f rest (("l", ["rlineto"]) :: ("m", ["rmoveto"]) :: defs) out := by
  simp [prolog, psDefs.go, drop_m, drop_l]

theorem psDefs_go_plain (rest : List String) (h : ∀ t ∈ rest, t.startsWith "/" = false) : ∀ (f : Nat) defs out, rest.length ≤ f →
    psDefs.go f rest defs out = .ok (defs, out.reverse ++ rest) := by
  induction rest with
  | nil => intro f defs out _; cases f <;> simp [psDefs.go]
  | cons t rest ih =>
    intro f defs out hf
    cases f with
    | zero => simp at hf
    | succ f =>
      have ht := h t (by simp)
      simp only [psDefs.go, ht, Bool.false_eq_true, if_false]
      rw [ih (fun t ht => h t (by simp [ht])) f defs (t :: out) (by simpa using hf)]
      simp

/-- the definitions the prolog makes -/
def psD : List (String × List String) := [("l", ["rlineto"]), ("m", ["rmoveto"])]

theorem psDefs_prolog (rest : List String) (h : ∀ t ∈ rest, t.startsWith "/" = false) :
    psDefs (prolog ++ rest) = .ok (psD, rest) := by
  unfold psDefs
  have e : (prolog ++ rest).length + 1 = (rest.length + 11) + 2 := by simp [prolog]
  rw [e, psDefs_go_prolog, psDefs_go_plain rest h _ _ _ (by omega)]
  simp [psD]

theorem num_not_slash (t : String) (q : Rat) (h : num? t = some q) : t.startsWith "/" = false := by
  rw [String.startsWith_string_eq_false_iff]
  intro hp
  obtain ⟨r, hr⟩ := hp
  have : "/".toList = ['/'] := rfl
  rw [this] at hr
  unfold num? parseDecimal at h
  rw [← hr] at h
  simp [parseDecPrefix, spanDigits, List.span, List.span.loop] at h

/-- one round of expansion: a defined name by its body, any other token by itself -/
def exp1 (t : String) : List String :=
  match psD.find? (·.1 == t) with
  | some d => d.2
  | none => [t]

theorem exp1_other (t : String) (hl : t ≠ "l") (hm : t ≠ "m") : exp1 t = [t] := by
  have h1 : ("l" == t) = false := by simpa using Ne.symm hl
  have h2 : ("m" == t) = false := by simpa using Ne.symm hm
  simp [exp1, psD, h1, h2]

theorem exp1_num (t : String) (q : Rat) (h : num? t = some q) : exp1 t = [t] :=
  exp1_other t (fun e => by rw [e, num_l] at h; cases h) (fun e => by rw [e, num_m] at h; cases h)

theorem exp1_m : exp1 "m" = ["rmoveto"] := by decide +kernel
theorem exp1_l : exp1 "l" = ["rlineto"] := by decide +kernel
theorem exp1_moveto : exp1 "moveto" = ["moveto"] := by decide +kernel
theorem exp1_scale : exp1 "scale" = ["scale"] := by decide +kernel
theorem exp1_newpath : exp1 "newpath" = ["newpath"] := by decide +kernel
theorem exp1_stroke : exp1 "stroke" = ["stroke"] := by decide +kernel

/-- the second round of `expandDefs` changes nothing -/
theorem exp1_idem (t : String) : (exp1 t).flatMap exp1 = exp1 t := by
  by_cases hl : t = "l"
  · subst hl; decide +kernel
  by_cases hm : t = "m"
  · subst hm; decide +kernel
  simp [exp1_other t hl hm]

/-- what the interpreter does with a token of the unexpanded program -/
def xStep (m : Machine) (t : String) : Except String Machine := (exp1 t).foldlM psStep m

theorem foldlM_flatMap {α β σ ε : Type} (f : α → List β) (step : σ → β → Except ε σ) (l : List α) :
    ∀ m, (l.flatMap f).foldlM step m = l.foldlM (fun m a => (f a).foldlM step m) m := by
  induction l with
  | nil => intro m; rfl
  | cons a l ih => intro m; simp only [List.flatMap_cons, List.foldlM_append, List.foldlM_cons, ih]

theorem fold_expandDefs (toks : List String) (m : Machine) : (expandDefs psD toks).foldlM psStep m = toks.foldlM xStep m := by
  have : expandDefs psD toks = toks.flatMap (fun t => (exp1 t).flatMap exp1) := (List.flatMap_assoc ..)
  rw [this, foldlM_flatMap]
  simp only [exp1_idem]
  rfl

theorem xStep_fixed (m : Machine) (t : String) (h : exp1 t = [t]) : xStep m t = psStep m t := by
  simp [xStep, h]

theorem num_rmoveto : num? "rmoveto" = none := by decide +kernel
theorem num_rlineto : num? "rlineto" = none := by decide +kernel
theorem num_moveto : num? "moveto" = none := by decide +kernel
theorem num_scale : num? "scale" = none := by decide +kernel
theorem num_newpath : num? "newpath" = none := by decide +kernel
theorem num_stroke : num? "stroke" = none := by decide +kernel

section steps
variable {st : List Rat} {gs : GState} {p : PathSt}

theorem xStep_num {t : String} {q : Rat} (h : num? t = some q) : xStep (mkM st gs p) t = .ok (mkM (q :: st) gs p) := by
  rw [xStep_fixed _ t (exp1_num t q h)]; unfold psStep; simp [h, mkM]

theorem xStep_scale {a b : Rat} :
    xStep (mkM (b :: a :: st) gs p) "scale" = .ok (mkM st { gs with ctm := gs.ctm.comp { sx := a, sy := b } } p) := by
  rw [xStep_fixed _ _ exp1_scale]; unfold psStep; simp [num_scale, pop2, mkM]; rfl

theorem xStep_newpath : xStep (mkM st gs p) "newpath" = .ok (mkM st gs {}) := by
  rw [xStep_fixed _ _ exp1_newpath]; unfold psStep; simp [num_newpath, mkM]

theorem xStep_moveto {x y : Rat} :
    xStep (mkM (y :: x :: st) gs p) "moveto" = .ok (mkM st gs (p.moveTo (x, y) (gs.ctm.app (x, y)))) := by
  rw [xStep_fixed _ _ exp1_moveto]; unfold psStep; simp [num_moveto, pop2, mkM]; rfl

/-- while the device position is the image of the user position, `rmoveto` / `rlineto` are `moveto` / `lineto` -/
theorem app_add (c : Xf) (u : Rat × Rat) (dx dy : Rat) :
    ((c.app u).1 + c.sx * dx, (c.app u).2 + c.sy * dy) = c.app (u.1 + dx, u.2 + dy) := by
  simp only [Xf.app]; congr 1 <;> grind

theorem xStep_m {dx dy : Rat} (hp : p.pos = some (gs.ctm.app p.upos)) :
    xStep (mkM (dy :: dx :: st) gs p) "m"
      = .ok (mkM st gs (p.moveTo (p.upos.1 + dx, p.upos.2 + dy) (gs.ctm.app (p.upos.1 + dx, p.upos.2 + dy)))) := by
  simp only [xStep, exp1_m, List.foldlM_cons, List.foldlM_nil, bind_pure]
  unfold psStep; simp [num_rmoveto, pop2, mkM]
  simp only [bind, Except.bind, hp, ← app_add]
  rfl

theorem xStep_l {dx dy : Rat} {p' : PathSt} (hp : p.pos = some (gs.ctm.app p.upos))
    (hl : p.lineTo (p.upos.1 + dx, p.upos.2 + dy) (gs.ctm.app (p.upos.1 + dx, p.upos.2 + dy)) = .ok p') :
    xStep (mkM (dy :: dx :: st) gs p) "l" = .ok (mkM st gs p') := by
  simp only [xStep, exp1_l, List.foldlM_cons, List.foldlM_nil, bind_pure]
  unfold psStep; simp [num_rlineto, pop2, mkM]
  simp only [bind, Except.bind, hp]
  show (_ <$> p.lineTo (p.upos.1 + dx, p.upos.2 + dy) _) = _
  rw [app_add, hl]; rfl

theorem xStep_stroke {rs : List Rect} (h : strokeRects (gs.lw * absQ gs.ctm.sy / 2) p.done = .ok rs) :
    xStep (mkM st gs p) "stroke" = .ok { mkM st gs {} with paints := [Paint.stroke rs gs.strokeC] } := by
  rw [xStep_fixed _ _ exp1_stroke]; unfold psStep; simp [num_stroke, Machine.strokeNow, mkM, h]; rfl

end steps

/-- the pen is at the user point `(x, y2/2)`, and its device position is the image of that point under `c` -/
def PenAt (c : Xf) (p : PathSt) (x y2 : Int) : Prop :=
  p.upos = ((x : Rat), half y2) ∧ p.pos = some (c.app p.upos)

/-- the tokens of a line after the first: `dx dy m len 0 l` -/
def relM (t : Int × Int × Int) : List String := [toString t.1, toString t.2.1, "m", toString t.2.2, "0", "l"]

theorem eps_rel_one (gs : GState) (t : Int × Int × Int) (p : PathSt) (px py2 : Int) (hp : PenAt gs.ctm p px py2) :
    ∃ p', TokRun xStep (relM t) (mkM [] gs p) (mkM [] gs p') ∧ PenAt gs.ctm p' (px + t.1 + t.2.2) (py2 + 2 * t.2.1)
      ∧ p'.done = p.done ++ subsOf gs.ctm [(px + t.1, py2 + 2 * t.2.1, px + t.1 + t.2.2)] := by
  obtain ⟨dx, dy, len⟩ := t
  obtain ⟨hu, hpos⟩ := hp
  have e1 : (p.upos.1 + (dx : Rat), p.upos.2 + (dy : Rat)) = (((px + dx : Int) : Rat), half (py2 + 2 * dy)) := by
    rw [hu]; unfold half; simp only [Rat.intCast_add, Rat.intCast_mul]; congr 1; grind
  have e2 : (((px + dx : Int) : Rat) + (len : Rat), half (py2 + 2 * dy) + 0) = (((px + dx + len : Int) : Rat), half (py2 + 2 * dy)) := by
    simp only [Rat.intCast_add, Rat.add_zero]
  obtain ⟨p', h1, hu', hp', hd⟩ := moveTo_lineTo_done p (((px + dx : Int) : Rat), half (py2 + 2 * dy))
    (gs.ctm.app (((px + dx : Int) : Rat), half (py2 + 2 * dy)))
    (((px + dx : Int) : Rat) + (len : Rat), half (py2 + 2 * dy) + 0)
    (gs.ctm.app (((px + dx : Int) : Rat) + (len : Rat), half (py2 + 2 * dy) + 0))
  have hm := xStep_m (st := []) (gs := gs) (dx := dx) (dy := dy) hpos
  rw [e1] at hm
  refine ⟨p', ?_, ⟨hu'.trans e2, by rw [hp', hu']⟩, by rw [hd, e2]; rfl⟩
  exact .cons (xStep_num (num_int dx)) (.cons (xStep_num (num_int dy)) (.cons hm
    (.cons (xStep_num (num_int len)) (.cons (xStep_num num_zero) (.cons (xStep_l rfl h1) .nil)))))

theorem eps_rel_run (gs : GState) (rel : List (Int × Int × Int)) : ∀ (p : PathSt) (px py2 : Int), PenAt gs.ctm p px py2 →
    ∃ p', TokRun xStep ((rel.map relM).flatten) (mkM [] gs p) (mkM [] gs p')
      ∧ p'.done = p.done ++ subsOf gs.ctm (epsAbs px py2 rel) := by
  induction rel with
  | nil => intro p px py2 _; exact ⟨p, .nil, by simp [subsOf, epsAbs]⟩
  | cons t rest ih =>
    intro p px py2 hp
    obtain ⟨p1, h1, hp1, d1⟩ := eps_rel_one gs t p px py2 hp
    obtain ⟨p2, h2, d2⟩ := ih p1 (px + t.1 + t.2.2) (py2 + 2 * t.2.1) hp1
    refine ⟨p2, h1.append h2, ?_⟩
    obtain ⟨dx, dy, len⟩ := t
    rw [d2, d1]; simp [subsOf, epsAbs]

/-- the tokens of the first line: an absolute `moveto`, then `len 0 l` -/
def firstM (x1 y1 x2 : Int) : List String := [toString x1, showHalf y1, "moveto", toString (x2 - x1), "0", "l"]

theorem eps_first (gs : GState) (x1 y1 x2 : Int) :
    ∃ p', TokRun xStep (firstM x1 y1 x2) (mkM [] gs {}) (mkM [] gs p') ∧ PenAt gs.ctm p' x2 y1
      ∧ p'.done = subsOf gs.ctm [(x1, y1, x2)] := by
  have e2 : ((x1 : Rat) + ((x2 - x1 : Int) : Rat), half y1 + 0) = ((x2 : Rat), half y1) := by
    simp only [Rat.intCast_sub, Rat.add_zero]; congr 1; grind
  obtain ⟨p', h1, hu', hp', hd⟩ := moveTo_lineTo_done {} ((x1 : Rat), half y1) (gs.ctm.app ((x1 : Rat), half y1))
    ((x1 : Rat) + ((x2 - x1 : Int) : Rat), half y1 + 0) (gs.ctm.app ((x1 : Rat) + ((x2 - x1 : Int) : Rat), half y1 + 0))
  refine ⟨p', ?_, ⟨hu'.trans e2, by rw [hp', hu']⟩, by rw [hd, e2]; rfl⟩
  exact .cons (xStep_num (num_int x1)) (.cons (xStep_num (num_showHalf y1)) (.cons xStep_moveto
    (.cons (xStep_num (num_int (x2 - x1))) (.cons (xStep_num num_zero) (.cons (xStep_l rfl h1) .nil)))))

/-- the program after the prolog: optional scale, `newpath`, the path, `stroke` -/
def epsBody (pre path : List String) : List String := pre ++ ("newpath" :: (path ++ ["stroke"]))

theorem slash_lit : ∀ t ∈ ["moveto", "m", "l", "0", "newpath", "stroke", "scale"], t.startsWith "/" = false := by
  decide +kernel

theorem slash_body (pre : List String) (hpre : ∀ t ∈ pre, t.startsWith "/" = false) (x1 y1 x2 : Int) (rel : List (Int × Int × Int)) :
    ∀ t ∈ epsBody pre (firstM x1 y1 x2 ++ (rel.map relM).flatten), t.startsWith "/" = false := by
  have hn : ∀ k : Int, (toString k).startsWith "/" = false := fun k => num_not_slash _ _ (num_int k)
  have hh : ∀ k : Int, (showHalf k).startsWith "/" = false := fun k => num_not_slash _ _ (num_showHalf k)
  have hl := slash_lit
  simp only [List.forall_mem_cons] at hl
  simp only [epsBody, firstM, relM, List.forall_mem_append, List.forall_mem_cons, List.forall_mem_flatten, List.forall_mem_map,
    hn, hh, hl, List.not_mem_nil, false_imp_iff, implies_true, and_self, and_true]
  exact hpre

theorem eps_body_run (gs : GState) (pre : List String) (hrun : TokRun xStep pre {} (mkM [] gs {}))
    (x1 y1 x2 : Int) (rel : List (Int × Int × Int)) (rs : List Rect)
    (hrs : strokeRects (gs.lw * absQ gs.ctm.sy / 2) (subsOf gs.ctm ((x1, y1, x2) :: epsAbs x2 y1 rel)) = .ok rs) :
    TokRun xStep (epsBody pre (firstM x1 y1 x2 ++ (rel.map relM).flatten)) {}
      { mkM [] gs {} with paints := [Paint.stroke rs gs.strokeC] } := by
  obtain ⟨p1, h1, hp1, d1⟩ := eps_first gs x1 y1 x2
  obtain ⟨p2, h2, d2⟩ := eps_rel_run gs rel p1 x2 y1 hp1
  have hd : p2.done = subsOf gs.ctm ((x1, y1, x2) :: epsAbs x2 y1 rel) := by
    rw [d2, d1]; rfl
  exact hrun.append (.cons xStep_newpath ((h1.append h2).append (.cons (xStep_stroke (hd ▸ hrs)) .nil)))

theorem psRun_of_tokRun (body : List String) (hsl : ∀ t ∈ body, t.startsWith "/" = false) (m : Machine)
    (h : TokRun xStep body {} m)
    (hst : m.stack = []) (hp : m.path.done = []) : psRun (prolog ++ body) = .ok m.paints.reverse := by
  unfold psRun
  rw [psDefs_prolog body hsl]
  simp only [bind, Except.bind]
  rw [(fold_expandDefs body {}).trans h]
  simp [hst, hp]
  rfl

/-- the graphics state after `s s scale` -/
def gsS (s : Rat) : GState := { ctm := cS s }

/-- EPS: the judge accepts the program prolog + `pre` + newpath + model path + stroke, where `pre` sets the transform
    `scale(s)`, for every square matrix with at least one row (whose first line lies at the initial y: `rel_abs_eps`). -/
theorem eps_accept (m : List (List Nat)) (b : Nat) (s : Rat) (hs : 0 < s) (hsq : ∀ row ∈ m, row.length = m.length)
    (pre : List String) (hpre : ∀ t ∈ pre, t.startsWith "/" = false)
    (hrun : TokRun xStep pre {} (mkM [] (gsS s) {}))
    (row : List Nat) (rest : List (List Nat)) (hm : m = row :: rest) :
    ∃ toks, epsPath m b = some toks ∧
      (do
        let paints ← psRun (prolog ++ epsBody pre toks)
        judgePaints { m := m, size := m.length, b := b, s := s, dark := some black, light := none }
          (some (((m.length + 2 * b : Nat) : Rat) * s, ((m.length + 2 * b : Nat) : Rat) * s)) true (((m.length + 2 * b : Nat) : Rat) * s) 0
          paints) = .ok (segsFrom b (rowsGo b 1 m)) := by
  -- `y0`: twice the initial y, the centre line of the top row
  obtain ⟨y0, hy⟩ : ∃ y0 : Int, y0 = 2 * ((m.length : Int) + (b : Int)) - 1 := ⟨_, rfl⟩
  obtain ⟨x1, x2, tail, hL, habs⟩ := Props.C10.rel_abs_eps row rest b y0
  rw [← hm] at hL
  refine ⟨firstM x1 y0 x2 ++ ((epsRel x2 y0 tail).map relM).flatten, ?_, ?_⟩
  · unfold epsPath
    simp only [← hy, hL]
    rfl
  · have hrs := strokeRects_subC (cS s) (1 * absQ s / 2) (matrixToLines m b y0 (-2))
    rw [← subsOf_toInt, hL] at hrs
    have hfold := eps_body_run (gsS s) pre hrun x1 y0 x2 (epsRel x2 y0 tail) _ (by rw [habs]; exact hrs)
    rw [psRun_of_tokRun _ (slash_body pre hpre _ _ _ _) _ hfold rfl rfl]
    simp only [bind, Except.bind, List.reverse_cons, List.reverse_nil, List.nil_append]
    apply judgePaints_lines m b s hs hsq
    · rw [absQ_of_pos hs]; grind
    · intro j; exact Rat.add_zero _
    · -- row i is drawn at y = (size + b − ½) − i of a page of height size + 2b: from the top that is b + i + ½
      intro i
      unfold half
      simp only [hy, Int.natCast_add, Rat.intCast_add, Rat.intCast_mul, Rat.intCast_sub, Rat.intCast_neg,
        Rat.natCast_add, Rat.natCast_mul, Rat.intCast_natCast]
      grind

-- the two prefixes `write_eps` produces: `s s scale` (scale ≠ 1) and nothing (scale = 1)

theorem eps_pre_slash (st : String) (s : Rat) (hst : num? st = some s) : ∀ t ∈ [st, st, "scale"], t.startsWith "/" = false := by
  simp only [List.forall_mem_cons, num_not_slash _ _ hst, slash_lit "scale" (by simp), List.not_mem_nil, false_imp_iff,
    implies_true, and_self]

theorem eps_pre_run (st : String) (s : Rat) (hst : num? st = some s) : TokRun xStep [st, st, "scale"] {} (mkM [] (gsS s) {}) := by
  have h := TokRun.cons (m := ({} : Machine)) (xStep_num hst) (.cons (xStep_num hst) (.cons xStep_scale .nil))
  rwa [comp_id_scale] at h

theorem eps_nopre_run : TokRun xStep [] {} (mkM [] (gsS 1) {}) := rfl

end Proofs.VectorAccept
