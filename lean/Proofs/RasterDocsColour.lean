/-
  What `Model.colorToRgb` (`_color_to_rgb`) and `Model.colorToRgba` (`_color_to_rgba`)
  return when they succeed: three resp. four values, each at most 255.
-/
import Model.Png
import Proofs.Except

namespace Proofs.RasterDocs

open Model Proofs.Except

theorem hexVal?_le (c : Char) : (hexVal? c).getD 0 ≤ 15 := by
  -- in each of the three ranges the value is `c.toNat - off` with `c` at most the upper end `hi`, and `hi.toNat - off ≤ 15`
  have key : ∀ (lo hi : Char) (off : Nat), (decide (lo ≤ c) && decide (c ≤ hi)) = true → hi.toNat - off ≤ 15 → c.toNat - off ≤ 15 := by
    intro lo hi off h hhi
    simp only [Bool.and_eq_true, decide_eq_true_eq] at h
    have : c.toNat ≤ hi.toNat := h.2
    omega
  unfold hexVal?
  split
  · exact key _ _ 48 ‹_› (by decide)
  · split
    · exact key _ _ 87 ‹_› (by decide)
    · split
      · exact key _ _ 55 ‹_› (by decide)
      · simp

theorem hexPairs_le : ∀ (cs : List Char), ∀ v ∈ hexPairs cs, v ≤ 255
  | [] => by simp [hexPairs]
  | [_] => by simp [hexPairs]
  | a :: b :: rest => by
    intro v hv
    simp only [hexPairs, List.mem_cons] at hv
    rcases hv with rfl | hv
    · have := hexVal?_le a; have := hexVal?_le b; omega
    · exact hexPairs_le rest v hv

theorem hexToInts_bounds (s : String) (l : List Nat) (h : hexToInts s = .ok l) : ∀ v ∈ l, v ≤ 255 := by
  unfold hexToInts at h
  obtain ⟨_, h⟩ := ite_else_throw_ok.1 h
  rw [← pure_eq_ok.1 h]
  exact hexPairs_le _

theorem name2rgb_le : ∀ e ∈ Gen.NAME2RGB, e.2.1 ≤ 255 ∧ e.2.2.1 ≤ 255 ∧ e.2.2.2 ≤ 255 := by decide +kernel

theorem nameToRgb_le (s : String) (r g b : Nat) (h : nameToRgb s = some (r, g, b)) : r ≤ 255 ∧ g ≤ 255 ∧ b ≤ 255 := by
  unfold nameToRgb at h
  cases hf : Gen.NAME2RGB.find? (fun e => e.1 == lowerAscii s) with
  | none => rw [hf] at h; cases h
  | some e =>
    rw [hf] at h
    simp only [Option.map_some, Option.some.injEq] at h
    have := name2rgb_le e (List.mem_of_find?_eq_some hf)
    rw [h] at this
    exact this

theorem colorToRgb_ok (c : ColorArg) (l : List Nat) (h : colorToRgb c = .ok l) :
    ∃ r g b, l = [r, g, b] ∧ r ≤ 255 ∧ g ≤ 255 ∧ b ≤ 255 := by
  unfold colorToRgb at h
  split at h
  · cases h
  · obtain ⟨hc, h⟩ := ite_else_throw_ok.1 h
    exact ⟨_, _, _, (pure_eq_ok.1 h).symm, hc⟩
  · obtain ⟨hc, h⟩ := ite_else_throw_ok.1 h
    exact ⟨_, _, _, (pure_eq_ok.1 h).symm, hc.1, hc.2.1, hc.2.2.1⟩
  · cases h
  · obtain ⟨hc, h⟩ := ite_else_throw_ok.1 h
    exact ⟨_, _, _, (pure_eq_ok.1 h).symm, hc.1, hc.2.1, hc.2.2.1⟩
  · rename_i s
    split at h
    · rename_i r g b hn
      exact ⟨r, g, b, (pure_eq_ok.1 h).symm, nameToRgb_le s r g b hn⟩
    · obtain ⟨l', hh, h⟩ := bind_ok.1 h
      have hle := hexToInts_bounds s l' hh
      split at h
      · exact ⟨_, _, _, (pure_eq_ok.1 h).symm, hle _ (by simp), hle _ (by simp), hle _ (by simp)⟩
      · obtain ⟨_, h⟩ := ite_else_throw_ok.1 h
        exact ⟨_, _, _, (pure_eq_ok.1 h).symm, hle _ (by simp), hle _ (by simp), hle _ (by simp)⟩
      · cases h

/-- `int(round(k/1000 * 255))` is within half a unit of k·255/1000 -/
theorem roundAlpha_bound (k : Nat) : roundAlpha k * 1000 ≤ k * 255 + 500 ∧ k * 255 ≤ roundAlpha k * 1000 + 500 := by
  unfold roundAlpha
  have h := Nat.div_add_mod (k * 255) 1000
  have h2 := Nat.mod_lt (k * 255) (by decide : 1000 > 0)
  generalize k * 255 / 1000 = q at *
  generalize k * 255 % 1000 = r at *
  rw [← h]
  clear h
  -- the result is `q` for a remainder of at most 500, `q + 1` for one of at least 500
  have down : r ≤ 500 → q * 1000 ≤ 1000 * q + r + 500 ∧ 1000 * q + r ≤ q * 1000 + 500 := fun _ => by omega
  have up : 500 ≤ r → (q + 1) * 1000 ≤ 1000 * q + r + 500 ∧ 1000 * q + r ≤ (q + 1) * 1000 + 500 := fun _ => by omega
  dsimp only
  by_cases h1 : r < 500
  · rw [if_pos h1]; exact down (Nat.le_of_lt h1)
  · rw [if_neg h1]
    by_cases h3 : r > 500
    · rw [if_pos h3]; exact up (Nat.le_of_lt h3)
    · rw [if_neg h3]
      by_cases h4 : (q % 2 == 0) = true
      · rw [if_pos h4]; exact down (Nat.le_of_not_lt h3)
      · rw [if_neg h4]; exact up (Nat.le_of_not_lt h1)

theorem roundAlpha_le (k : Nat) (hk : k ≤ 1000) : roundAlpha k ≤ 255 := by
  have := (roundAlpha_bound k).1
  omega

theorem colorToRgba_bounds (c : ColorArg) (r g b a : Nat) (h : colorToRgba c = .ok (r, g, b, a)) :
    r ≤ 255 ∧ g ≤ 255 ∧ b ≤ 255 ∧ a ≤ 255 := by
  -- one case per equation of `colorToRgba`, as in `colorToRgb_ok`: each bound is the guard of its branch, of the table of names
  -- (`nameToRgb_le`) or of the hexadecimal notation (`hexToInts_bounds`); the alpha value is 255, tested, or rounded (`roundAlpha_le`)
  unfold colorToRgba at h
  split at h
  · cases h
  · obtain ⟨hc, h⟩ := ite_else_throw_ok.1 h
    cases pure_eq_ok.1 h
    exact ⟨hc.1, hc.2.1, hc.2.2, Nat.le_refl _⟩
  · obtain ⟨hc, h⟩ := ite_else_throw_ok.1 h
    obtain ⟨a', ha, h⟩ := bind_ok.1 h
    cases pure_eq_ok.1 h
    unfold alphaOfInt at ha
    obtain ⟨hle, ha⟩ := ite_else_throw_ok.1 ha
    cases pure_eq_ok.1 ha
    exact ⟨hc.1, hc.2.1, hc.2.2, hle⟩
  · cases h
  · obtain ⟨hc, h⟩ := ite_else_throw_ok.1 h
    obtain ⟨a', ha, h⟩ := bind_ok.1 h
    cases pure_eq_ok.1 h
    unfold alphaOfFloat at ha
    obtain ⟨hk, ha⟩ := ite_else_throw_ok.1 ha
    cases pure_eq_ok.1 ha
    exact ⟨hc.1, hc.2.1, hc.2.2, roundAlpha_le _ hk⟩
  · rename_i s
    split at h
    · rename_i r' g' b' hn
      cases pure_eq_ok.1 h
      have := nameToRgb_le s _ _ _ hn
      exact ⟨this.1, this.2.1, this.2.2, Nat.le_refl _⟩
    · obtain ⟨l, hh, h⟩ := bind_ok.1 h
      have hle := hexToInts_bounds s l hh
      split at h
      · cases pure_eq_ok.1 h; exact ⟨hle _ (by simp), hle _ (by simp), hle _ (by simp), Nat.le_refl _⟩
      · cases pure_eq_ok.1 h; exact ⟨hle _ (by simp), hle _ (by simp), hle _ (by simp), hle _ (by simp)⟩
      · cases h

end Proofs.RasterDocs
