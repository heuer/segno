/-
  Proofs.EndToEndSeg — helper lemmas for Props/EndToEnd.lean: merging of segments
  (`Segments.add_segment`) and `prepare_data` as a list of (bytes, make_segment result) pairs.
-/
import Spec.Decode
import Spec.Sizing
import Model.Encoder
import Proofs.Modes
import Proofs.Roundtrip

namespace Proofs.EndToEnd
open Model Proofs.Modes Proofs.Except

theorem numBits_append : ∀ (n : Nat) (d1 d2 : List Nat), d1.length = 3 * n →
    numBits (d1 ++ d2) = numBits d1 ++ numBits d2
  | 0, d1, d2, h => by
    have : d1 = [] := List.eq_nil_of_length_eq_zero (by omega)
    subst this; simp [Proofs.Roundtrip.numBits_nil]
  | n + 1, a :: b :: c :: rest, d2, h => by
    have hr : rest.length = 3 * n := by simp only [List.length_cons] at h; omega
    simp only [List.cons_append, Proofs.Roundtrip.numBits_cons3, numBits_append n rest d2 hr, List.append_assoc]
  | n + 1, [], _, h => by simp at h
  | n + 1, [_], _, h => by simp at h; omega
  | n + 1, [_, _], _, h => by simp at h; omega

theorem alnumBits_append : ∀ (n : Nat) (d1 d2 : List Nat), d1.length = 2 * n →
    alnumBits (d1 ++ d2) = alnumBits d1 ++ alnumBits d2
  | 0, d1, d2, h => by
    have : d1 = [] := List.eq_nil_of_length_eq_zero (by omega)
    subst this; simp [Proofs.Roundtrip.alnumBits_nil]
  | n + 1, a :: b :: rest, d2, h => by
    have hr : rest.length = 2 * n := by simp only [List.length_cons] at h; omega
    simp only [List.cons_append, Proofs.Roundtrip.alnumBits_cons2, alnumBits_append n rest d2 hr, List.append_assoc]
  | n + 1, [], _, h => by simp at h
  | n + 1, [_], _, h => by simp at h; omega

theorem byteBits_append (d1 d2 : List Nat) : byteBits (d1 ++ d2) = byteBits d1 ++ byteBits d2 := by
  simp [byteBits]

theorem pairs_append : ∀ (n : Nat) (d1 d2 : List Nat), d1.length = 2 * n →
    pairs (d1 ++ d2) = pairs d1 ++ pairs d2
  | 0, d1, d2, h => by
    have : d1 = [] := List.eq_nil_of_length_eq_zero (by omega)
    subst this; simp [pairs]
  | n + 1, a :: b :: rest, d2, h => by
    have hr : rest.length = 2 * n := by simp only [List.length_cons] at h; omega
    simp only [List.cons_append, pairs, pairs_append n rest d2 hr]
  | n + 1, [], _, h => by simp at h
  | n + 1, [_], _, h => by simp at h; omega

theorem allPairs_even (p : Nat → Nat → Bool) (d : List Nat) (h : Spec.allPairs p d = true) : d.length % 2 = 0 := by
  rw [allPairs_eq] at h
  simp only [Bool.and_eq_true, beq_iff_eq] at h
  exact h.1

theorem allPairs_append (p : Nat → Nat → Bool) (d1 d2 : List Nat) (h1 : Spec.allPairs p d1 = true)
    (h2 : Spec.allPairs p d2 = true) : Spec.allPairs p (d1 ++ d2) = true := by
  have e1 := allPairs_even p d1 h1
  have e2 := allPairs_even p d2 h2
  rw [allPairs_eq] at h1 h2 ⊢
  simp only [Bool.and_eq_true, beq_iff_eq] at h1 h2 ⊢
  refine ⟨by rw [List.length_append]; omega, ?_⟩
  rw [pairs_append (d1.length / 2) d1 d2 (by omega), List.all_append, h1.2, h2.2]; rfl

theorem pairBits_append (val : Nat → Nat → Nat) (d1 d2 : List Nat) (h : d1.length % 2 = 0) :
    pairBits val (d1 ++ d2) = pairBits val d1 ++ pairBits val d2 := by
  unfold pairBits
  rw [pairs_append (d1.length / 2) d1 d2 (by omega)]; simp

theorem makeSegment_enc (data : List Nat) (mode : Option Nat) (enc : String) (s : Segment)
    (h : makeSegment data mode enc = .ok s) : s.encoding = if s.mode = 4 then some enc else none := by
  obtain ⟨sm, _, hb⟩ := makeSegment_ok_body data mode enc s h
  obtain ⟨hmode, -, henc⟩ := segBody_ok data enc sm s hb
  rw [hmode, henc]

theorem makeSegment_auto_le (data : List Nat) (mode : Option Nat) (enc : String) (s : Segment)
    (h : makeSegment data mode enc = .ok s) : Spec.autoMode data ≤ s.mode ∨ s.mode = 4 := by
  obtain ⟨sm, hsm, hb⟩ := makeSegment_ok_body data mode enc s h
  rw [(segBody_ok data enc sm s hb).1]
  rcases (segModeOf_eq_ok_iff data mode sm).1 hsm with ⟨-, h⟩ | ⟨-, rfl⟩
  · exact h.symm
  · exact .inl (Nat.le_refl _)

theorem makeSegment_representable (data : List Nat) (mode : Option Nat) (enc : String) (s : Segment)
    (hm : mode ∈ [none, some 1, some 2, some 4, some 8, some 13])
    (h : makeSegment data mode enc = .ok s) : Spec.representable s.mode data = true := by
  obtain ⟨m, -, hr, rfl⟩ := makeSegment_ok_cases data mode enc s hm h
  exact hr

theorem rep_append (p : Nat → Bool) (d1 d2 : List Nat) (h1 : (!d1.isEmpty && d1.all p) = true)
    (h2 : d2.all p = true) : (!(d1 ++ d2).isEmpty && (d1 ++ d2).all p) = true := by
  simp only [Bool.and_eq_true, Bool.not_eq_true', List.isEmpty_eq_false_iff] at h1 ⊢
  refine ⟨by simp [h1.1], ?_⟩
  rw [List.all_append, h1.2, h2]; rfl

theorem representable_append (m : Nat) (d1 d2 : List Nat) (hm : m ∈ [1, 2, 4, 8, 13])
    (h1 : Spec.representable m d1 = true) (h2 : Spec.representable m d2 = true) :
    Spec.representable m (d1 ++ d2) = true := by
  simp only [List.mem_cons, List.mem_nil_iff, or_false] at hm
  rcases hm with rfl | rfl | rfl | rfl | rfl
  · exact rep_append _ d1 d2 h1 (Bool.and_eq_true_iff.1 h2).2
  · exact rep_append _ d1 d2 h1 (Bool.and_eq_true_iff.1 h2).2
  · rfl
  · exact allPairs_append _ d1 d2 h1 h2
  · exact allPairs_append _ d1 d2 h1 h2

/-- behind a whole number of groups the packing continues as from the start -/
theorem packBits_append (m : Nat) (d1 d2 : List Nat) (hm : m ∈ [1, 2, 4, 8, 13]) (hr : Spec.representable m d1 = true)
    (hg : Spec.charCount m d1.length % (if m == 1 then 3 else if m == 2 then 2 else 1) = 0) :
    packBits m (d1 ++ d2) = packBits m d1 ++ packBits m d2 := by
  simp only [List.mem_cons, List.mem_nil_iff, or_false] at hm
  rcases hm with rfl | rfl | rfl | rfl | rfl
  · exact numBits_append (d1.length / 3) d1 d2 (by have : d1.length % 3 = 0 := hg; omega)
  · exact alnumBits_append (d1.length / 2) d1 d2 (by have : d1.length % 2 = 0 := hg; omega)
  · exact byteBits_append d1 d2
  · exact pairBits_append _ d1 d2 (allPairs_even _ d1 hr)
  · exact pairBits_append _ d1 d2 (allPairs_even _ d1 hr)

theorem charCount_append (m : Nat) (d1 d2 : List Nat) (hm : m ∈ [1, 2, 4, 8, 13]) (hr : Spec.representable m d1 = true) :
    Spec.charCount m (d1 ++ d2).length = Spec.charCount m d1.length + Spec.charCount m d2.length := by
  have hdbl (h : d1.length % 2 = 0) : (d1 ++ d2).length / 2 = d1.length / 2 + d2.length / 2 := by
    rw [List.length_append]; omega
  simp only [List.mem_cons, List.mem_nil_iff, or_false] at hm
  rcases hm with rfl | rfl | rfl | rfl | rfl
  · exact List.length_append
  · exact List.length_append
  · exact List.length_append
  · exact hdbl (allPairs_even _ d1 hr)
  · exact hdbl (allPairs_even _ d1 hr)

/-- what `Segments.add_segment` builds when it merges two parts is the segment `make_segment` returns for
    the concatenated content in that mode -/
theorem merged (d1 d2 : List Nat) (m : Option Nat) (e1 e2 : String) (s1 s2 : Segment)
    (hm : m ∈ [none, some 1, some 2, some 4, some 8, some 13])
    (h1 : makeSegment d1 m e1 = .ok s1) (h2 : makeSegment d2 m e2 = .ok s2)
    (hmode : s1.mode = s2.mode) (henc : s1.encoding = s2.encoding)
    (hgroup : s1.charCount % (if s2.mode == 1 then 3 else if s2.mode == 2 then 2 else 1) = 0) :
    makeSegment (d1 ++ d2) (some s1.mode) e2
      = .ok { bits := s1.bits ++ s2.bits, charCount := s1.charCount + s2.charCount, mode := s2.mode, encoding := s2.encoding } := by
  obtain ⟨k, hk, r1, rfl⟩ := makeSegment_ok_cases d1 m e1 s1 hm h1
  obtain ⟨k2, -, r2, rfl⟩ := makeSegment_ok_cases d2 m e2 s2 hm h2
  obtain rfl : k = k2 := hmode
  show makeSegment (d1 ++ d2) (some k) e2 = .ok ⟨packBits k d1 ++ packBits k d2,
    Spec.charCount k d1.length + Spec.charCount k d2.length, k, if k = 4 then some e2 else none⟩
  rw [makeSegment_requested_eq _ k e2 hk, if_pos (representable_append k d1 d2 hk r1 r2), segOf,
    packBits_append k d1 d2 hk r1 hgroup, charCount_append k d1 d2 hk r1]

theorem some_mode_mem (k : Nat) (h : k ∈ [1, 2, 4, 8, 13]) :
    some k ∈ [none, some 1, some 2, some 4, some 8, some 13] := by
  simp only [List.mem_cons, List.not_mem_nil, or_false] at h
  rcases h with rfl | rfl | rfl | rfl | rfl <;> simp

theorem makeSegment_renorm (data : List Nat) (mode : Option Nat) (enc : String) (s : Segment)
    (h : makeSegment data mode enc = .ok s) : makeSegment data (some s.mode) enc = .ok s := by
  have hle := makeSegment_auto_le data mode enc s h
  obtain ⟨sm, hsm, hb⟩ := makeSegment_ok_body data mode enc s h
  have hmode := (segBody_ok data enc sm s hb).1
  rw [hmode] at hle ⊢
  by_cases h4 : sm = 4
  · subst h4; rw [makeSegment_4]; exact hb
  · rw [makeSegment_some data sm enc h4, if_neg (by omega)]; exact hb

def PairOk (x : List Nat × Segment) : Prop :=
  (∀ b ∈ x.1, b < 256) ∧ x.1 ≠ [] ∧ x.2.mode ∈ [1, 2, 4, 8, 13] ∧ ∃ enc, makeSegment x.1 (some x.2.mode) enc = .ok x.2

theorem addSegment_pairs (ps : List (List Nat × Segment)) (d : List Nat) (s : Segment)
    (hps : ∀ x ∈ ps, PairOk x) (hs : PairOk (d, s)) :
    ∃ ps' : List (List Nat × Segment), addSegment (ps.map (·.2)) s = ps'.map (·.2)
      ∧ (ps'.map (·.1)).flatten = (ps.map (·.1)).flatten ++ d ∧ ∀ x ∈ ps', PairOk x := by
  rcases List.eq_nil_or_concat ps with rfl | ⟨init, ⟨dp, prev⟩, hcat⟩
  · exact ⟨[(d, s)], by simp [addSegment], by simp, by simpa using hs⟩
  · rw [List.concat_eq_append] at hcat
    subst hcat
    rw [List.map_append, List.map_singleton]
    rcases addSegment_concat (init.map (·.2)) prev s with ⟨hmode, henc, hgrp, h⟩ | h <;> rw [h]
    · obtain ⟨hb1, hn1, hm1, e1, hk1⟩ := hps (dp, prev) (by simp)
      obtain ⟨hb2, hn2, hm2, e2, hk2⟩ := hs
      dsimp only at hb1 hn1 hm1 hk1 hb2 hn2 hm2 hk2
      rw [← hmode] at hk2
      have hmg := merged dp d (some prev.mode) e1 e2 prev s (some_mode_mem _ hm1) hk1 hk2 hmode henc
        hgrp
      refine ⟨init ++ [(dp ++ d, (⟨prev.bits ++ s.bits, prev.charCount + s.charCount, s.mode, s.encoding⟩ : Segment))],
        by simp, by simp, ?_⟩
      intro x hx
      rcases List.mem_append.1 hx with hx | hx
      · exact hps x (List.mem_append_left _ hx)
      · simp only [List.mem_singleton] at hx; subst hx
        refine ⟨?_, by simp [hn1], hm2, e2, ?_⟩
        · intro b hb
          rcases List.mem_append.1 hb with hb | hb
          · exact hb1 b hb
          · exact hb2 b hb
        · show makeSegment (dp ++ d) (some s.mode) e2 = _
          rw [← hmode]; rw [← hmode] at hmg; exact hmg
    · refine ⟨init ++ [(dp, prev)] ++ [(d, s)], by simp, by simp, ?_⟩
      intro x hx
      rcases List.mem_append.1 hx with hx | hx
      · exact hps x hx
      · simp only [List.mem_singleton] at hx; subst hx; exact hs

theorem prepareData_pairs (parts : List Part) (segs : List Segment)
    (hp : ∀ p ∈ parts, (∀ b ∈ p.data, b < 256) ∧ p.data ≠ [] ∧ p.mode ∈ [none, some 1, some 2, some 4, some 8, some 13])
    (h : prepareData parts = .ok segs) :
    ∃ ps : List (List Nat × Segment), segs = ps.map (·.2)
      ∧ (ps.map (·.1)).flatten = (parts.map (·.data)).flatten ∧ ∀ x ∈ ps, PairOk x := by
  refine foldlM_ok_inv (fun pre segs => ∃ ps : List (List Nat × Segment), segs = ps.map (·.2)
      ∧ (ps.map (·.1)).flatten = (pre.map (·.data)).flatten ∧ ∀ x ∈ ps, PairOk x)
    parts [] [] ⟨[], rfl, rfl, by simp⟩ (fun pre p acc acc' hmem hacc h => ?_) h
  obtain ⟨ps, rfl, hflat, hps⟩ := hacc
  obtain ⟨s, hs, h⟩ := bind_ok.1 h
  cases h
  obtain ⟨hb, hne, hm⟩ := hp p hmem
  have hok : PairOk (p.data, s) :=
    ⟨hb, hne, by obtain ⟨m, hm5, -, rfl⟩ := makeSegment_ok_cases _ _ _ _ hm hs; exact hm5, p.encoding, makeSegment_renorm _ _ _ _ hs⟩
  obtain ⟨ps', e', f', ok'⟩ := addSegment_pairs ps p.data s hps hok
  exact ⟨ps', e', by rw [f', hflat]; simp, ok'⟩

end Proofs.EndToEnd
