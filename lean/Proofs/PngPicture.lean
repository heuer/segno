/-
  Proofs.PngPicture — what `png_model_picture_types` (Props/C09Png.lean) speaks of: the colour code the
  reference reader finds at a pixel (`readCode`), the module type the pixel has to show (`pixelType`),
  and the cell lemmas of its proof.
-/
import Proofs.PngIndex

namespace Proofs.Png

open Model Spec Proofs.Raster

/-- the colour code the reference reader obtains for pixel (x, y): scanlines reconstructed (filter
    types 0 / 2, `Spec.unfilterUp`) and unpacked (`Spec.unpackRow`) -/
def readCode (lines : List Line) (d W x y : Nat) : Nat :=
  (((recon [] lines).map (unpackRow d W)).getD y []).getD x 0

/-- the module type whose colour pixel (x, y) has to show: what `matrix_iter_verbose` (model, scale s,
    border b) reports for the pixel if the expensive iterator is used; with the cheap iterator (two-tone
    map) "dark finder module" for a dark module and "quiet zone" for a light one -/
def pixelType (p : PaletteInfo) (M A : List (List Nat)) (w h s b x y : Nat) : Nat :=
  if useVerbose p then verboseCell M A w h b (y / s) (x / s)
  else if pixelOf (cellL M) s b x y ≠ 0 then Gen.TYPE_FINDER_PATTERN_DARK else Gen.TYPE_QUIET_ZONE

theorem readCode_pngLines (idx : List (List Nat)) (w d s b qz : Nat) (hk : 0 < 8 / d) (hs : 0 < s) (hqz : qz < 2 ^ d)
    (hrows : ∀ r ∈ idx, r.length = w ∧ ∀ v ∈ r, v < 2 ^ d) (x y : Nat)
    (hx : x < (w + 2 * b) * s) (hy : y < (idx.length + 2 * b) * s) :
    readCode (pngLines idx w d s b qz) d ((w + 2 * b) * s) x y = idxCell idx w b qz (y / s) (x / s) := by
  unfold readCode
  rw [recon_unpack idx w d s b qz hk hs hqz hrows]
  exact idxPicture_pixel idx w s b qz hs x y hx hy

theorem verboseCell_inside (M A : List (List Nat)) (w h b ii jj : Nat)
    (hin : b ≤ ii ∧ ii < b + h ∧ b ≤ jj ∧ jj < b + w) :
    verboseCell M A w h b ii jj = verboseCell M A w h 0 (ii - b) (jj - b) := by
  unfold verboseCell
  have h0 : 0 ≤ ii - b ∧ ii - b < 0 + h ∧ 0 ≤ jj - b ∧ jj - b < 0 + w := by omega
  simp only [hin, and_self, if_true, h0, Nat.sub_zero]

theorem verboseCell_outside (M A : List (List Nat)) (w h b ii jj : Nat)
    (hout : ¬ (b ≤ ii ∧ ii < b + h ∧ b ≤ jj ∧ jj < b + w)) :
    verboseCell M A w h b ii jj = Gen.TYPE_QUIET_ZONE := by
  unfold verboseCell
  simp only [hout, if_false]

theorem pixelType_unit (p : PaletteInfo) (M A : List (List Nat)) (w h i j : Nat) :
    pixelType p M A w h 1 0 j i
      = if useVerbose p then verboseCell M A w h 0 i j
        else if cellL M i j = 0 then Gen.TYPE_QUIET_ZONE else Gen.TYPE_FINDER_PATTERN_DARK := by
  unfold pixelType pixelOf
  simp only [Nat.div_one, Nat.zero_le, and_self, if_true, Nat.sub_zero]
  by_cases h0 : cellL M i j = 0 <;> simp [h0]

theorem pixelType_inside (p : PaletteInfo) (M A : List (List Nat)) (w h s b x y : Nat)
    (hin : b ≤ y / s ∧ y / s < b + h ∧ b ≤ x / s ∧ x / s < b + w) :
    pixelType p M A w h s b x y = pixelType p M A w h 1 0 (x / s - b) (y / s - b) := by
  unfold pixelType pixelOf
  simp only [verboseCell_inside M A w h b _ _ hin, hin.1, hin.2.2.1, Nat.div_one, Nat.zero_le, and_self, if_true, Nat.sub_zero]

theorem pixelType_outside (p : PaletteInfo) (M A : List (List Nat)) (w h s b x y : Nat) (hM : WellFormed M w h)
    (hout : ¬ (b ≤ y / s ∧ y / s < b + h ∧ b ≤ x / s ∧ x / s < b + w)) :
    pixelType p M A w h s b x y = Gen.TYPE_QUIET_ZONE := by
  unfold pixelType pixelOf
  rw [verboseCell_outside M A w h b _ _ hout]
  by_cases hb : b ≤ y / s ∧ b ≤ x / s
  · rw [if_pos hb, cellL_outside M w h hM _ _ (by omega)]
    simp
  · simp [hb]

theorem isSome_of_keys (p : PaletteInfo) (clrMap : List (Nat × PColor))
    (hkeys : ∀ t, cmGet p.clrMap t = none ↔ cmGet clrMap t = none) (t : Nat)
    (h : (cmGet p.clrMap t).isSome = true) : ∃ c, cmGet clrMap t = some c := by
  cases hc : cmGet clrMap t with
  | some c => exact ⟨c, rfl⟩
  | none => rw [(hkeys t).2 hc] at h; cases h

theorem border_pos (w h b ii jj : Nat) (hi : ii < h + 2 * b) (hj : jj < w + 2 * b)
    (hout : ¬ (b ≤ ii ∧ ii < b + h ∧ b ≤ jj ∧ jj < b + w)) : 0 < b := by
  omega

theorem rows_bound (idx : List (List Nat)) (w h bound : Nat) (hlen : idx.length = h) (hrowlen : ∀ r ∈ idx, r.length = w)
    (hcell : ∀ i j, i < h → j < w → (idx.getD i []).getD j 0 < bound) :
    ∀ r ∈ idx, r.length = w ∧ ∀ v ∈ r, v < bound := by
  intro r hr
  refine ⟨hrowlen r hr, ?_⟩
  intro v hv
  obtain ⟨i, hi, rfl⟩ := List.mem_iff_getElem.1 hr
  obtain ⟨j, hj, rfl⟩ := List.mem_iff_getElem.1 hv
  have hw : idx[i].length = w := hrowlen _ (List.getElem_mem hi)
  have := hcell i j (by omega) (by omega)
  simpa [List.getD_eq_getElem?_getD, hi, hj] using this

/-- both iterators: the index grid holds, for every module, the palette index of the module's type, and
    that type has an entry in the colour map (else `KeyError`) -/
theorem indexRows_types (p : PaletteInfo) (M : List (List Nat)) (w h : Nat) (idx : List (List Nat))
    (hM : WellFormed M w h) (hidx : indexRows p M w h = .ok idx) :
    ∃ A : List (List Nat), (useVerbose p = true → alignmentMatrix w = .ok A) ∧ idx.length = h ∧ (∀ r ∈ idx, r.length = w)
      ∧ ∀ i j, i < h → j < w → (idx.getD i []).getD j 0 = typeIndex p (pixelType p M A w h 1 0 j i)
          ∧ ((useVerbose p = false → (cmGet p.clrMap Gen.TYPE_QUIET_ZONE).isSome = true
                ∧ (cmGet p.clrMap Gen.TYPE_FINDER_PATTERN_DARK).isSome = true) →
              (cmGet p.clrMap (pixelType p M A w h 1 0 j i)).isSome = true) := by
  by_cases hv : useVerbose p = true
  · obtain ⟨A, hA, hlen, hrowlen, hcells⟩ := indexRows_verbose p M w h idx hv hidx
    refine ⟨A, fun _ => hA, hlen, hrowlen, fun i j hi hj => ?_⟩
    rw [pixelType_unit, if_pos hv]
    exact ⟨(hcells i j hi hj).2, fun _ => (hcells i j hi hj).1⟩
  · have hv' : useVerbose p = false := by simpa using hv
    obtain ⟨hlen, hrowlen, hcells⟩ := indexRows_cheap p M w h idx hv' hM hidx
    refine ⟨[], fun h' => absurd h' hv, hlen, hrowlen, fun i j hi hj => ?_⟩
    rw [pixelType_unit, if_neg hv]
    refine ⟨(hcells i j hi hj).2, fun hcheap => ?_⟩
    split
    · exact (hcheap hv').1
    · exact (hcheap hv').2

theorem index_bounds (p : PaletteInfo) (hlt : ∀ t, typeIndex p t < 2 ^ p.depth)
    (w h : Nat) (idx : List (List Nat)) (hlenidx : idx.length = h) (hrowlen : ∀ r ∈ idx, r.length = w)
    (hcells : ∀ i j, i < h → j < w → ∃ t, (idx.getD i []).getD j 0 = typeIndex p t) :
    (∀ r ∈ idx, r.length = w ∧ ∀ v ∈ r, v < 2 ^ p.depth) ∧ typeIndex p Gen.TYPE_QUIET_ZONE < 2 ^ p.depth := by
  refine ⟨rows_bound idx w h _ hlenidx hrowlen fun i j hi hj => ?_, hlt _⟩
  obtain ⟨t, hval⟩ := hcells i j hi hj
  rw [hval]
  exact hlt t

end Proofs.Png
