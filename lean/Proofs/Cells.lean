/-
  Proofs.Cells — the matrix builders of the model cell by cell. A builder is a loop of `set2`, and a loop of steps
  that act cell by cell runs on each cell separately (`Cellwise`, Proofs/Cellwise.lean, here on the encoder's
  arrays), so reading a cell of a built matrix is a fold over numbers, and `foldl_ite_val` closes it: "if some step
  touches the cell, the value those steps write, else the old one". This gives make_matrix, add_finder_patterns and
  add_alignment_patterns in closed form for every symbol size, and from them the ISO skeleton (`m0_micro`, `m0_qr`)
  for every version.
-/
import Proofs.Placement
import Proofs.Align
import Proofs.PlacementSkeleton

namespace Proofs.Cells
open Model Proofs.Placement

theorem Cellwise.set2 (n i j x : Nat) :
    Cellwise Sq get2 n (fun m => set2 m i j x) (fun a b d => if a = i ∧ b = j then x else d) := by
  intro m h
  refine ⟨(Sq_set2 m n i j x).2 h, fun a b ha hb => ?_⟩
  rw [get2_set2_sq m n i j x a b h]
  show _ = if a = i ∧ b = j then x else get2 m a b
  by_cases hc : a = i ∧ b = j
  · rw [if_pos hc, if_pos ⟨hc.1, hc.2, hc.1 ▸ ha, hc.2 ▸ hb⟩]
  · rw [if_neg hc, if_neg fun h' => hc ⟨h'.1, h'.2.1⟩]

theorem Cellwise.modify (n i j : Nat) (h : Nat → Nat) :
    Cellwise Sq get2 n (fun m => Model.set2 m i j (h (get2 m i j))) (fun a b d => if a = i ∧ b = j then h d else d) := by
  intro m hs
  obtain ⟨s1, c1⟩ := Cellwise.set2 n i j (h (get2 m i j)) m hs
  refine ⟨s1, fun a b ha hb => (c1 a b ha hb).trans ?_⟩
  show (if a = i ∧ b = j then h (get2 m i j) else get2 m a b) = if a = i ∧ b = j then h (get2 m a b) else get2 m a b
  by_cases hc : a = i ∧ b = j
  · rw [if_pos hc, if_pos hc, hc.1, hc.2]
  · rw [if_neg hc, if_neg hc]

theorem sq_replicate (n x : Nat) : Sq (Array.replicate n (Array.replicate n x)) n :=
  ⟨by simp, fun i hi => by simp [Array.getD_eq_getD_getElem?, hi]⟩

theorem get2_replicate (n x a b : Nat) (ha : a < n) (hb : b < n) :
    get2 (Array.replicate n (Array.replicate n x)) a b = x := by
  simp [get2, Array.getD_eq_getD_getElem?, ha, hb]

/-- `make_matrix` of a Micro QR symbol, cell by cell: timing along row 0 and column 0 from module 8 on,
    the format area light, 2 elsewhere -/
theorem get2_makeMatrix_micro (n : Nat) (hn : n < 21) :
    Sq (makeMatrix n) n ∧ ∀ a b, a < n → b < n → get2 (makeMatrix n) a b =
      if (a = 0 ∧ 8 ≤ b) ∨ (b = 0 ∧ 8 ≤ a) then (a + b + 1) % 2
      else if (b = 8 ∧ a ≤ 8) ∨ (a = 8 ∧ b ≤ 8) then 0 else 2 := by
  have H := ((Cellwise.foldl (n := n) (List.range 9) fun i _ => (Cellwise.set2 n i 8 0).comp (Cellwise.set2 n 8 i 0)).comp
    (Cellwise.foldl (List.range (n - 8)) fun k _ =>
      (Cellwise.set2 n (8 + k) 0 ((k + 1) % 2)).comp (Cellwise.set2 n 0 (8 + k) ((k + 1) % 2)))) _ (sq_replicate n 2)
  unfold makeMatrix
  simp only [hn, decide_true, Bool.not_true, if_true, if_false, Bool.false_eq_true, show ¬ n > 41 by omega]
  refine ⟨H.1, fun a b ha hb => (H.2 a b ha hb).trans ?_⟩
  clear H
  simp only [ite_ite_or, get2_replicate n 2 a b ha hb]
  rw [foldl_ite_val _ _ _ ((a + b + 1) % 2) _ (by intro t _ h; omega), foldl_ite_val _ _ _ 0 _ (fun _ _ _ => rfl)]
  simp only [List.mem_range]
  refine ite_iff ⟨?_, fun h => ⟨a + b - 8, by omega⟩⟩ rfl (ite_iff ⟨?_, fun h => ⟨a + b - 8, by omega⟩⟩ rfl rfl)
  · rintro ⟨t, ht, h⟩; omega
  · rintro ⟨t, ht, h⟩; omega

/-- `make_matrix` of a QR symbol, cell by cell, for every side n ≥ 21: the timing lines between the finder
    patterns, the format areas (row / column 8 beside the three finder patterns) light, from n > 41 the two
    version areas light, 2 elsewhere -/
theorem get2_makeMatrix_qr (n : Nat) (hn : 21 ≤ n) :
    Sq (makeMatrix n) n ∧ ∀ a b, a < n → b < n → get2 (makeMatrix n) a b =
      if (b = 6 ∧ 8 ≤ a ∧ a + 8 < n) ∨ (a = 6 ∧ 8 ≤ b ∧ b + 8 < n) then (a + b + 1) % 2
      else if a = 8 ∧ (b ≤ 8 ∨ n ≤ b + 8) ∨ b = 8 ∧ (a ≤ 8 ∨ n ≤ a + 8) then 0
      else if 41 < n ∧ ((a < 6 ∧ n - 11 ≤ b) ∧ b + 9 ≤ n ∨ (b < 6 ∧ n - 11 ≤ a) ∧ a + 9 ≤ n) then 0
      else 2 := by
  have H := (((Cellwise.ite (c := n > 41) (Cellwise.foldl (n := n) (List.range 6) fun i _ =>
      (((((Cellwise.set2 n i (n - 11) 0).comp (Cellwise.set2 n i (n - 10) 0)).comp (Cellwise.set2 n i (n - 9) 0)).comp
        (Cellwise.set2 n (n - 11) i 0)).comp (Cellwise.set2 n (n - 10) i 0)).comp (Cellwise.set2 n (n - 9) i 0))
      (Cellwise.id n)).comp
    (Cellwise.foldl (List.range 9) fun i _ => (((Cellwise.set2 n i 8 0).comp (Cellwise.set2 n 8 i 0)).comp
      (Cellwise.set2 n (if (i == 0) = true then 0 else n - i) 8 0)).comp
      (Cellwise.set2 n 8 (if (i == 0) = true then 0 else n - i) 0))).comp
    (Cellwise.foldl (List.range (n - 8 - 8)) fun k _ =>
      (Cellwise.set2 n (8 + k) 6 ((k + 1) % 2)).comp (Cellwise.set2 n 6 (8 + k) ((k + 1) % 2)))) _ (sq_replicate n 2)
  unfold makeMatrix
  simp only [show ¬ n < 21 by omega, decide_false, Bool.not_false, if_true, if_false]
  refine ⟨H.1, fun a b ha hb => (H.2 a b ha hb).trans ?_⟩
  clear H
  conv => lhs; simp only [ite_ite_or, get2_replicate n 2 a b ha hb, beq_iff_eq]
  rw [foldl_ite_val _ _ _ ((a + b + 1) % 2) _ (by intro t _ h; omega), foldl_ite_val _ _ _ 0 _ (fun _ _ _ => rfl),
    foldl_ite_val _ _ _ 0 _ (fun _ _ _ => rfl)]
  simp only [List.mem_range]
  -- each `∃ t < k, …` is an interval test; the step and the write are named, so that `omega` has no disjunct to choose
  refine ite_iff ⟨?_, fun h => h.elim (fun h => ⟨a - 8, by omega, Or.inr (by omega)⟩) (fun h => ⟨b - 8, by omega, Or.inl (by omega)⟩)⟩
    rfl (ite_iff ⟨?_, ?_⟩ rfl ?_)
  · rintro ⟨t, ht, h | h⟩ <;> omega
  · rintro ⟨t, ht, h⟩
    by_cases t0 : t = 0
    · simp only [t0, if_true] at h; omega
    · simp only [t0, if_false] at h; rcases h with h | h | h | h <;> omega
  · rintro (⟨h8, h | h⟩ | ⟨h8, h | h⟩)
    · exact ⟨b, by omega, Or.inr (Or.inr (Or.inl ⟨h8, rfl⟩))⟩
    · by_cases hb8 : b ≤ 8
      · exact ⟨b, by omega, Or.inr (Or.inr (Or.inl ⟨h8, rfl⟩))⟩
      · exact ⟨n - b, by omega, Or.inl ⟨h8, by rw [if_neg (by omega)]; omega⟩⟩
    · exact ⟨a, by omega, Or.inr (Or.inr (Or.inr ⟨rfl, h8⟩))⟩
    · by_cases ha8 : a ≤ 8
      · exact ⟨a, by omega, Or.inr (Or.inr (Or.inr ⟨rfl, h8⟩))⟩
      · exact ⟨n - a, by omega, Or.inr (Or.inl ⟨by rw [if_neg (by omega)]; omega, h8⟩)⟩
  · by_cases h41 : n > 41
    · simp only [h41, if_true, true_and]
      refine ite_iff ⟨?_, ?_⟩ rfl rfl
      · rintro ⟨t, ht, h | h | h | h | h | h⟩ <;> omega
      · rintro (⟨⟨h6, h⟩, h'⟩ | ⟨⟨h6, h⟩, h'⟩)
        · exact ⟨a, h6, Or.inr (Or.inr (Or.inr (by omega)))⟩
        · obtain e | e | e : a = n - 9 ∨ a = n - 10 ∨ a = n - 11 := by omega
          · exact ⟨b, h6, Or.inl ⟨e, rfl⟩⟩
          · exact ⟨b, h6, Or.inr (Or.inl ⟨e, rfl⟩)⟩
          · exact ⟨b, h6, Or.inr (Or.inr (Or.inl ⟨e, rfl⟩))⟩
    · simp only [h41, if_false, false_and]

theorem sq_makeMatrix (n : Nat) : Sq (makeMatrix n) n :=
  if hn : n < 21 then (get2_makeMatrix_micro n hn).1 else (get2_makeMatrix_qr n (by omega)).1

/-- the two nested loops of `add_finder_patterns` and `add_alignment_patterns` -/
theorem Cellwise.block (n i0 j0 h w : Nat) (f : Nat → Nat → Nat) :
    Cellwise Sq get2 n (fun m => (List.range h).foldl (fun m r => (List.range w).foldl (fun m c =>
        Model.set2 m (i0 + r) (j0 + c) (f r c)) m) m)
      (fun a b d => if (i0 ≤ a ∧ a < i0 + h) ∧ j0 ≤ b ∧ b < j0 + w then f (a - i0) (b - j0) else d) := by
  refine (Cellwise.foldl _ fun r _ => Cellwise.foldl _ fun c _ => Cellwise.set2 n (i0 + r) (j0 + c) (f r c)).congr ?_
  intro a b d
  have inner : ∀ r d, (List.range w).foldl (fun d c => if a = i0 + r ∧ b = j0 + c then f r c else d) d
      = if a = i0 + r ∧ ∃ c ∈ List.range w, b = j0 + c then f r (b - j0) else d := fun r d => by
    rw [foldl_ite_val _ _ _ (f r (b - j0)) _ (by intro c _ hc; rw [hc.2, Nat.add_sub_cancel_left])]
    exact ite_iff ⟨fun ⟨c, hc, h1, h2⟩ => ⟨h1, c, hc, h2⟩, fun ⟨h1, c, hc, h2⟩ => ⟨c, hc, h1, h2⟩⟩ rfl rfl
  simp only [inner]
  rw [foldl_ite_val _ _ _ (f (a - i0) (b - j0)) _ (by intro r _ hr; rw [hr.1, Nat.add_sub_cancel_left])]
  simp only [List.mem_range]
  refine ite_iff ⟨?_, fun hh => ⟨a - i0, by omega, by omega, b - j0, by omega, by omega⟩⟩ rfl rfl
  rintro ⟨r, hr, h1, c, hc, h2⟩; omega

/-- the value `add_finder_patterns` takes from `FINDER_PATTERN` (finder pattern with its separator) -/
abbrev fp (r c : Nat) : Nat := (Gen.FINDER_PATTERN.getD r []).getD c 0

theorem cw_addFinderPatterns (n : Nat) :
    Cellwise Sq get2 n (fun m => addFinderPatterns m n) (fun a b d =>
      (if n < 21 then [(0, 0, 1, 1)] else [(0, 0, 1, 1), (0, n - 8, 1, 0), (n - 8, 0, 0, 1)]).foldl
        (fun d (x : Nat × Nat × Nat × Nat) =>
          if (x.1 ≤ a ∧ a < x.1 + 8) ∧ x.2.1 ≤ b ∧ b < x.2.1 + 8 then fp (x.2.2.1 + (a - x.1)) (x.2.2.2 + (b - x.2.1)) else d) d) := by
  unfold addFinderPatterns
  refine Cellwise.foldl _ fun x _ => ?_
  obtain ⟨i, j, off, sep⟩ := x
  exact Cellwise.block n i j 8 8 (fun r c => fp (off + r) (sep + c))

/-- `add_finder_patterns` on a QR symbol of any side n ≥ 21, cell by cell: three 8 × 8 blocks -/
theorem get2_addFinderPatterns_qr (m : Matrix) (n a b : Nat) (hs : Sq m n) (hn : 21 ≤ n) (ha : a < n) (hb : b < n) :
    get2 (addFinderPatterns m n) a b =
      if a < 8 ∧ b < 8 then fp (1 + a) (1 + b)
      else if a < 8 ∧ n - 8 ≤ b then fp (1 + a) (b - (n - 8))
      else if n - 8 ≤ a ∧ b < 8 then fp (a - (n - 8)) (1 + b)
      else get2 m a b := by
  refine ((cw_addFinderPatterns n m hs).2 a b ha hb).trans ?_
  simp only [show ¬ n < 21 by omega, if_false, List.foldl_cons, List.foldl_nil, Nat.zero_add, Nat.sub_zero, Nat.zero_le,
    true_and]
  -- the three blocks do not meet: the order in which they are written does not matter
  have e1 : ((n - 8 ≤ a ∧ a < n - 8 + 8) ∧ b < 8) ↔ (n - 8 ≤ a ∧ b < 8) := by omega
  have e2 : (a < 8 ∧ n - 8 ≤ b ∧ b < n - 8 + 8) ↔ (a < 8 ∧ n - 8 ≤ b) := by omega
  simp only [e1, e2]
  repeat' split
  all_goals first | rfl | omega

theorem get2_addFinderPatterns_micro (m : Matrix) (n a b : Nat) (hs : Sq m n) (hn : n < 21) (ha : a < n) (hb : b < n) :
    get2 (addFinderPatterns m n) a b = if a < 8 ∧ b < 8 then fp (1 + a) (1 + b) else get2 m a b := by
  refine ((cw_addFinderPatterns n m hs).2 a b ha hb).trans ?_
  simp only [hn, if_true, List.foldl_cons, List.foldl_nil, Nat.zero_add, Nat.sub_zero, Nat.zero_le, true_and]

open Proofs.Align (Centres stamped inBlock atFinder cdist alignVal stamp_cell)
open Proofs.Placement2 (skelCell)

theorem alignmentPattern_val : ∀ r < 5, ∀ c < 5, alignmentPattern.getD (r * 5 + c) 0 =
    if max (if r ≥ 2 then r - 2 else 2 - r) (if c ≥ 2 then c - 2 else 2 - c) = 1 then 0 else 1 := by decide

theorem addAlignmentPatterns_small (m : Matrix) (n : Nat) (h : n < 25) : addAlignmentPatterns m n = .ok m := by
  have : Int.fdiv ((n : Int) - 17) 4 < 2 := by
    rw [Int.fdiv_eq_ediv_of_nonneg _ (by decide)]; omega
  simp [addAlignmentPatterns, this, pure, Except.pure]

theorem addAlignmentPatterns_big (m : Matrix) (k : Nat) (pos : List Nat) (mn mx : Nat)
    (h1 : Gen.ALIGNMENT_POS[k]? = some pos) (h2 : pos.head? = some mn) (h3 : pos.getLast? = some mx) :
    addAlignmentPatterns m (4 * k + 25) = .ok ((pos.map (fun x => pos.map (fun y => (x, y)))).flatten.foldl
      (fun m (q : Nat × Nat) =>
        if ((q.1, q.2) == (mn, mn) || (q.1, q.2) == (mn, mx) || (q.1, q.2) == (mx, mn)) = true then m
        else (List.range 5).foldl (fun m r => (List.range 5).foldl (fun m c =>
          set2 m (q.1 - 2 + r) (q.2 - 2 + c) (alignmentPattern.getD (r * 5 + c) 0)) m) m) m) := by
  have hver : Int.fdiv (((4 * k + 25 : Nat) : Int) - 17) 4 = (k : Int) + 2 := by
    rw [Int.fdiv_eq_ediv_of_nonneg _ (by omega)]; omega
  unfold addAlignmentPatterns
  simp only [hver, show ¬ ((k : Int) + 2 < 2) by omega, if_false, show ((k : Int) + 2 - 2).toNat = k by omega, h1, h2, h3]
  rfl

/-- `add_alignment_patterns` for any row `pos` of the table that satisfies `Centres`, cell by cell: the
    ISO value in the blocks of the stamped centres, the old value elsewhere -/
theorem get2_addAlignmentPatterns (m : Matrix) (k : Nat) (pos : List Nat)
    (hpos : Gen.ALIGNMENT_POS[k]? = some pos) (hc : Centres (4 * k + 25) pos) (hs : Sq m (4 * k + 25)) :
    ∃ m', addAlignmentPatterns m (4 * k + 25) = .ok m' ∧ Sq m' (4 * k + 25) ∧ ∀ a b, a < 4 * k + 25 → b < 4 * k + 25 →
      get2 m' a b = if (stamped (4 * k + 25) pos).any (fun c => inBlock c a b) then alignVal pos a b else get2 m a b := by
  have H := Cellwise.foldl (stamped (4 * k + 25) pos) (fun q _ =>
    Cellwise.block (4 * k + 25) (q.1 - 2) (q.2 - 2) 5 5 (fun r c => alignmentPattern.getD (r * 5 + c) 0)) m hs
  refine ⟨_, (addAlignmentPatterns_big m k pos _ _ hpos hc.head hc.last).trans (congrArg _ ?_), H.1,
    fun a b ha hb => (H.2 a b ha hb).trans (stamp_cell hc _ alignmentPattern_val a b _)⟩
  -- a loop that skips three centres is the loop over the others
  simp only [stamped, List.foldl_filter]
  congr; funext m c
  show (if atFinder (4 * k + 25) c = true then _ else _) = _
  cases atFinder (4 * k + 25) c <;> rfl

open Proofs.Placement2 (m0L skelRows) in
theorem m0L_of_cells (v : Int) {m' : Matrix}
    (hm : addAlignmentPatterns (addFinderPatterns (makeMatrix (Spec.size v)) (Spec.size v)) (Spec.size v) = .ok m')
    (hs : Sq m' (Spec.size v)) (hc : ∀ a b, a < Spec.size v → b < Spec.size v → get2 m' a b = skelCell 0 v a b) :
    m0L (Spec.size v) = .ok (skelRows 0 v) := by
  unfold m0L
  rw [hm]
  exact congrArg Except.ok (Proofs.Placement2.toRows_of_cells _ m' _ hs hc)

theorem fp_topleft : ∀ a < 8, ∀ b < 8, fp (1 + a) (1 + b) = if a < 7 ∧ b < 7 then Spec.finderBit a b else 0 := by
  decide

theorem fp_topright : ∀ a < 8, ∀ c < 8, fp (1 + a) c = if a < 7 ∧ 1 ≤ c then Spec.finderBit a (c - 1) else 0 := by
  decide

theorem fp_bottomleft : ∀ r < 8, ∀ b < 8, fp r (1 + b) = if 1 ≤ r ∧ b < 7 then Spec.finderBit (r - 1) b else 0 := by
  decide

/-- the skeleton of a Micro QR symbol, every version below 1: make_matrix + add_finder_patterns
    (add_alignment_patterns does nothing) hold the ISO skeleton cell by cell -/
theorem m0_micro (v : Int) (h1 : -3 ≤ v) (h2 : v < 1) :
    Proofs.Placement2.m0L (Spec.size v) = .ok (Proofs.Placement2.skelRows 0 v) := by
  have hn : Spec.size v < 21 := (Proofs.Size.size_lt_21_iff v).2 h2
  have hn' := Proofs.Size.le_size_micro v h1 h2
  obtain ⟨hmk, hcell⟩ := get2_makeMatrix_micro _ hn
  refine m0L_of_cells v (addAlignmentPatterns_small _ _ (by omega)) (cw_addFinderPatterns _ _ hmk).1 fun a b ha hb => ?_
  generalize Spec.size v = n at *
  · rw [get2_addFinderPatterns_micro _ n a b hmk hn ha hb, hcell a b ha hb]
    unfold skelCell Spec.fixedValue Spec.kind
    simp only [Spec.isMicro, h2, decide_true, if_true, Bool.and_eq_true, Bool.or_eq_true, decide_eq_true_eq, beq_iff_eq]
    -- region by region in the order of `Spec.kind`; each test settled makes the `match` reduce
    by_cases c1 : a < 7 ∧ b < 7
    · rw [if_pos (by omega), fp_topleft a (by omega) b (by omega)]
      simp only [c1, and_self, if_true, Option.getD_some]
    · by_cases c2 : (a = 7 ∧ b ≤ 7) ∨ (b = 7 ∧ a ≤ 7)
      · rw [if_pos (by omega), fp_topleft a (by omega) b (by omega), if_neg c1]
        simp only [c1, c2, if_false, if_true, Option.getD_some]
      · rw [if_neg (by omega)]
        by_cases c3 : a = 0 ∨ b = 0
        · rw [if_pos (by omega)]
          simp only [c1, c2, c3, if_false, if_true, Option.getD_some]
          split <;> omega
        · rw [if_neg (by omega)]
          by_cases c4 : (a = 8 ∧ 1 ≤ b) ∧ b ≤ 8 ∨ (b = 8 ∧ 1 ≤ a) ∧ a ≤ 8
          · rw [if_pos (by omega)]
            simp only [c1, c2, c3, c4, if_false, if_true]
          · rw [if_neg (by omega)]
            simp only [c1, c2, c3, c4, if_false]

/-- the QR skeleton before `add_alignment_patterns`, for every version v ≥ 1 (no bound above): off the
    alignment blocks make_matrix + add_finder_patterns give the ISO skeleton (dark module not yet set) -/
theorem skeleton_qr_pre (v : Int) (hv : 1 ≤ v) (a b : Nat) (ha : a < Spec.size v) (hb : b < Spec.size v)
    (hal : Spec.inAlignment v.toNat (Spec.size v) a b = false) :
    get2 (addFinderPatterns (makeMatrix (Spec.size v)) (Spec.size v)) a b = skelCell 0 v a b := by
  have hn := Proofs.Size.le_size_qr v hv
  have hN := Proofs.Size.size_qr v hv
  obtain ⟨hmk, hcell⟩ := get2_makeMatrix_qr _ hn
  rw [get2_addFinderPatterns_qr _ _ a b hmk hn ha hb, hcell a b ha hb]
  unfold skelCell Spec.fixedValue
  simp only [Spec.isMicro, show ¬ v < 1 by omega, decide_false, Bool.false_eq_true, if_false, beq_iff_eq]
  -- the region `K` is read off `Spec.kind` case by case; once it is known the two `match`es reduce
  generalize hk : Spec.kind v a b = K
  unfold Spec.kind at hk
  simp only [Spec.isMicro, show ¬ v < 1 by omega, hal, decide_false, if_false, Bool.false_eq_true, Bool.and_eq_true,
    Bool.or_eq_true, decide_eq_true_eq, beq_iff_eq, ge_iff_le] at hk
  generalize Spec.size v = n at *
  have h7 : 7 ≤ v ↔ 41 < n := by omega
  simp only [h7] at hk
  clear hcell hmk hal hN h7 hv
  by_cases b1 : a < 8 ∧ b < 8
  · -- top left block: finder pattern, or its separator
    rw [if_pos b1, fp_topleft a b1.1 b b1.2]
    by_cases c1 : a < 7 ∧ b < 7
    · simp only [c1, and_self, true_or, if_true] at hk
      subst hk
      simp only [c1, and_self, if_true, Option.getD_some]
    · rw [if_neg (by omega), if_pos (by omega)] at hk
      subst hk
      rw [if_neg c1]; rfl
  · rw [if_neg b1]
    by_cases b2 : a < 8 ∧ n - 8 ≤ b
    · -- top right block
      rw [if_pos b2, fp_topright a b2.1 _ (by omega)]
      by_cases c1 : a < 7 ∧ 1 ≤ b - (n - 8)
      · rw [if_pos (by omega)] at hk
        subst hk
        simp only [c1, and_self, if_true, show ¬ b < 7 by omega, if_false, Option.getD_some]
        congr 1; omega
      · rw [if_neg (by omega), if_pos (by omega)] at hk
        subst hk
        rw [if_neg c1]; rfl
    · rw [if_neg b2]
      by_cases b3 : n - 8 ≤ a ∧ b < 8
      · -- bottom left block
        rw [if_pos b3, fp_bottomleft _ (by omega) b b3.2]
        by_cases c1 : 1 ≤ a - (n - 8) ∧ b < 7
        · rw [if_pos (by omega)] at hk
          subst hk
          simp only [c1, and_self, if_true, show ¬ a < 7 by omega, if_false, Option.getD_some]
          congr 1; omega
        · rw [if_neg (by omega), if_pos (by omega)] at hk
          subst hk
          rw [if_neg c1]; rfl
      · -- off the three blocks: what `make_matrix` wrote; row / column 8 and the version areas are tested alike on both sides
        rw [if_neg b3]
        have off : (8 ≤ a ∧ a + 8 < n) ∨ (8 ≤ b ∧ b + 8 < n) ∨ (n ≤ a + 8 ∧ n ≤ b + 8) := by omega
        clear b1 b2 b3
        rw [if_neg (by rintro ((h | h) | h) <;> omega), if_neg (by rintro ((h | h) | h) <;> omega)] at hk
        by_cases k4 : a = 8 ∧ (b ≤ 8 ∨ n ≤ b + 8) ∨ b = 8 ∧ (a ≤ 8 ∨ n ≤ a + 8)
        · simp only [k4, if_true] at hk ⊢
          by_cases k3 : a + 8 = n ∧ b = 8
          · -- the dark module: `make_matrix` left it light (format area)
            rw [if_pos k3] at hk
            subst hk
            rw [if_neg (by clear k4 off; omega)]
          · rw [if_neg k3] at hk
            clear k3 off
            by_cases k6 : a = 6 ∨ b = 6
            · rw [if_pos k6] at hk
              subst hk
              rw [if_pos (by rcases k4 with k4 | k4 <;> omega)]
              clear k4
              simp only [Option.getD_some]
              split <;> omega
            · rw [if_neg k6] at hk
              subst hk
              rw [if_neg (by clear k4; omega)]
        · have k3 : ¬(a + 8 = n ∧ b = 8) := fun h => k4 (Or.inr ⟨h.2, Or.inr (by omega)⟩)
          simp only [k4, if_false] at hk ⊢
          rw [if_neg k3] at hk
          clear k3 k4
          by_cases k5 : 41 < n ∧ ((a < 6 ∧ n - 11 ≤ b) ∧ b + 9 ≤ n ∨ (b < 6 ∧ n - 11 ≤ a) ∧ a + 9 ≤ n)
          · rw [if_pos k5] at hk
            subst hk
            rw [if_neg (by clear off; omega), if_pos k5]
          · rw [if_neg k5] at hk
            rw [if_neg k5]
            clear k5
            by_cases k6 : a = 6 ∨ b = 6
            · rw [if_pos k6] at hk
              subst hk
              rw [if_pos (by rcases k6 with k6 | k6 <;> omega)]
              simp only [Option.getD_some]
              split <;> omega
            · rw [if_neg k6] at hk
              subst hk
              rw [if_neg (by clear off; omega)]

theorem alignmentPos_centres (v : Int) (h1 : 2 ≤ v) (h2 : v ≤ 40) :
    Gen.ALIGNMENT_POS[(v - 2).toNat]? = some (Spec.annexE v.toNat) ∧ Centres (Spec.size v) (Spec.annexE v.toNat) := by
  refine ⟨?_, (Proofs.Align.centres_of_version v h1 h2).2⟩
  rw [Props.C02.alignment_pos_is_annexE, List.getElem?_map, List.getElem?_range (by omega)]
  simp only [Option.map_some]
  congr 2; omega

/-- the skeleton of a QR symbol before the dark module is set: for v = 1, and for every version v ≥ 2 whose row of
    `ALIGNMENT_POS` is Annex E and satisfies `Centres` (no bound on v otherwise) -/
theorem m0_qr (v : Int) (hv : 1 ≤ v)
    (htab : 2 ≤ v → Gen.ALIGNMENT_POS[(v - 2).toNat]? = some (Spec.annexE v.toNat) ∧
      Centres (Spec.size v) (Spec.annexE v.toNat)) :
    Proofs.Placement2.m0L (Spec.size v) = .ok (Proofs.Placement2.skelRows 0 v) := by
  have hn := Proofs.Size.le_size_qr v hv
  have hN := Proofs.Size.size_qr v hv
  have hm0 := (cw_addFinderPatterns _ _ (get2_makeMatrix_qr _ hn).1).1
  by_cases h2 : v < 2
  · exact m0L_of_cells v (addAlignmentPatterns_small _ _ (by omega)) hm0 fun a b ha hb =>
      skeleton_qr_pre v hv a b ha hb (Proofs.Align.inAlignment_small v h2 _ _ _)
  · obtain ⟨hpos, hc⟩ := htab (by omega)
    have hk : Spec.size v = 4 * (v - 2).toNat + 25 := by omega
    rw [hk] at hm0 hc
    obtain ⟨m', h1, h2', h3⟩ := get2_addAlignmentPatterns _ _ _ hpos hc hm0
    rw [← hk] at h1 h2' h3 hc
    refine m0L_of_cells v h1 h2' fun a b ha hb => (h3 a b ha hb).trans ?_
    cases hal : Spec.inAlignment v.toNat (Spec.size v) a b
    · rw [if_neg, skeleton_qr_pre v hv a b ha hb hal]
      rw [List.any_eq_true]
      exact fun h => by rw [(Proofs.Align.inAlignment_iff hc a b).2 h] at hal; cases hal
    · rw [if_pos (List.any_eq_true.2 ((Proofs.Align.inAlignment_iff hc a b).1 hal))]
      unfold skelCell Spec.fixedValue
      rw [Proofs.Align.kind_alignment v (by omega) a b hc hal]
      simp only [alignVal, cdist, Option.getD_some, beq_iff_eq, ge_iff_le]

end Proofs.Cells
