/-
  Proofs.TieA2Mode — the loop of `is_kanji` (translated, Gen/Funcs2.lean) against `Model.isKanji`.  The source walks an
  iterator with two `next` calls per round of `for i in range(0, data_len, 2)` and leaves the loop with `return False`;
  the model tests `Model.pairs data` (`pairs_all_loop`; the round itself is tied in `Props.TieA2.is_kanji_tie`).
-/
import Proofs.TieA2
import Model.Encoder
import Props.TieA

namespace Proofs.TieA2
open Gen.Py Model

/-- the test of the model on one pair of bytes -/
def kanjiPair (p : Nat × Nat) : Bool :=
  let code := p.1 * 256 + p.2
  ((0x8140 ≤ code && code ≤ 0x9ffc) || (0xe040 ≤ code && code ≤ 0xebbf)) && isSjisTrail p.2

theorem isKanji_pairs (data : List Nat) :
    Model.isKanji data = (data.length != 0 && data.length % 2 == 0 && (pairs data).all kanjiPair) := rfl

/-- a loop that takes two bytes off an iterator per round and leaves with `return False` at the first pair that fails the test,
    on an arbitrary rest of the iterator (`is`: only its length matters), for any body that does so (`hbody`) -/
theorem pairs_all_loop (body : List Int → Int → M (Step (List Int) Bool)) (K : Done (List Int) Bool → M Bool) (t : Nat × Nat → Bool)
    (hbody : ∀ (a b : Nat) (rest : List Nat) (i : Int), b < 256 →
      body (toI (a :: b :: rest)) i = .ok (if t (a, b) then .next (toI rest) else .ret false))
    (hfin : ∀ s, K (.fin s) = .ok true) (hret : ∀ r, K (.ret r) = .ok r) :
    ∀ (is : List Int) (rest : List Nat), rest.length = 2 * is.length → (∀ b ∈ rest, b < 256) →
      Gen.Py.bind (forM is (toI rest) body) K = .ok ((pairs rest).all t) := by
  intro is
  induction is with
  | nil =>
    intro rest hl _
    obtain rfl : rest = [] := List.eq_nil_of_length_eq_zero (by simpa using hl)
    exact hfin _
  | cons i is ih =>
    intro rest hl hb
    match rest, hl, hb with
    | [], hl, _ => simp at hl
    | [_], hl, _ => simp at hl; omega
    | a :: b :: rest', hl, hb =>
      rw [forM_cons, hbody a b rest' i (hb b (by simp))]
      simp only [pairs, List.all_cons]
      cases t (a, b) with
      | false => exact hret false
      | true => exact ih rest' (by simp at hl; omega) (fun x hx => hb x (by simp [hx]))

theorem rangeStep_two_length (n : Nat) (h : n % 2 = 0) : (rangeStep 0 (n : Int) 2).length = n / 2 := by
  simp only [rangeStep, List.length_map, List.length_range]
  have : ((n : Int) - 0).toNat = n := by omega
  rw [this]
  omega

theorem isDigit_toI (data : List Nat) : Gen.Py.isDigit (toI data) = (data.length != 0 && data.all Model.isDigitByte) := by
  cases data with
  | nil => rfl
  | cons a t =>
    have : ∀ l : List Nat, (toI l).all (fun b => decide (48 ≤ b ∧ b ≤ 57)) = l.all Model.isDigitByte := by
      intro l
      induction l with
      | nil => rfl
      | cons x l ih =>
        simp only [toI_cons, List.all_cons, ih]
        congr 1
        unfold Model.isDigitByte
        rw [Bool.eq_iff_iff]
        simp only [Bool.and_eq_true, decide_eq_true_eq]
        omega
    unfold Gen.Py.isDigit
    rw [this]
    simp

end Proofs.TieA2
