/-
  Proofs.RSGeneric — over an arbitrary commutative ring: the remainder of the synthetic division by
  a monic polynomial g, appended (negated) to the data, gives a polynomial that vanishes at every
  root of g.  This is the algebraic core of C03 (`block_is_codeword`).
-/
import Mathlib.Tactic.Ring

namespace Proofs.RSGeneric

variable {R : Type} [CommRing R]

def evalAux (x : R) : R → List R → R
  | acc, [] => acc
  | acc, a :: l => evalAux x (acc * x + a) l

/-- Horner evaluation, highest coefficient first -/
def evalP (x : R) (l : List R) : R := evalAux x 0 l

theorem evalAux_eq (x : R) (acc : R) (l : List R) :
    evalAux x acc l = acc * x ^ l.length + evalP x l := by
  induction l generalizing acc with
  | nil => simp [evalAux, evalP]
  | cons a l ih =>
    simp only [evalAux, evalP, List.length_cons]
    rw [ih (acc * x + a), ih (0 * x + a)]
    ring

theorem evalP_nil (x : R) : evalP x [] = 0 := rfl

theorem evalP_cons (x c : R) (l : List R) : evalP x (c :: l) = c * x ^ l.length + evalP x l := by
  show evalAux x (0 * x + c) l = _
  rw [evalAux_eq]; ring

theorem evalP_append (x : R) (l m : List R) : evalP x (l ++ m) = evalP x l * x ^ m.length + evalP x m := by
  induction l with
  | nil => simp [evalP_nil]
  | cons a l ih =>
    simp only [List.cons_append, evalP_cons, List.length_append, ih]
    ring

theorem evalP_replicate_zero (x : R) (n : Nat) : evalP x (List.replicate n 0) = 0 := by
  induction n with
  | zero => rfl
  | succ n ih => rw [List.replicate_succ, evalP_cons, ih]; ring

theorem evalP_map_mul (x c : R) (l : List R) : evalP x (l.map (· * c)) = evalP x l * c := by
  induction l with
  | nil => simp [evalP_nil]
  | cons a l ih => simp only [List.map_cons, evalP_cons, List.length_map, ih]; ring

theorem evalP_zipWith_add (x : R) (a b : List R) (h : a.length = b.length) :
    evalP x (List.zipWith (· + ·) a b) = evalP x a + evalP x b := by
  induction a generalizing b with
  | nil => cases b <;> simp_all [evalP_nil]
  | cons c a ih =>
    cases b with
    | nil => simp at h
    | cons d b =>
      have h' : a.length = b.length := by simpa using h
      simp only [List.zipWith_cons_cons, evalP_cons, ih b h', List.length_zipWith, h', Nat.min_self]
      ring

/-- subtract c·g from the first |g| cells of `rest` -/
def subScaled (c : R) : List R → List R → List R
  | g :: gs, r :: rs => (r - c * g) :: subScaled c gs rs
  | [], rs => rs
  | _ :: _, [] => []

theorem subScaled_zero (g r : List R) : subScaled 0 g r = r := by
  induction g generalizing r with
  | nil => rfl
  | cons a g ih => cases r <;> simp [subScaled, ih]

theorem subScaled_length (c : R) (g rest : List R) (h : g.length ≤ rest.length) :
    (subScaled c g rest).length = rest.length := by
  induction g generalizing rest with
  | nil => rfl
  | cons a g ih =>
    cases rest with
    | nil => simp at h
    | cons r rs => simp [subScaled, ih rs (by simpa using h)]

theorem evalP_subScaled (x c : R) (g rest : List R) (k : Nat) (h : rest.length = g.length + k) :
    evalP x (subScaled c g rest) = evalP x rest - c * evalP x g * x ^ k := by
  induction g generalizing rest with
  | nil => simp [subScaled, evalP_nil]
  | cons a g ih =>
    cases rest with
    | nil => simp at h; omega
    | cons r rs =>
      have h' : rs.length = g.length + k := by simp at h; omega
      simp only [subScaled, evalP_cons, ih rs h', subScaled_length c g rs (by omega), h', pow_add]
      ring

/-- k steps of synthetic division by the monic polynomial 1 :: g -/
def divLoop (g : List R) : Nat → List R → List R
  | 0, l => l
  | _ + 1, [] => []
  | k + 1, c :: rest => divLoop g k (subScaled c g rest)

/-- One division step removes the leading cell and leaves the value at a root of 1 :: g unchanged:
    there xᵐ = −g(x) for m = |g|, so the leading term c·xᵐ·xᵏ is what `subScaled` subtracts. -/
theorem step_eval (x c : R) (g rest : List R) (h : g.length ≤ rest.length)
    (root : evalP x (1 :: g) = 0) :
    evalP x (subScaled c g rest) = evalP x (c :: rest) := by
  obtain ⟨k, hk⟩ := Nat.exists_eq_add_of_le h
  rw [evalP_cons, one_mul] at root
  rw [evalP_subScaled x c g rest k hk, evalP_cons, hk, pow_add, eq_neg_of_add_eq_zero_left root]
  ring

theorem divLoop_spec (x : R) (g : List R) (root : evalP x (1 :: g) = 0) (k : Nat) (l : List R)
    (hl : k + g.length ≤ l.length) :
    evalP x (divLoop g k l) = evalP x l ∧ (divLoop g k l).length = l.length - k := by
  induction k generalizing l with
  | zero => exact ⟨rfl, rfl⟩
  | succ k ih =>
    cases l with
    | nil => simp at hl
    | cons c rest =>
      have h1 : g.length ≤ rest.length := by simp at hl; omega
      have hs := subScaled_length c g rest h1
      obtain ⟨he, hn⟩ := ih (subScaled c g rest) (by simp at hl; omega)
      exact ⟨he.trans (step_eval x c g rest h1 root), by simp [divLoop, hn, hs]⟩

theorem codeword_root (x : R) (g d : List R) (root : evalP x (1 :: g) = 0) :
    evalP x (d ++ (divLoop g d.length (d ++ List.replicate g.length 0)).map (fun r => -r)) = 0 := by
  obtain ⟨he, hn⟩ := divLoop_spec x g root d.length (d ++ List.replicate g.length 0) (by simp)
  have hneg : (fun r : R => -r) = (· * (-1)) := by funext r; ring
  rw [evalP_append, hneg, evalP_map_mul, List.length_map, hn, he, evalP_append, evalP_replicate_zero]
  simp

end Proofs.RSGeneric
