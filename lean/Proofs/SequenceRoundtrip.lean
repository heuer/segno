/-
  Proofs.SequenceRoundtrip — one symbol with a Structured Append header is read back (`sa_symbol_final`):
  `_encode` from the point where the data bit stream is fixed is read back by the reference reader
  (`Proofs.Sequence.Tail.decodes`, any stream that fits), and the stream parser of
  Proofs/SequenceRoundtripStream.lean splits header ‖ segment ‖ tail.
-/
import Proofs.Sequence
import Proofs.EndToEnd
import Proofs.SequenceRoundtripStream

namespace Proofs.SequenceRoundtrip
open Model Proofs.EndToEnd Proofs.Sequence
open Proofs.Modes (makeSegment_mode)

/-- one symbol, capacity hypothesis for the error level the symbol finally has (after boosting);
    the content may be empty -/
theorem sa_symbol_final (data : List Nat) (mode : Nat) (enc : String) (segs : List Segment) (error : Option Nat)
    (v : Int) (mask : Option Nat) (boost : Bool) (f : String → Option Nat) (i total parity : Nat) (c : Code)
    (hd : ∀ b ∈ data, b < 256)
    (hi : i < 16) (ht : total < 16) (hp : parity < 256) (hv : 1 ≤ v)
    (hs : oneItemSegments data mode enc = .ok segs)
    (hfit : Proofs.EncodeStages.FitsAt segs v false true c.error)
    (h : encodeCore segs error v mask false boost f (some (i, total, parity)) = .ok c) :
    ∃ d, Spec.decode c.matrix = .ok d
      ∧ d.header = { version := c.version, level := lvlKey c.error, mask := c.mask }
      ∧ d.fnBad = none ∧ d.badBlocks = 0 ∧ Spec.allZero d.blocks.remainder = true
      ∧ ∃ p, d.parsed = .ok p ∧ p.sa = some (i, total, parity)
          ∧ (p.segments.map (·.bytes)).flatten = data := by
  obtain ⟨s, rfl, hmk⟩ := oneItemSegments_ok _ _ _ _ hs
  generalize (if mode == Gen.MODE_HANZI then Gen.HANZI_ENCODING else enc) = enc' at hmk
  obtain ⟨cap, bl, hcap, hbl, hle⟩ := hfit
  -- a bit length exists only for the five modes with a character count indicator
  have hmm := some_mode_mem mode (makeSegment_mode _ _ _ _ hmk ▸ bitLength_single_mode s v false true bl hbl)
  have hwf : ∀ x ∈ [s], Proofs.Sizing.WFs x := fun x hx =>
    List.mem_singleton.1 hx ▸ Proofs.Sizing.makeSegment_wf data (some mode) enc' s hmm hmk
  -- the stages of `_encode`; header ‖ segment is not longer than the capacity
  obtain ⟨-, ⟨r⟩⟩ := (encodeCore_iff ..).1 h
  have hfit := r.fits ⟨cap, bl, hcap, hbl, hle⟩
  obtain ⟨h1, h2⟩ := r.tail.range
  have hcount := count_fits [s] v false c.error _ r.tail.cap h1 h2 hwf (written_bitLength v false f none [s] r.segBits r.hw)
    r.tail.hcap (by simp only [saHeader, List.nil_append, List.length_append] at hfit ⊢; omega) s (List.mem_singleton.2 rfl)
  -- the reader's stream is header ‖ segment ‖ tail, which the stream parser splits into the header triple and the segment
  have hbin : Bin (saHeader (some (i, total, parity)) ++ r.segBits.flatten) :=
    Bin_append (Bin_saHeader _) (Bin_written_all v false f h1 h2 [s] r.segBits
      (fun x hx => List.mem_singleton.1 hx ▸ ⟨(hwf s (List.mem_singleton.2 rfl)).1, Bin_segment data (some mode) enc' s hmm hmk⟩) r.hw)
  obtain ⟨d, hdec, hhdr, hfn, hbad, hrem, hstream, hparsed⟩ := r.tail.decodes hbin hfit
  refine ⟨d, hdec, by rw [hhdr, r.hver], hfn, hbad, hrem, ?_⟩
  -- in a QR Code symbol the mode indicator is never 0000, so the content may be empty
  have hitem : Proofs.StreamParse.ItemOk v false f (data, s) :=
    ⟨hd, fun hv' => absurd (by omega) hv', ⟨some mode, enc', hmm, hmk⟩, hcount, fun n h => nomatch h⟩
  rw [hparsed, hstream, (r.tail.take hfit).1, parseStream_sa_list_tail v false f [(data, s)] r.segBits _ i total parity hv h2 hi ht hp
    (by simpa using hitem) r.hw (Proofs.StreamParse.d1Tail_stop v r.tail.cap _ c.error r.tail.hcap hfit)]
  exact ⟨_, rfl, rfl, List.append_nil data⟩

end Proofs.SequenceRoundtrip
