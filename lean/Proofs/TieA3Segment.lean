/-
  What the ties of `write_segment` and `make_segment` share: `Buffer.append_bits` and the table look-ups against the model's,
  the opaque reads `eciM` / `verRangeOf`, `make_segment` without a requested mode as the call with the mode found
  (`make_segment_none`), the branch selection `mode_branch` in the translation, the model once the mode check is passed
  (`makeSegment_accepted`: the body `Proofs.Modes.segBody`, whose branches `segBody_1 … segBody_13` spell out); and the byte
  mode of `make_segment`.
-/
import Gen.Funcs3
import Proofs.TieABits
import Proofs.TieA2Stream
import Proofs.TieA2Final
import Proofs.TieA3Loops
import Proofs.Modes

namespace Proofs.TieA3
open Gen.Py Proofs.TieA Proofs.TieA2 Model

/-- `Buffer.append_bits(val, length)` of the prelude is `Model.appendBits`: it is the expression `to_binary` is translated to -/
theorem appendBits_nat (x len : Nat) : Gen.Py.appendBits (x : Int) (len : Int) = toI (Model.appendBits x len) :=
  to_binary_eq x len

theorem cci_then {β : Type} (mode : Nat) (vr : Int) (k : Int → M β) :
    Gen.Py.bind (lookup Gen.Funcs.T_consts_CHAR_COUNT_INDICATOR_LENGTH (mode : Int)) (fun t => Gen.Py.bind (lookup t vr) k)
      = Gen.Py.bind (ofOption .keyError ((Model.cciLen mode vr).map Int.ofNat)) k :=
  (Gen.Py.bind_assoc _ (fun t => lookup t vr) k).symm.trans (by rw [cci_lookup])

theorem micro_mode_lookup (mode : Nat) :
    lookup Gen.Funcs3.T_consts_MODE_TO_MICRO_MODE_MAPPING (mode : Int)
      = ofOption .keyError ((assoc Gen.MODE_TO_MICRO_MODE_MAPPING mode).map Int.ofNat) :=
  lookup_cast Int.ofNat Gen.MODE_TO_MICRO_MODE_MAPPING mode

/-- what `get_eci_assignment_number(segment.encoding)` (an opaque read of the translation: `codecs.lookup` is a runtime
    service) yields, given the model's ECI table parameter -/
def eciM (eciNumber : String → Option Nat) (enc : Option String) : M Int :=
  match eciNumber (enc.getD "") with
  | some n => .ok (n : Int)
  | none => .error .valueError

/-- the `ver_range` argument `_encode` passes: the version for a Micro QR Code, `version_range(version)` otherwise -/
def verRangeOf (v : Int) : Int := if v < 1 then v else Gen.version_range v

theorem appendBits_lit (x len : Nat) (xi li : Int) (hx : xi = (x : Int)) (hl : li = (len : Int)) :
    Gen.Py.appendBits xi li = toI (Model.appendBits x len) := by
  subst hx hl; exact appendBits_nat x len

theorem make_segment_none (raw : String) (enc : Option String) (conv : M (List Int × Int × String)) (g : Int)
    (intOf : List Int → M Int) :
    Gen.Funcs3.make_segment raw none enc conv g intOf = Gen.Funcs3.make_segment raw (some g) enc conv g intOf := by
  unfold Gen.Funcs3.make_segment
  cases conv with
  | error e => rfl
  | ok t =>
    simp only [bind_ok]
    by_cases h4 : g = 4
    · subst h4; rfl
    · have e1 : (some g == some (4 : Int)) = false := by simp [h4]
      have e2 : ((none : Option Int) == some (4 : Int)) = false := rfl
      simp only [e1, e2, Bool.not_false, if_true, Int.lt_irrefl, decide_false, Bool.false_eq_true, if_false]

theorem make_segment_found (raw : String) (data : List Nat) (mode : Option Nat) (enc : Option String)
    (conv : M (List Int × Int × String)) (intOf : List Int → M Int) (k : Nat) (hg : findMode data = k)
    (hmode : mode = none ∨ mode = some k) :
    Gen.Funcs3.make_segment raw (mode.map Int.ofNat) enc conv (findMode data : Int) intOf
      = Gen.Funcs3.make_segment raw (some (k : Int)) enc conv (findMode data : Int) intOf := by
  rcases hmode with rfl | rfl
  · rw [Option.map_none, make_segment_none, hg]
  · rfl

/-- `m` passes the mode check: requested and byte or not below the mode found, or found when none is requested -/
theorem makeSegment_accepted (data : List Nat) (mode : Option Nat) (encName : String) (m : Nat)
    (hmode : mode = some m ∨ (mode = none ∧ findMode data = m)) (hge : m = 4 ∨ ¬ m < findMode data) :
    Model.makeSegment data mode encName = Proofs.Modes.segBody data encName m := by
  have hm : Proofs.Modes.segModeOf data mode = .ok m := by
    rw [Proofs.Modes.segModeOf_eq_ok_iff, ← Proofs.Modes.findMode_eq_autoMode]
    rcases hmode with h | ⟨h, hf⟩
    · exact .inl ⟨h, hge.imp_right Nat.le_of_not_lt⟩
    · exact .inr ⟨h, hf.symm⟩
  rw [Proofs.Modes.makeSegment_eq, hm]
  rfl

theorem makeSegment_none (data : List Nat) (encName : String) :
    Model.makeSegment data none encName = Model.makeSegment data (some (findMode data)) encName :=
  (makeSegment_accepted data none encName _ (.inr ⟨rfl, rfl⟩) (.inr (Nat.lt_irrefl _))).trans
    (makeSegment_accepted data (some _) encName _ (.inl rfl) (.inr (Nat.lt_irrefl _))).symm

/-- In `make_segment` with a requested mode given by a literal: evaluates the tests `mode == c`, so that the branch of that mode
    remains; `hs` are further facts to rewrite with (the requested mode is not below the one found, the parity of the length). -/
macro "mode_branch" "[" hs:Lean.Parser.Tactic.simpLemma,* "]" : tactic =>
  `(tactic| simp only [bind_ok, $hs,*, Int.reduceBEq, Option.some_beq_some, Bool.not_false, Bool.not_true, if_true, if_false,
      Bool.false_eq_true, decide_false, Bool.or_self, Bool.or_true, Bool.or_false, Bool.true_and, Bool.false_and])

theorem findMode_representable (data : List Nat) : Spec.representable (findMode data) data = true := by
  rw [Proofs.Modes.findMode_eq_autoMode]
  exact Proofs.Modes.autoMode_representable data

theorem findMode_cases (data : List Nat) : findMode data = 1 ∨ findMode data = 2 ∨ findMode data = 4 ∨ findMode data = 8 := by
  rw [Proofs.Modes.findMode_eq_autoMode]
  rcases Proofs.Modes.autoMode_cases data with h | h | h | h <;> simp [h.1]

theorem findMode_le_8 (data : List Nat) : findMode data ≤ 8 := by
  rw [Proofs.Modes.findMode_eq_autoMode]
  exact Proofs.Modes.autoMode_le_8 data

theorem byte_fold (data : List Nat) : ∀ acc : List Nat,
    (toI data).foldl (fun acc b => acc ++ Gen.Py.appendBits b (8 : Int)) (toI acc)
      = toI (acc ++ (data.map (fun b => Model.appendBits b 8)).flatten) := by
  induction data with
  | nil => intro acc; simp
  | cons b t ih =>
    intro acc
    rw [toI_cons, List.foldl_cons, appendBits_lit b 8 (b : Int) (8 : Int) rfl rfl, ← toI_append, ih, List.map_cons,
      List.flatten_cons, List.append_assoc]

/-- whatever `find_mode` finds -/
theorem make_segment_byte_some (raw : String) (data : List Nat) (enc : Option String) (encName : String) (g : Int)
    (intOf : List Int → M Int) :
    Gen.Funcs3.make_segment raw (some (4 : Int)) enc (.ok (toI data, (data.length : Int), encName)) g intOf
      = .ok (toI ((data.map (fun b => Model.appendBits b 8)).flatten), (data.length : Int), 4, some encName) := by
  unfold Gen.Funcs3.make_segment
  mode_branch [Int.lt_irrefl]
  have h := byte_fold data []
  rw [toI_nil, List.nil_append] at h
  rw [h]

theorem make_segment_byte_py (raw : String) (data : List Nat) (mode : Option Nat) (enc : Option String) (encName : String)
    (intOf : List Int → M Int) (hmode : mode = some 4 ∨ (mode = none ∧ findMode data = 4)) :
    Gen.Funcs3.make_segment raw (mode.map Int.ofNat) enc (.ok (toI data, (data.length : Int), encName)) (findMode data : Int) intOf
      = .ok (toI ((data.map (fun b => Model.appendBits b 8)).flatten), (data.length : Int), 4, some encName) := by
  rcases hmode with rfl | ⟨rfl, hg⟩
  · exact make_segment_byte_some raw data enc encName _ intOf
  · rw [Option.map_none, make_segment_none, hg]
    exact make_segment_byte_some raw data enc encName _ intOf

theorem make_segment_byte_model (data : List Nat) (mode : Option Nat) (encName : String)
    (hmode : mode = some 4 ∨ (mode = none ∧ findMode data = 4)) :
    Model.makeSegment data mode encName
      = .ok { bits := (data.map (fun b => Model.appendBits b 8)).flatten, charCount := data.length, mode := 4, encoding := some encName } :=
  makeSegment_accepted data mode encName 4 hmode (.inl rfl)

end Proofs.TieA3
