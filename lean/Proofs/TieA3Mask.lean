/-
  `apply_mask`: the two nested range loops of the translation XOR one cell after the other (`row[j] ^= mask_pattern(i, j)` for
  the cells of the encoding region); `Model.applyMask` is a `mapIdx` over rows and cells.  The two are compared cell by cell
  (`Proofs.Placement.Sq_ext`): an iteration of the inner loop rewrites its own cell only (`cw_maskCell`), so every cell is rewritten by
  exactly one iteration (`Proofs.Cells.foldl_ite_once2`).  `is_encoding_region` is the translated closure of `find_and_apply_best_mask` over the function matrix.
-/
import Gen.Funcs3
import Proofs.TieA2Format
import Proofs.Placement
import Proofs.Mask
import Proofs.Cells

namespace Proofs.TieA3
open Gen.Py Proofs.TieA2 Model

theorem index_cell_then {β : Type} {m : Matrix} {n : Nat} (hs : Sq m n) (i j : Nat) (hi : i < n) (hj : j < n) (k : Int → M β) :
    Gen.Py.bind (index (mI m) (i : Int)) (fun r => Gen.Py.bind (index r (j : Int)) k) = k (Int.ofNat (get2 m i j)) :=
  (Gen.Py.bind_assoc (index (mI m) (i : Int)) (fun r => index r (j : Int)) k).symm.trans
    (by rw [index_cell hs _ _ i j (normIndex_nat n i hi) (normIndex_nat n j hj), bind_ok])

/-- the new value of cell (i, j) -/
def maskVal (fm : Matrix) (p i j x : Nat) : Nat :=
  if get2 fm i j > 1 then x ^^^ (if maskFn p i j then 1 else 0) else x

/-- one iteration of the inner loop -/
def maskCell (fm : Matrix) (p i : Nat) (t : Matrix) (j : Nat) : Matrix :=
  if get2 fm i j > 1 then set2 t i j (get2 t i j ^^^ (if maskFn p i j then 1 else 0)) else t

/-- one iteration of the outer loop -/
def maskRow (fm : Matrix) (p n : Nat) (t : Matrix) (i : Nat) : Matrix := (List.range n).foldl (maskCell fm p i) t

theorem bxor_bit (x : Nat) (b : Bool) :
    bxor (Int.ofNat x) (if b then (1 : Int) else (0 : Int)) = Int.ofNat (x ^^^ (if b then 1 else 0)) := by
  cases b <;> rfl

theorem cw_maskCell (fm : Matrix) (p n i j : Nat) :
    Proofs.Cells.Cellwise Proofs.Placement.Sq get2 n (fun t => maskCell fm p i t j) (fun a b d => if a = i ∧ b = j then maskVal fm p i j d else d) := by
  unfold maskCell maskVal
  by_cases h : get2 fm i j > 1
  · simp only [h, if_true]
    exact Proofs.Cells.Cellwise.modify n i j (fun x => x ^^^ (if maskFn p i j then 1 else 0))
  · simp only [h, if_false, ite_self]
    exact Proofs.Cells.Cellwise.id n

theorem sq_applyMask {m : Matrix} {n : Nat} (fm : Matrix) (p : Nat) (hm : Sq m n) : Sq (Model.applyMask m fm p) n :=
  sq_iff.2 (Proofs.Placement.Sq_applyMask fm p (sq_iff.1 hm))

theorem maskRows_eq (m fm : Matrix) (n p : Nat) (hm : Sq m n) :
    (List.range n).foldl (maskRow fm p n) m = Model.applyMask m fm p := by
  obtain ⟨hsq, hc⟩ := Proofs.Cells.Cellwise.foldl (List.range n)
    (fun i _ => Proofs.Cells.Cellwise.foldl (List.range n) fun j _ => cw_maskCell fm p n i j) m (sq_iff.1 hm)
  apply Proofs.Placement.Sq_ext hsq (sq_iff.1 (sq_applyMask fm p hm))
  intro i j hi hj
  rw [Proofs.Placement.get2_applyMask_sq fm p (sq_iff.1 hm) hi hj]
  exact (hc i j hi hj).trans (Proofs.Cells.foldl_ite_once2 n i j hi hj (maskVal fm p) _)

theorem region_cell {fm : Matrix} {n : Nat} (hf : Sq fm n) (i j : Nat) (hi : i < n) (hj : j < n) :
    Gen.Funcs3.is_encoding_region (mI fm) (i : Int) (j : Int) = .ok (decide (get2 fm i j > 1)) := by
  unfold Gen.Funcs3.is_encoding_region
  rw [index_cell_then hf i j hi hj]
  congr 1
  simp only [Int.ofNat_eq_natCast, gt_iff_lt, decide_eq_decide]
  omega

/-- `apply_mask(matrix, f, n, n, is_encoding_region)` on an n × n matrix with the closure over an n × n function matrix, for
    every callable `f` that agrees with mask condition p on the coordinates of the matrix -/
theorem apply_mask_fn (m fm : Matrix) (n p : Nat) (hs : Sq m n) (hf : Sq fm n) (f : Int → Int → Bool)
    (hfn : ∀ (i j : Nat), f (i : Int) (j : Int) = maskFn p i j) :
    Gen.Funcs3.apply_mask (mI m) f (n : Int) (n : Int) (Gen.Funcs3.is_encoding_region (mI fm))
      = .ok (mI (Model.applyMask m fm p)) := by
  unfold Gen.Funcs3.apply_mask
  rw [← maskRows_eq m fm n p hs]
  refine Yields.eq (P := (Sq · n)) (.bind (.range_loop (fun _ => mI) (maskRow fm p n) n (by omega) hs fun i hi t ht => ?_)
    fun h => ⟨rfl, h⟩)
  rw [Int.zero_add]
  refine .row ht (normIndex_nat n i hi) (.bind (.range_loop (fun _ => mI) (maskCell fm p i) n (by omega) ht fun j hj u hu => ?_)
    fun h => ⟨rfl, h⟩)
  rw [Int.zero_add, region_cell hf i j hi hj, bind_ok]
  unfold maskCell
  by_cases hfm : get2 fm i j > 1
  · simp only [hfm, decide_true, if_true]
    rw [index_cell_then hu i j hi hj, hfn, bxor_bit]
    exact .set_last hu (normIndex_nat n i hi) (normIndex_nat n j hj)
  · simp only [hfm, decide_false, if_false, Bool.false_eq_true]
    exact ⟨rfl, hu⟩

theorem applyMask_bits (m fm : Matrix) (p : Nat) (hbits : ∀ i j, get2 m i j ≤ 1) : ∀ i j, get2 (Model.applyMask m fm p) i j ≤ 1 := by
  intro i j
  rw [Proofs.Mask.get2_applyMask]
  split
  · split
    · exact Proofs.Mask.xor_bit_le _ _ (hbits i j)
    · exact hbits i j
  · omega

end Proofs.TieA3
