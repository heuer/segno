/-
  Proofs.Raster — for C09 / C11: scaling is `flatMap (replicate s)`, so pixel (x, y) of the generator body of
  `matrix_iter` shows cell (y div s, x div s) (`iterWith_eq`); the bordered matrix it reads is the symbol shifted by
  the border, 0 around it (`borderedCell_eq`); a packed group of samples is a numeral in base 2^d.  At the end, for
  C09 and the document writers alike: `Admitted` (the argument checks of `matrix_iter` passed) and what it yields then.
  `matrixIterVerbose_page` is the same page for `matrix_iter_verbose` at scale 1.
-/
import Spec.Raster
import Model.Iter
import Proofs.Except

namespace Proofs.Raster

open Model Spec

theorem getElem?_flatMap_replicate {α : Type} (l : List α) (s : Nat) (hs : 0 < s) (k : Nat) :
    (l.flatMap (List.replicate s))[k]? = l[k / s]? := by
  induction l generalizing k with
  | nil => simp
  | cons a l ih =>
    rw [List.flatMap_cons, List.getElem?_append]
    by_cases hk : k < s
    · simp [hk, Nat.div_eq_of_lt hk]
    · have hk' : s ≤ k := Nat.le_of_not_lt hk
      simp only [List.length_replicate, hk, if_false]
      rw [ih (k - s)]
      rw [Nat.div_eq_sub_div hs hk']; simp

theorem flatMap_replicate_range {α : Type} (n s : Nat) (hs : 0 < s) (f : Nat → α) :
    ((List.range n).map f).flatMap (List.replicate s) = (List.range (n * s)).map (fun k => f (k / s)) := by
  apply List.ext_getElem?
  intro k
  rw [getElem?_flatMap_replicate _ _ hs]
  by_cases hk : k < n * s
  · have : k / s < n := (Nat.div_lt_iff_lt_mul hs).2 hk
    simp [hk, this]
  · have : ¬ k / s < n := fun h => hk ((Nat.div_lt_iff_lt_mul hs).1 h)
    simp [hk, this]

theorem iterWith_eq (cell : Nat → Nat → Nat) (w h s b : Nat) (hs : 0 < s) :
    iterWith cell w h s b =
      (List.range ((h + 2 * b) * s)).map (fun y => (List.range ((w + 2 * b) * s)).map (fun x => cell (y / s) (x / s))) := by
  unfold iterWith scaleRow
  rw [flatMap_replicate_range _ _ hs]
  apply List.map_congr_left
  intro y _
  rw [flatMap_replicate_range _ _ hs]

theorem matrixIterVerbose_page (M : List (List Nat)) (w h b : Nat) (rows : List (List Nat))
    (hr : matrixIterVerbose M w h (.int 1) (some (.int b)) = .ok rows) :
    ∃ A, alignmentMatrix w = .ok A
      ∧ rows = (List.range (h + 2 * b)).map (fun y => (List.range (w + 2 * b)).map (fun x => verboseCell M A w h b y x)) := by
  unfold matrixIterVerbose at hr
  obtain ⟨_, _, hr⟩ := Proofs.Except.bind_ok.1 hr
  obtain ⟨_, _, hr⟩ := Proofs.Except.bind_ok.1 hr
  obtain ⟨b', hb, hr⟩ := Proofs.Except.bind_ok.1 hr
  obtain ⟨A, hA, hr⟩ := Proofs.Except.bind_ok.1 hr
  cases hb; cases hr
  refine ⟨A, hA, ?_⟩
  rw [show (Num.int 1).toInt.toNat = 1 from rfl, iterWith_eq _ _ _ _ _ (by decide)]
  simp only [Nat.mul_one, Nat.div_one, Int.toNat_natCast]

theorem getD_map_range {α : Type} (f : Nat → α) (n k : Nat) (d : α) (h : k < n) :
    ((List.range n).map f).getD k d = f k := by
  simp [List.getD_eq_getElem?_getD, h]

/-- `h` rows of `w` values -/
def WellFormed (M : List (List Nat)) (w h : Nat) : Prop := M.length = h ∧ ∀ r ∈ M, r.length = w

theorem getD_of_length_le {α : Type} (l : List α) (i : Nat) (d : α) (h : l.length ≤ i) : l.getD i d = d := by
  simp [List.getD_eq_getElem?_getD, List.getElem?_eq_none h]

theorem getD_replicate_self {α : Type} (a : α) (w k : Nat) : (List.replicate w a).getD k a = a := by
  simp only [List.getD_eq_getElem?_getD, List.getElem?_replicate]
  split <;> rfl

theorem cellL_outside (M : List (List Nat)) (w h : Nat) (hM : WellFormed M w h) (i j : Nat) (hout : h ≤ i ∨ w ≤ j) :
    cellL M i j = 0 := by
  unfold cellL
  apply getD_of_length_le
  by_cases hi : i < M.length
  · rw [List.getD_eq_getElem?_getD, List.getElem?_eq_getElem hi, Option.getD_some, hM.2 _ (List.getElem_mem hi)]
    have := hM.1; omega
  · rw [getD_of_length_le M i [] (by omega)]; exact Nat.zero_le j

theorem borderedCell_eq (M : List (List Nat)) (w h b : Nat) (hM : WellFormed M w h) (ii jj : Nat) :
    borderedCell M w h b ii jj = if b ≤ ii ∧ b ≤ jj then cellL M (ii - b) (jj - b) else 0 := by
  unfold borderedCell
  by_cases h2 : b ≤ jj ∧ jj < b + w
  · rw [if_pos h2]
    by_cases h1 : b ≤ ii ∧ ii < b + h
    · rw [if_pos h1, if_pos ⟨h1.1, h2.1⟩]; rfl
    · rw [if_neg h1, getD_replicate_self]
      split
      · exact (cellL_outside M w h hM _ _ (.inl (by omega))).symm
      · rfl
  · rw [if_neg h2]
    split
    · exact (cellL_outside M w h hM _ _ (.inr (by omega))).symm
    · rfl

theorem iter_eq_grid (M : List (List Nat)) (w h s b : Nat) (hs : 0 < s) (hM : WellFormed M w h) :
    iterWith (borderedCell M w h b) w h s b = grid M w h s b := by
  rw [iterWith_eq _ _ _ _ _ hs]
  unfold grid
  apply List.map_congr_left
  intro y _
  apply List.map_congr_left
  intro x _
  exact borderedCell_eq M w h b hM _ _

theorem checkValidScale_eq (s : Int) : checkValidScale s = if s < 1 then .error .valueError else .ok () := by
  unfold checkValidScale
  by_cases h : s < 1
  · rw [if_pos h, if_pos (by omega)]; rfl
  · rw [if_neg h, if_neg (by omega)]; rfl

theorem checkValidScale_ok (s : Int) (u : Unit) (h : checkValidScale s = .ok u) : 0 < s.toNat := by
  unfold checkValidScale at h
  split at h
  · cases h
  · omega

theorem checkValidBorder_some (x : Num) :
    checkValidBorder (some x) = if x.isFractional || x.isNegative then .error .valueError else .ok () := rfl

theorem length_flatMap_const {α β : Type} (f : α → List β) (k : Nat) (rows : List α) (hlen : ∀ r ∈ rows, (f r).length = k) :
    (rows.flatMap f).length = k * rows.length := by
  induction rows with
  | nil => simp
  | cons r rest ih =>
    simp only [List.flatMap_cons, List.length_append, List.length_cons]
    rw [hlen r (by simp), ih (fun x hx => hlen x (by simp [hx])), Nat.mul_succ]; omega

theorem groupAt_length (k : Nat) (row : List Nat) (g : Nat) : (groupAt k row g).length = k := by
  unfold groupAt
  simp only [List.length_append, List.length_replicate, List.length_take, List.length_drop]
  omega

theorem groupAt_getD (k : Nat) (row : List Nat) (g p : Nat) (hp : p < k) :
    (groupAt k row g).getD p 0 = row.getD (g * k + p) 0 := by
  unfold groupAt
  simp only [List.getD_eq_getElem?_getD, List.getElem?_append, List.length_take, List.length_drop]
  by_cases h : p < min k (row.length - g * k)
  · simp only [h, if_true, List.getElem?_take, List.getElem?_drop]
    have : p < k := hp
    simp [this]
  · simp only [h, if_false, List.getElem?_replicate]
    have : row.length ≤ g * k + p := by omega
    rw [List.getElem?_eq_none this]
    split <;> rfl

theorem groupAt_bound (bound k : Nat) (hb : 0 < bound) (row : List Nat) (g : Nat) (h : ∀ v ∈ row, v < bound) :
    ∀ v ∈ groupAt k row g, v < bound := by
  intro v hv
  unfold groupAt at hv
  simp only [List.mem_append, List.mem_replicate] at hv
  rcases hv with hv | ⟨_, rfl⟩
  · exact h v (List.mem_of_mem_drop (List.mem_of_mem_take hv))
  · exact hb

/-- groups of `k` values encoded by `enc` and decoded position-wise by `dec` give back the row,
    for any row length (the zero-filled last group included) -/
theorem unpack_pack_generic (k : Nat) (hk0 : 0 < k) (enc : List Nat → Nat) (dec : Nat → Nat → Nat) (bound : Nat)
    (hb : 0 < bound)
    (hf : ∀ c : List Nat, c.length = k → (∀ v ∈ c, v < bound) → ∀ x, dec (enc c) x = c.getD (x % k) 0)
    (row : List Nat) (hrow : ∀ v ∈ row, v < bound) :
    (List.range row.length).map (fun x => dec (((groupsOf k row).map enc).getD (x / k) 0) x) = row := by
  apply List.ext_getElem?
  intro x
  by_cases hx : x < row.length
  · -- ceiling division: x < len → x / k < ⌈len / k⌉
    have hq : x / k < (row.length + k - 1) / k := by
      rw [Nat.div_lt_iff_lt_mul hk0]
      have h1 := Nat.div_add_mod (row.length + k - 1) k
      have h2 := Nat.mod_lt (row.length + k - 1) hk0
      rw [Nat.mul_comm] at h1
      omega
    have hm : x % k < k := Nat.mod_lt _ hk0
    simp only [List.getElem?_map, List.getElem?_range hx, Option.map_some, List.getElem?_eq_getElem hx]
    congr 1
    have hg : ((groupsOf k row).map enc).getD (x / k) 0 = enc (groupAt k row (x / k)) := by
      unfold groupsOf
      simp [List.getD_eq_getElem?_getD, hq]
    rw [hg, hf _ (groupAt_length k row _) (groupAt_bound bound k hb row _ hrow) x, groupAt_getD _ _ _ _ hm]
    have : x / k * k + x % k = x := by rw [Nat.mul_comm]; exact Nat.div_add_mod x k
    rw [this]
    simp [List.getD_eq_getElem?_getD, hx]
  · simp [hx]

/-! A group folded with `(acc <<< d) + y` is the numeral with the group's values as base-2^d digits, most
    significant first; the readers take one digit out again. -/

theorem foldBits_eq (d : Nat) (c : List Nat) : foldBits d c = c.foldl (fun acc y => (acc <<< d) + y) 0 := by
  cases c with
  | nil => rfl
  | cons x r => simp [foldBits]

theorem foldl_shift_div (d : Nat) (c : List Nat) (hv : ∀ v ∈ c, v < 2 ^ d) (a : Nat) :
    c.foldl (fun acc y => (acc <<< d) + y) a / 2 ^ (d * c.length) = a := by
  induction c generalizing a with
  | nil => simp
  | cons y r ih =>
    rw [List.foldl_cons, List.length_cons, Nat.mul_succ, Nat.pow_add, ← Nat.div_div_eq_div_mul,
      ih (fun v h => hv v (List.mem_cons_of_mem _ h)), Nat.shiftLeft_eq, Nat.mul_comm,
      Nat.mul_add_div (Nat.two_pow_pos d), Nat.div_eq_of_lt (hv y List.mem_cons_self), Nat.add_zero]

theorem foldBits_lt (d : Nat) (c : List Nat) (hv : ∀ v ∈ c, v < 2 ^ d) : foldBits d c < 2 ^ (d * c.length) := by
  rw [foldBits_eq]
  exact Nat.lt_of_div_eq_zero (Nat.two_pow_pos _) (foldl_shift_div d c hv 0)

theorem foldl_shift_digit (d : Nat) (c : List Nat) (hv : ∀ v ∈ c, v < 2 ^ d) (a p : Nat) (hp : p < c.length) :
    (c.foldl (fun acc y => (acc <<< d) + y) a >>> (d * (c.length - 1 - p))) % 2 ^ d = c.getD p 0 := by
  induction c generalizing a p with
  | nil => simp at hp
  | cons y r ih =>
    have hr := fun v h => hv v (List.mem_cons_of_mem y h)
    rw [List.foldl_cons]
    cases p with
    | zero =>
      rw [Nat.shiftRight_eq_div_pow, List.length_cons, Nat.add_sub_cancel, Nat.sub_zero, foldl_shift_div d r hr,
        Nat.shiftLeft_eq, Nat.mul_comm, Nat.mul_add_mod, Nat.mod_eq_of_lt (hv y List.mem_cons_self)]
      rfl
    | succ p =>
      rw [List.length_cons, Nat.add_sub_cancel, show r.length - (p + 1) = r.length - 1 - p by omega]
      exact ih hr _ p (by simpa using hp)

theorem field_depth (d : Nat) (c : List Nat) (hc : c.length = 8 / d) (hk : 0 < 8 / d) (hv : ∀ v ∈ c, v < 2 ^ d)
    (x : Nat) : sampleOfByte d (foldBits d c) x = c.getD (x % (8 / d)) 0 := by
  unfold sampleOfByte
  rw [foldBits_eq, ← hc]
  exact foldl_shift_digit d c hv 0 _ (Nat.mod_lt _ (hc ▸ hk))

/-- XBM folds the reversed group, so pixel `x mod 8` is digit 7 − x mod 8 from the left -/
theorem field_xbm (c : List Nat) (hc : c.length = 8) (hv : ∀ v ∈ c, v < 2) (x : Nat) :
    xbmBit (foldBits 1 c.reverse) x = c.getD (x % 8) 0 := by
  have hx : x % 8 < 8 := Nat.mod_lt _ (by decide)
  have := foldl_shift_digit 1 c.reverse (fun v h => hv v (List.mem_reverse.1 h)) 0 (7 - x % 8)
    (by rw [List.length_reverse, hc]; omega)
  rw [List.length_reverse, hc, show 1 * (8 - 1 - (7 - x % 8)) = x % 8 by omega, ← foldBits_eq] at this
  rw [xbmBit, this, List.getD_eq_getElem?_getD, List.getD_eq_getElem?_getD,
    List.getElem?_reverse (by rw [hc]; omega), hc]
  congr 3; omega

theorem packRow_length (d : Nat) (row : List Nat) : (packRow d row).length = (row.length + 8 / d - 1) / (8 / d) := by
  simp only [packRow, groupsOf, List.length_map, List.length_range]

theorem unpack_packRow (d : Nat) (hk : 0 < 8 / d) (row : List Nat) (hrow : ∀ v ∈ row, v < 2 ^ d) :
    unpackRow d row.length (packRow d row) = row :=
  unpack_pack_generic (8 / d) hk (foldBits d) (sampleOfByte d) (2 ^ d) (Nat.two_pow_pos d)
    (fun c hc hv x => field_depth d c hc hk hv x) row hrow

theorem unpack_packRowXbm (row : List Nat) (hrow : ∀ v ∈ row, v < 2) : unpackRowXbm row.length (packRowXbm row) = row :=
  unpack_pack_generic 8 (by decide) (fun g => foldBits 1 g.reverse) xbmBit 2 (by decide) field_xbm row hrow

end Proofs.Raster

namespace Proofs.RasterDocs

open Model Spec Proofs.Raster

/-- the validation passed: scale ≥ 1 after truncation, the border absent or a non-negative `int` b -/
structure Admitted (w h : Nat) (scale : Num) (border : Option Num) (b : Nat) : Prop where
  okScale : checkValidScale scale.toInt = .ok ()
  okBorder : checkValidBorder border = .ok ()
  okRange : borderForRange w h border = .ok b

theorem Admitted.pos {w h : Nat} {scale : Num} {border : Option Num} {b : Nat} (a : Admitted w h scale border b) :
    0 < scale.toInt.toNat :=
  checkValidScale_ok _ _ a.okScale

theorem matrixIter_ok {w h : Nat} {scale : Num} {border : Option Num} {b : Nat} (a : Admitted w h scale border b)
    (M : List (List Nat)) (hM : WellFormed M w h) :
    matrixIter M w h scale border = .ok (grid M w h scale.toInt.toNat b) := by
  simp only [matrixIter, a.okBorder, a.okScale, a.okRange, bind, Except.bind, pure, Except.pure]
  rw [iter_eq_grid M w h _ b a.pos hM]

theorem grid_length (M : List (List Nat)) (w h s b : Nat) : (grid M w h s b).length = (h + 2 * b) * s := by simp [grid]

theorem grid_row_length (M : List (List Nat)) (w h s b : Nat) : ∀ r ∈ grid M w h s b, r.length = (w + 2 * b) * s := by
  intro r hr
  simp only [grid, List.mem_map, List.mem_range] at hr
  obtain ⟨y, _, rfl⟩ := hr
  simp

end Proofs.RasterDocs
