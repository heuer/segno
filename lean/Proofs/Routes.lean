/-
  The keyword maps of the route layer (Model/Routes.lean): `cget` through the list operations, keyword maps that use none
  of a list of names (`Free`: what `refuseNames` and the binding of positional parameters test), Python's binding of a
  call (`bindArgs`, `through`) and the completion of a keyword map with a serialiser's defaults (`completeKw`).
-/
import Model.Routes
import Proofs.Except

namespace Proofs.Routes
open Gen (PyV)
open Model.Cli Model.Routes Proofs.Except

theorem cget_nil (k : String) : cget [] k = none := rfl

theorem cget_cons (e : String × PyV) (c : Config) (k : String) :
    cget (e :: c) k = if e.1 == k then some e.2 else cget c k := by
  unfold cget
  rw [List.find?_cons]
  cases e.1 == k <;> rfl

theorem cget_append (a b : Config) (k : String) :
    cget (a ++ b) k = match cget a k with | some v => some v | none => cget b k := by
  unfold cget
  rw [List.find?_append]
  cases a.find? (·.1 == k) <;> rfl

theorem cget_eq_none_iff (c : Config) (k : String) : cget c k = none ↔ ∀ e ∈ c, e.1 ≠ k := by
  simp [cget]

theorem isSome_cget (c : Config) (k : String) : (cget c k).isSome = c.any (·.1 == k) := by
  rw [Bool.eq_iff_iff]
  simp [cget]

theorem cget_mem {kw : Config} {k : String} {v : PyV} (h : cget kw k = some v) : (k, v) ∈ kw := by
  obtain ⟨e, hf, rfl⟩ := Option.map_eq_some_iff.1 h
  have hk : e.1 = k := by simpa using List.find?_some hf
  rw [← hk]
  exact List.mem_of_find?_eq_some hf

theorem cget_isSome_iff (c : Config) (k : String) : (cget c k).isSome = true ↔ k ∈ c.map (·.1) := by
  unfold cget
  simp [List.find?_isSome]

theorem cget_of_mem {c : Config} (hn : (c.map (·.1)).Nodup) {e : String × PyV} (he : e ∈ c) : cget c e.1 = some e.2 := by
  induction c with
  | nil => cases he
  | cons x c ih =>
    rw [List.map_cons, List.nodup_cons] at hn
    rw [cget_cons]
    rcases List.mem_cons.1 he with h | h
    · subst h; simp
    · have hne : ¬ (x.1 == e.1) = true := by
        intro hx
        have : x.1 = e.1 := by simpa using hx
        exact hn.1 (this ▸ List.mem_map_of_mem (f := (·.1)) h)
      simp only [hne]
      exact ih hn.2 h

theorem any_key {κ α : Type} [BEq κ] [LawfulBEq κ] (l : List (κ × α)) (k : κ) : l.any (·.1 == k) = (l.map (·.1)).contains k := by
  induction l with
  | nil => rfl
  | cons x l ih => rw [List.any_cons, List.map_cons, List.contains_cons, ih, Bool.beq_comm (a := k)]

theorem cget_filter (c : Config) (p : String → Bool) (k : String) :
    cget (c.filter (fun e => p e.1)) k = if p k then cget c k else none := by
  induction c with
  | nil => simp [cget_nil]
  | cons e c ih =>
    rw [List.filter_cons, cget_cons]
    by_cases he : e.1 = k
    · subst he; cases hp : p e.1 <;> simp [cget_cons, ih, hp]
    · cases hp : p e.1 <;> simp [cget_cons, ih, he]

theorem cget_cpop (c : Config) (k k' : String) : cget (cpop c k) k' = if k' = k then none else cget c k' := by
  unfold cpop
  rw [cget_filter c (fun x => x != k) k']
  by_cases h : k' = k <;> simp [h]

/-! Keyword maps that use none of the given names: what `refuseNames` and the binding of positional parameters test. -/

def Free (names : List String) (kw : Config) : Prop := ∀ k ∈ names, cget kw k = none

theorem free_iff_any (names : List String) (kw : Config) : Free names kw ↔ kw.any (fun e => names.contains e.1) = false := by
  simp only [Free, cget_eq_none_iff, List.any_eq_false, List.contains_iff_mem]
  exact ⟨fun h e he hk => h _ hk e he rfl, fun h k hk e he hek => h e he (hek ▸ hk)⟩

instance (names : List String) (kw : Config) : Decidable (Free names kw) := decidable_of_iff _ (free_iff_any names kw).symm

theorem free_append (a b : List String) (kw : Config) : Free (a ++ b) kw ↔ Free a kw ∧ Free b kw := by
  simp only [Free, List.mem_append]
  exact ⟨fun h => ⟨fun k hk => h k (.inl hk), fun k hk => h k (.inr hk)⟩, fun h k hk => hk.elim (h.1 k) (h.2 k)⟩

theorem free_mono {names names' : List String} {kw : Config} (h : Free names kw) (hs : ∀ k ∈ names', k ∈ names) : Free names' kw :=
  fun k hk => h k (hs k hk)

theorem free_cpop (names : List String) (kw : Config) (k : String) (hk : k ∉ names) : Free names (cpop kw k) ↔ Free names kw := by
  unfold Free
  refine forall₂_congr fun x hx => ?_
  rw [cget_cpop, if_neg fun (e : x = k) => hk (e ▸ hx)]

theorem cget_cset_self (c : Config) (k : String) (v : PyV) : cget (cset c k v) k = some v := by
  unfold cset
  split
  next h =>
    induction c with
    | nil => simp at h
    | cons e c ih =>
      rw [List.map_cons, cget_cons]
      by_cases he : (e.1 == k) = true
      · simp [he]
      · simp only [List.any_cons, he, Bool.false_or] at h
        simp only [he, Bool.false_eq_true, if_false, ih h]
  next h =>
    have hc : cget c k = none := by rw [← Option.not_isSome_iff_eq_none, isSome_cget]; exact h
    rw [cget_append, hc, cget_cons]
    simp

theorem mainConfig_cset (c : Config) (k : String) (v : PyV) (hk : k ∈ creationKeys) :
    mainConfig (cset c k v) = mainConfig c := by
  have hmap : mainConfig (c.map (fun kv => if kv.1 == k then (k, v) else kv)) = mainConfig c := by
    unfold mainConfig
    induction c with
    | nil => rfl
    | cons e c ih =>
      rw [List.map_cons, List.filter_cons, List.filter_cons, ih]
      by_cases he : e.1 = k
      · simp [he, hk]
      · simp [he]
  unfold cset
  split
  · exact hmap
  · simp [mainConfig, List.filter_append, hk]

theorem cget_keys (keys : List String) (v : String → PyV) (k : String) :
    cget (keys.map (fun x => (x, v x))) k = if keys.contains k then some (v k) else none := by
  induction keys with
  | nil => rfl
  | cons x xs ih =>
    rw [List.map_cons, cget_cons, ih, List.contains_cons]
    by_cases h : x = k
    · simp [h]
    · simp [h, Ne.symm h]

theorem cget_rekey (Q : Config) (g : String × PyV → PyV) (k : String) :
    cget (Q.map (fun p => (p.1, g p))) k = (Q.find? (·.1 == k)).map g := by
  simp [cget, List.find?_map, Function.comp_def]

/-! A signature's parameters as a keyword map: the default of `k`, and whether `k` is a parameter at all. -/

def dflt (params : Config) (k : String) : PyV := (cget params k).getD .none

def hasKey (c : Config) (k : String) : Bool := c.any (·.1 == k)

theorem hasKey_eq (c : Config) (k : String) : hasKey c k = (cget c k).isSome := (isSome_cget c k).symm

theorem all_known_iff (kw : Config) (known : String → Bool) :
    kw.all (fun kv => known kv.1) = true ↔ ∀ k, (cget kw k).isSome = true → known k = true := by
  simp only [List.all_eq_true, isSome_cget, List.any_eq_true, beq_iff_eq]
  exact ⟨fun h k ⟨e, he, hk⟩ => hk ▸ h e he, fun h e he => h e.1 ⟨e, he, rfl⟩⟩

theorem completeKw_congr (key : String) (kw1 kw2 : Config) (defaults : Config)
    (hd : serializerDefaults key = some defaults)
    (hval : ∀ d ∈ defaults, (cget kw1 d.1).getD d.2 = (cget kw2 d.1).getD d.2)
    (hknown : (∀ k, (cget kw1 k).isSome = true → hasKey defaults k = true) ↔ (∀ k, (cget kw2 k).isSome = true → hasKey defaults k = true)) :
    completeKw key kw1 = completeKw key kw2 := by
  unfold completeKw
  rw [hd]
  have hall : kw1.all (fun kv => hasKey defaults kv.1) = kw2.all (fun kv => hasKey defaults kv.1) := by
    rw [Bool.eq_iff_iff, all_known_iff, all_known_iff]
    exact hknown
  have hmap : defaults.map (fun d => (d.1, (cget kw1 d.1).getD d.2)) = defaults.map (fun d => (d.1, (cget kw2 d.1).getD d.2)) :=
    List.map_congr_left fun d hd' => by rw [hval d hd']
  unfold hasKey at hall
  simp only [hall, hmap]

theorem completeKw_of_cget_eq (key : String) (kw1 kw2 : Config) (h : ∀ k, cget kw1 k = cget kw2 k) :
    completeKw key kw1 = completeKw key kw2 := by
  cases hd : serializerDefaults key with
  | none => unfold completeKw; rw [hd]
  | some defaults => exact completeKw_congr key kw1 kw2 defaults hd (fun d _ => by rw [h]) (by simp only [h])

theorem bindArgs_ok (sig : Sig) (kw b rest : Config) (h : bindArgs sig kw = .ok (b, rest)) :
    b = sig.params.map (fun p => (p.1, (cget kw p.1).getD p.2))
    ∧ rest = kw.filter (fun e => !sig.params.any (·.1 == e.1))
    ∧ kw.any (fun e => sig.positional.contains e.1) = false := by
  unfold bindArgs at h
  split at h
  next => cases h
  next hpos =>
    dsimp only at h
    split at h <;> cases h
    exact ⟨rfl, rfl, Bool.eq_false_iff.2 hpos⟩

theorem callKw_ok (explicit kw r : Config) (h : callKw explicit kw = .ok r) : r = explicit ++ kw := by
  unfold callKw at h
  split at h <;> cases h
  rfl

theorem arg_bound (params kw : Config) (k : String) (hk : hasKey params k = true) :
    arg (params.map (fun p => (p.1, (cget kw p.1).getD p.2))) k = (cget kw k).getD (dflt params k) := by
  rw [hasKey_eq] at hk
  unfold arg dflt
  rw [cget_rekey]
  unfold cget at hk ⊢
  cases hf : params.find? (·.1 == k) with
  | none => rw [hf] at hk; cases hk
  | some p =>
    have hp : p.1 = k := by simpa using List.find?_some hf
    simp [hp]

theorem through_ok (sig : Sig) (passes : List String) (kw b inner : Config) (h : through sig passes kw = .ok (b, inner)) :
    b = sig.params.map (fun p => (p.1, (cget kw p.1).getD p.2))
    ∧ inner = passes.map (fun k => (k, arg b k)) ++ kw.filter (fun e => !sig.params.any (·.1 == e.1)) := by
  obtain ⟨⟨b', rest⟩, hb, h⟩ := bind_ok.1 h
  obtain ⟨inner', hcall, h⟩ := bind_ok.1 h
  cases h
  obtain ⟨rfl, rfl, -⟩ := bindArgs_ok sig kw _ _ hb
  exact ⟨rfl, callKw_ok _ _ _ hcall⟩

theorem through_arg (sig : Sig) (passes : List String) (kw b inner : Config)
    (h : through sig passes kw = .ok (b, inner)) (k : String) (hk : hasKey sig.params k = true) :
    arg b k = (cget kw k).getD (dflt sig.params k) := by
  obtain ⟨rfl, -⟩ := through_ok sig passes kw b inner h
  exact arg_bound _ _ _ hk

theorem through_cget (sig : Sig) (passes : List String) (kw b inner : Config)
    (h : through sig passes kw = .ok (b, inner)) (hsub : ∀ k ∈ passes, hasKey sig.params k = true) (k : String) :
    cget inner k =
      if passes.contains k then some ((cget kw k).getD (dflt sig.params k))
      else if hasKey sig.params k then none else cget kw k := by
  obtain ⟨rfl, rfl⟩ := through_ok sig passes kw b inner h
  rw [cget_append, cget_keys, cget_filter kw (fun x => !sig.params.any (·.1 == x))]
  cases hp : passes.contains k
  · simp only [hasKey, Bool.false_eq_true, if_false]
    by_cases hq : sig.params.any (·.1 == k) = true <;> simp [hq]
  · simp only [if_true, arg_bound _ _ _ (hsub k (by simpa using hp))]

theorem through_ok_of (sig : Sig) (passes : List String) (kw : Config) (hv : sig.varkw = true)
    (hsub : ∀ k ∈ passes, hasKey sig.params k = true) (hf : Free sig.positional kw) :
    ∃ b inner, through sig passes kw = .ok (b, inner) := by
  -- a name handed on explicitly is a parameter, so it is not left in `**kw`: the inner call repeats no keyword
  have hcall (b : Config) : (kw.filter (fun e => !sig.params.any (·.1 == e.1))).any
      (fun e => (passes.map (fun k => (k, arg b k))).any (·.1 == e.1)) = false := by
    rw [Bool.eq_false_iff]
    intro hany
    obtain ⟨e, he, hex⟩ := List.any_eq_true.1 hany
    obtain ⟨q, hq, hqe⟩ := List.any_eq_true.1 hex
    obtain ⟨k, hk, rfl⟩ := List.mem_map.1 hq
    have hke : k = e.1 := by simpa using hqe
    have := hsub k hk
    rw [hasKey, hke] at this
    simp [this] at he
  simp only [through, bindArgs, callKw, (free_iff_any _ _).1 hf, hv, Bool.false_eq_true, if_false, Bool.not_true, Bool.false_and, bind, Except.bind,
    pure, Except.pure, hcall]
  exact ⟨_, _, rfl⟩

set_option linter.unusedVariables false in
theorem through_err (sig : Sig) (passes : List String) (kw : Config) (hv : sig.varkw = true)
    (hsub : ∀ k ∈ passes, hasKey sig.params k = true)
    (hpos : kw.any (fun e => sig.positional.contains e.1) = true) :
    through sig passes kw = .error .typeError := by
  simp only [through, bindArgs, hpos, if_true]
  rfl

end Proofs.Routes
