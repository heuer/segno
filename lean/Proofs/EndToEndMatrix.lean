/-
  What every module of the matrix holds after add_codewords, masking, add_format_info and add_version_info.
-/
import Spec.Decode
import Model.Encoder
import Props.C02
import Props.C02Model
import Props.C01Placement
import Proofs.PlacementInfo
import Proofs.Placement2
import Proofs.Geometry
import Proofs.Mask

namespace Proofs.EndToEnd
open Model Proofs.Placement2

/-- module contents of a matrix in which the encoding region holds bits and everything else is as in
    the skeleton without dark module -/
structure Placed (v : Int) (m : Matrix) : Prop where
  sq : Proofs.Placement.Sq m (Spec.size v)
  data : ∀ i j, i < Spec.size v → j < Spec.size v → Spec.isData v i j = true → get2 m i j ≤ 1
  other : ∀ i j, i < Spec.size v → j < Spec.size v → Spec.isData v i j = false → get2 m i j = skelCell 0 v i j

theorem placed_m1 (v : Int) (bits : List Nat) (m0 m1 : Matrix) (h1 : -3 ≤ v) (h2 : v ≤ 40)
    (hb : ∀ b ∈ bits, b ≤ 1) (hlen : bits.length = (Spec.dataCoords v).length)
    (hm0 : addAlignmentPatterns (addFinderPatterns (makeMatrix (Spec.size v)) (Spec.size v)) (Spec.size v) = .ok m0)
    (hm1 : addCodewords m0 bits v = .ok m1) : Placed v m1 := by
  have hgeo := m0_rows_all v h1 h2
  obtain ⟨hord, hcols⟩ := strips_ok v h1 h2
  have hr0 : toRows m0 = skelRows 0 v := by
    have := map_m0 (Spec.size v)
    rw [hm0, hgeo] at this
    exact Except.ok.inj this
  obtain ⟨hsq1, hmap, hrest⟩ := addCodewords_spec v bits m0 m1 hr0 hord hcols hlen hm1
  refine ⟨hsq1, ?_, ?_⟩
  · intro i j hi hj hd
    have hmem : (i, j) ∈ Spec.dataCoords v := by
      rw [dataCoords_eq]
      refine List.mem_filter.mpr ⟨(mem_zz _ _ (i, j)).2 ⟨hi, (mem_cols v hcols j).2 ⟨hj, fun hs => ?_⟩⟩, hd⟩
      rw [hs, isData_skip] at hd; cases hd
    apply hb
    rw [← hmap]
    exact List.mem_map_of_mem (f := fun p : Nat × Nat => get2 m1 p.1 p.2) hmem
  · intro i j hi hj hd
    have hnot : (i, j) ∉ Spec.dataCoords v := by
      rw [dataCoords_eq]
      intro hmem
      have := (List.mem_filter.mp hmem).2
      simp only at this
      rw [hd] at this; cases this
    rw [hrest i j hnot, cells_of_toRows 0 v m0 hr0 i j hi hj]

theorem functionMatrix_ok (n : Nat) (m0 : Matrix)
    (hm0 : addAlignmentPatterns (addFinderPatterns (makeMatrix n) n) n = .ok m0) :
    ∃ fm, functionMatrix n = .ok fm :=
  ⟨_, Proofs.Mask.functionMatrix_of_ok n m0 hm0⟩

theorem mask_inv (m1 fm : Matrix) (mask : Option Nat) (mk : Nat) (m2 : Matrix)
    (hfm : functionMatrix m1.size = .ok fm)
    (h : findAndApplyBestMask m1 mask = .ok (mk, m2)) :
    mk < (maskPatterns (decide (m1.size < 21))).length
      ∧ m2 = applyMask m1 fm ((maskPatterns (decide (m1.size < 21))).getD mk 0) := by
  obtain ⟨fm', hfm', -, hmk⟩ := (Proofs.Mask.fabm_ok_iff m1 mask mk m2).1 h
  cases hfm.symm.trans hfm'
  exact hmk

theorem fm_cells (v : Int) (fm : Matrix) (h1 : -3 ≤ v) (h2 : v ≤ 40)
    (hfm : functionMatrix (Spec.size v) = .ok fm) (i j : Nat) (hi : i < Spec.size v) (hj : j < Spec.size v) :
    get2 fm i j = skelCell 1 v i j := by
  have hrf : toRows fm = skelRows 1 v := by
    have := functionMatrix_rows_all v h1 h2
    rw [hfm] at this
    exact Except.ok.inj this
  exact cells_of_toRows 1 v fm hrf i j hi hj

theorem placed_mask (v : Int) (m1 fm : Matrix) (p : Nat) (h1 : -3 ≤ v) (h2 : v ≤ 40)
    (hfm : functionMatrix (Spec.size v) = .ok fm) (hp : Placed v m1) : Placed v (applyMask m1 fm p) := by
  obtain ⟨hsq, hdata, hother⟩ := hp
  refine ⟨Proofs.Placement.Sq_applyMask fm p hsq, ?_, ?_⟩
  · intro i j hi hj hd
    rw [Proofs.Placement.get2_applyMask_sq fm p hsq hi hj]
    split
    · exact Proofs.Mask.xor_bit_le _ _ (hdata i j hi hj hd)
    · exact hdata i j hi hj hd
  · intro i j hi hj hd
    rw [Proofs.Mask.applyMask_leaves m1 fm p i j
      (by rw [fm_cells v fm h1 h2 hfm i j hi hj]; exact skelCell_le_one_of_not_data 1 (by decide) v i j hd)]
    exact hother i j hi hj hd

open Proofs.Placement in

theorem fmtWrites_bin (v : Int) (n fi : Nat) : ∀ w ∈ fmtWrites v n fi, w.2.2 ≤ 1 := by
  intro w hw
  unfold fmtWrites at hw
  split at hw
  · obtain ⟨i, _, rfl | rfl⟩ := (mem_fmtWrites_micro _ w).1 hw <;> (simp only; omega)
  · rcases (mem_fmtWrites_qr _ _ w).1 hw with ⟨i, _, rfl | rfl | rfl | rfl⟩ | rfl <;> (simp only; omega)

open Proofs.Placement in

theorem format_step (m m' : Matrix) (v : Int) (lvl : Option Nat) (mask : Nat) (_ : -3 ≤ v) (_ : v ≤ 40)
    (hs : Proofs.Placement.Sq m (Spec.size v)) (h : addFormatInfo m v lvl mask = .ok m') :
    Proofs.Placement.Sq m' (Spec.size v) ∧ (∀ a b, get2 m a b ≤ 1 → get2 m' a b ≤ 1) := by
  obtain ⟨fi, -, rfl⟩ := addFormatInfo_ok h
  exact ⟨(Sq_applyW m _ _).2 hs, fun a b hab => applyW_bin m _ _ hs (fmtWrites_bin v _ fi) a b hab⟩

/-- the two 6×3 blocks of the version information -/
def inVersionArea (n a b : Nat) : Prop :=
  (a < 6 ∧ n - 11 ≤ b ∧ b ≤ n - 9) ∨ (b < 6 ∧ n - 11 ≤ a ∧ a ≤ n - 9)

theorem kind_version (v : Int) (h1 : 7 ≤ v) (h2 : v ≤ 40) (a b : Nat) (h : inVersionArea (Spec.size v) a b) :
    Spec.kind v a b = .version := by
  have hn : 45 ≤ Spec.size v := by have := Proofs.Size.size_qr v (by omega); omega
  unfold inVersionArea at h
  unfold Spec.kind Spec.isMicro
  generalize Spec.size v = n at *
  simp only [show decide (v < 1) = false by simp; omega, Bool.false_eq_true, if_false,
    Bool.or_eq_true, Bool.and_eq_true, decide_eq_true_eq, beq_iff_eq]
  rw [if_neg (by omega), if_neg (by omega), if_neg (by omega), if_neg (by omega), if_pos (by omega)]

open Proofs.Placement in

theorem version_step (m m' : Matrix) (v : Int) (h1 : -3 ≤ v) (h2 : v ≤ 40)
    (hs : Proofs.Placement.Sq m (Spec.size v)) (h : addVersionInfo m v = .ok m') :
    Proofs.Placement.Sq m' (Spec.size v) ∧ (∀ a b, get2 m a b ≤ 1 → get2 m' a b ≤ 1)
      ∧ (∀ a b, Spec.kind v a b ≠ .version → get2 m' a b = get2 m a b)
      ∧ (∀ a b, ¬ inVersionArea (Spec.size v) a b → get2 m' a b = get2 m a b) := by
  by_cases hv : v < 7
  · rw [addVersionInfo_small m v hv] at h
    have := Except.ok.inj h
    subst this
    exact ⟨hs, fun _ _ h => h, fun _ _ _ => rfl, fun _ _ _ => rfl⟩
  · have hv' : 7 ≤ v := by omega
    have hn : 45 ≤ Spec.size v := by have := Proofs.Size.size_qr v (by omega); omega
    rw [addVersionInfo_eq m v hv' h2, hs.1] at h
    have h'' := Except.ok.inj h
    subst h''
    have hmem : ∀ w ∈ verWrites (Spec.size v) (Spec.golay18 v.toNat),
        w.2.2 ≤ 1 ∧ inVersionArea (Spec.size v) w.1 w.2.1 := by
      intro w hw
      unfold inVersionArea
      obtain ⟨i, hi, rfl | rfl | rfl | rfl | rfl | rfl⟩ := (mem_verWrites _ _ w).1 hw <;> (simp only; omega)
    have hout : ∀ a b, ¬ inVersionArea (Spec.size v) a b →
        get2 (applyW m (verWrites (Spec.size v) (Spec.golay18 v.toNat))) a b = get2 m a b := by
      intro a b hk
      apply get2_applyW_untouched m _ a b _ hs
      intro w hw ⟨e1, e2, _⟩
      apply hk
      rw [← e1, ← e2]
      exact (hmem w hw).2
    exact ⟨(Sq_applyW m _ _).2 hs, fun a b hab => applyW_bin m _ _ hs (fun w hw => (hmem w hw).1) a b hab,
      fun a b hk => hout a b (fun hin => hk (kind_version v hv' h2 a b hin)), hout⟩

end Proofs.EndToEnd
