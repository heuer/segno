/-
  Proofs.TieA2Boost — the parts of `boost_error_level` (translated, Gen/Funcs2.lean): `levels.index(error)`, the slice,
  and the loop over the higher levels, which is `Model.boostErrorLevel.go`.
-/
import Proofs.TieA2Capacity
import Props.TieA

namespace Proofs.TieA2
open Gen.Py Proofs.TieA Model

/-- the three reads of the segment list the translated code makes -/
def nEci (segs : List Segment) : Int :=
  Int.ofNat (segs.filter (fun s => s.mode == Gen.MODE_BYTE && s.encoding != some Gen.DEFAULT_BYTE_ENCODING)).length
def modesOf (segs : List Segment) : List Int := segs.map (fun s => (s.mode : Int))
def bitLen (segs : List Segment) : Int := Int.ofNat (sumNat (segs.map (fun s => s.bits.length)))

theorem bit_length_with_overhead_eq (segs : List Segment) (v : Int) (hv : v ≤ 40) (eci isSa : Bool) :
    Gen.Funcs.bit_length_with_overhead v eci isSa (nEci segs) (modesOf segs) (bitLen segs)
      = ofOption .keyError ((Model.bitLengthWithOverhead segs v eci isSa).map Int.ofNat) :=
  Props.TieA.bit_length_with_overhead_tie segs v hv eci isSa

theorem cap_then {β : Type} (v : Int) (e : Option Nat) (k : Int → M β) :
    Gen.Py.bind (lookup Gen.Funcs2.T_consts_SYMBOL_CAPACITY v) (fun d => Gen.Py.bind (lookup d (e.map Int.ofNat)) k)
      = Gen.Py.bind (ofOption .keyError ((Model.capacity v e).map Int.ofNat)) k := by
  rw [← capacity_lookup v e]
  unfold capLookup
  rw [bind_assoc]

theorem indexOf_unknown (levels : List Int) (n : Nat) (h : ∀ y ∈ levels, y ≠ (n : Int)) :
    indexOf levels (fun y => (some (n : Int)) == some y) = .error .valueError := by
  unfold indexOf
  have : levels.findIdx? (fun y => (some (n : Int)) == some y) = none := by
    rw [List.findIdx?_eq_none_iff]
    intro y hy
    have := h y hy
    simp
    omega
  rw [this]

theorem pop4 : popAt [(1 : Int), 0, 3, 2] (-1) = .ok (2, [1, 0, 3]) := by decide
theorem pop3 : popAt [(1 : Int), 0, 3] (-1) = .ok (3, [1, 0]) := by decide

/-- `levels.index(error)`: the position the model computes, `ValueError` for a level that is not in the list -/
theorem indexOf_toI (ls : List Nat) (n : Nat) :
    indexOf (toI ls) (fun y => some (n : Int) == some y)
      = if ls.contains n then .ok (ls.idxOf n : Int) else .error .valueError := by
  unfold indexOf
  have : (toI ls).findIdx? (fun y => some (n : Int) == some y) = if ls.contains n then some (ls.idxOf n) else none := by
    induction ls with
    | nil => rfl
    | cons a t ih =>
      have ha : (some (n : Int) == some (a : Int)) = (n == a) := by
        rw [Bool.eq_iff_iff]; simp; omega
      rw [toI_cons, List.findIdx?_cons, ih, ha, List.contains_cons, List.idxOf_cons, BEq.comm (a := a)]
      cases n == a <;> cases t.contains n <;> rfl
  rw [this]
  cases ls.contains n <;> rfl

/-- the loop of `boost_error_level` over the levels above the current one, with the `return error` that follows it,
    is `boostErrorLevel.go` -/
theorem boost_loop (v : Int) (dl : Nat) (body : Option Int → Int → M (Step (Option Int) (Option Int)))
    (k : Done (Option Int) (Option Int) → M (Option Int)) (ls : List Nat) (cur : Nat)
    (hbody : ∀ acc (l : Nat), body acc (l : Int) = Gen.Py.bind (ofOption .keyError ((capacity v (some l)).map Int.ofNat))
      fun c => if decide (c ≥ (dl : Int)) then .ok (.next (some (l : Int))) else .ok (.brk acc))
    (hk : ∀ s, k (.fin s) = .ok s) :
    toR (Gen.Py.bind (forM (toI ls) (some (cur : Int)) body) k)
      = (boostErrorLevel.go v dl cur ls).map (fun r => some (r : Int)) := by
  induction ls generalizing cur with
  | nil => rw [toI_nil, forM_nil, bind_ok, hk]; rfl
  | cons l ls ih =>
    rw [toI_cons, forM_cons, hbody, boostErrorLevel.go]
    cases capacity v (some l) with
    | none => rfl
    | some cap =>
      simp only [Option.map_some, ofOption_some, bind_ok]
      by_cases h : cap ≥ dl
      · rw [if_pos (by simpa using h), if_pos h]
        exact ih l
      · rw [if_neg (by simpa using h), if_neg h]
        simp only [bind_ok, hk]
        rfl

/-- `boost_error_level` from the read of the data length on, for any list of candidate levels; the right side is that of
    `Proofs.Sizing.boost_eq` with the list as a variable -/
theorem boost_from (segs : List Segment) (v : Int) (n : Nat) (eci isSa : Bool) (levels : List Nat) :
    toR (Gen.Py.bind (ofOption .keyError ((bitLengthWithOverhead segs v eci isSa).map Int.ofNat)) fun dl =>
      Gen.Py.bind (indexOf (toI levels) fun y => some (n : Int) == some y) fun k =>
        Gen.Py.bind
          (forM (slice (toI levels) (some (k + 1)) none) (some (n : Int)) fun acc l =>
            Gen.Py.bind (lookup Gen.Funcs2.T_consts_SYMBOL_CAPACITY v) fun d =>
              Gen.Py.bind (lookup d (some l)) fun c =>
                if decide (c ≥ dl) then .ok (.next (some l)) else .ok (.brk acc))
          fun d => match d with
            | .fin s => .ok s
            | .ret s => .ok s)
      = Except.map (Option.map Int.ofNat) (match bitLengthWithOverhead segs v eci isSa with
          | some d =>
            if levels.contains n then
              (match boostErrorLevel.go v d n (levels.drop (levels.idxOf n + 1)) with
               | .ok r => .ok (some r)
               | .error x => .error x)
            else .error PyErr.valueError
          | none => .error PyErr.keyError) := by
  cases bitLengthWithOverhead segs v eci isSa with
  | none => rfl
  | some dl =>
    rw [Option.map_some, ofOption_some, bind_ok, indexOf_toI]
    cases hc : levels.contains n with
    | false => rfl
    | true =>
      have hs : slice (toI levels) (some (((levels.idxOf n : Nat) : Int) + 1)) none = toI (levels.drop (levels.idxOf n + 1)) := by
        rw [show ((levels.idxOf n : Nat) : Int) + 1 = ((levels.idxOf n + 1 : Nat) : Int) from rfl, slice_from, toI_drop]
      simp only [if_true, bind_ok, hs]
      refine (boost_loop v dl _ _ _ n ?_ ?_).trans ?_
      · exact fun acc l => cap_then v (some l) _
      · exact fun s => rfl
      · cases boostErrorLevel.go v dl n (levels.drop (levels.idxOf n + 1)) <;> rfl

end Proofs.TieA2
