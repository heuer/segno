/-
  Proofs.HelpersNum — decimal texts as Python writes them and the specification reads them: digits,
  `'{:.kf}'` followed by `.rstrip('0').rstrip('.')`, and `parseFixed` on such a text; the EPC amount text is
  the case of two decimals; and rounding to the nearest, ties to even.
-/
import Proofs.Helpers
import Model.Helpers
import Proofs.Decimal

namespace Proofs.Helpers
open Spec.Helpers
open Model.Helpers (digitChar decDigits rstrip fmtAmount roundHalfEven)

theorem digit_facts : ∀ k < 10,
    digitVal (Char.ofNat (48 + k)) = some k ∧ (Char.ofNat (48 + k) = '0' ↔ k = 0) ∧ isDigit (Char.ofNat (48 + k)) = true := by
  decide

theorem digitVal_digitChar (n : Nat) : digitVal (digitChar n) = some (n % 10) :=
  (digit_facts (n % 10) (Nat.mod_lt _ (by omega))).1

theorem digitChar_eq_zero_iff (n : Nat) : digitChar n = '0' ↔ n % 10 = 0 := (digit_facts (n % 10) (Nat.mod_lt _ (by omega))).2.1

theorem isDigit_digitChar (n : Nat) : isDigit (digitChar n) = true := (digit_facts (n % 10) (Nat.mod_lt _ (by omega))).2.2

theorem isDigit_ne {c : Char} (h : isDigit c = true) : c ≠ '.' ∧ c ≠ '-' ∧ c ≠ ',' := by
  refine ⟨?_, ?_, ?_⟩ <;> (intro e; subst e; simp [isDigit] at h)

def IsDigits (s : List Char) : Prop := ∀ c ∈ s, isDigit c = true

theorem IsDigits.append {a b : List Char} (ha : IsDigits a) (hb : IsDigits b) : IsDigits (a ++ b) :=
  List.forall_mem_append.mpr ⟨ha, hb⟩

theorem isDigits_digitChar (n : Nat) : IsDigits [digitChar n] := by
  intro c hc; rw [List.mem_singleton.mp hc]; exact isDigit_digitChar n

theorem decDigits_lt (n : Nat) (h : n < 10) : decDigits n = [digitChar n] := by
  rw [decDigits]; simp [h]

theorem parseDigitsAux_append (l m : List Char) (acc : Nat) :
    parseDigitsAux acc (l ++ m) = (parseDigitsAux acc l).bind (fun v => parseDigitsAux v m) := by
  induction l generalizing acc with
  | nil => rfl
  | cons x xs ih =>
    simp only [List.cons_append, parseDigitsAux]
    cases digitVal x with
    | none => rfl
    | some d => exact ih _

theorem digitChar_eq : ∀ n < 10, digitChar n = Nat.digitChar n := by decide

theorem decDigits_eq (n : Nat) : decDigits n = Nat.toDigits 10 n := by
  fun_induction decDigits n with
  | case1 n h => rw [Nat.toDigits_of_lt_base h, digitChar_eq n h]
  | case2 n h ih =>
    rw [Nat.toDigits_of_base_le (by decide) (by omega), ih, digitChar_eq _ (Nat.mod_lt n (by decide))]

theorem parseDigitsAux_eq {l : List Char} (h : IsDigits l) (acc : Nat) :
    parseDigitsAux acc l = some (Nat.ofDigitChars 10 l acc) := by
  induction l generalizing acc with
  | nil => rfl
  | cons c t ih =>
    simp only [parseDigitsAux, digitVal, if_pos (h c (by simp)), ih (fun x hx => h x (by simp [hx])), Nat.ofDigitChars_cons,
      Nat.mul_comm 10]
    rfl

theorem parseDigitsAux_zeros (n acc : Nat) : parseDigitsAux acc (List.replicate n '0') = some (acc * 10 ^ n) := by
  rw [parseDigitsAux_eq (fun c hc => by rw [List.eq_of_mem_replicate hc]; rfl), Nat.ofDigitChars_replicate_zero, Nat.mul_comm]

theorem decDigits_isDigits (n : Nat) : IsDigits (decDigits n) :=
  fun c hc => Proofs.Decimal.isDigit_toDigits n c (decDigits_eq n ▸ hc)

theorem decDigits_ne_nil (n : Nat) : decDigits n ≠ [] := decDigits_eq n ▸ Nat.toDigits_ne_nil

theorem parseDigitsAux_decDigits (n acc : Nat) :
    parseDigitsAux acc (decDigits n) = some (acc * 10 ^ (decDigits n).length + n) := by
  rw [parseDigitsAux_eq (decDigits_isDigits n), Nat.ofDigitChars_eq_ofDigitChars_zero, decDigits_eq,
    Nat.ofDigitChars_ten_toDigits, Nat.mul_comm]

theorem decDigits_ne_dot (n : Nat) : ∀ c ∈ decDigits n, c ≠ '.' := fun c hc => (isDigit_ne (decDigits_isDigits n c hc)).1

theorem parseDigits_decDigits (n : Nat) : parseDigits (decDigits n) = some n := by
  have : (decDigits n).isEmpty = false := List.isEmpty_eq_false_iff.mpr (decDigits_ne_nil n)
  simp [parseDigits, this, parseDigitsAux_decDigits]

theorem decDigits_head_ne_minus (q : Nat) (t : List Char) : (decDigits q ++ t).head? ≠ some '-' := by
  cases hd : decDigits q with
  | nil => exact absurd hd (decDigits_ne_nil q)
  | cons y ys => simpa using (isDigit_ne (decDigits_isDigits q y (by rw [hd]; simp))).2.1

theorem rstrip_sublist (c : Char) (s : List Char) : (rstrip c s).Sublist s := rstripBy_sublist _ s

theorem mem_rstrip {c x : Char} {s : List Char} (h : x ∈ rstrip c s) : x ∈ s := (rstrip_sublist c s).subset h

theorem rstrip_getLast_ne (c : Char) (s : List Char) : (rstrip c s).getLast? ≠ some c := by
  rw [rstrip, List.getLast?_reverse]
  intro h
  simpa [h] using List.head?_dropWhile_not (· = c) s.reverse

theorem rstrip_snoc_ne (c y : Char) (xs : List Char) (h : y ≠ c) : rstrip c (xs ++ [y]) = xs ++ [y] := by
  simp [rstrip, h]

theorem rstrip_snoc_eq (c : Char) (xs : List Char) : rstrip c (xs ++ [c]) = rstrip c xs := by
  simp [rstrip]

theorem rstrip_of_tail_ne (c : Char) (p l : List Char) (hne : l ≠ []) (h : ∀ x ∈ l, x ≠ c) : rstrip c (p ++ l) = p ++ l := by
  unfold rstrip
  rw [List.reverse_append]
  cases hr : l.reverse with
  | nil => simp at hr; exact absurd hr hne
  | cons y t =>
    have hy : y ≠ c := h y (by rw [← List.mem_reverse, hr]; simp)
    simp only [List.cons_append, List.dropWhile_cons, hy, decide_false, Bool.false_eq_true, if_false]
    rw [← List.cons_append, ← hr, ← List.reverse_append, List.reverse_reverse]

theorem rstrip_append (c : Char) (w m : List Char) :
    rstrip c (w ++ m) = if rstrip c m = [] then rstrip c w else w ++ rstrip c m := rstripBy_append _ w m

theorem rstrip_zeros_point (P D Z : List Char) (hD : D ≠ []) (hDd : ∀ c ∈ D, c ≠ '.') (hZ : ∀ c ∈ Z, c ≠ '.') :
    rstrip '.' (rstrip '0' (P ++ D ++ '.' :: Z))
      = P ++ (D ++ (if rstrip '0' Z = [] then [] else '.' :: rstrip '0' Z)) := by
  have hF : ∀ c ∈ rstrip '0' Z, c ≠ '.' := fun c hc => hZ c (mem_rstrip hc)
  have h0 : rstrip '0' (P ++ D ++ '.' :: Z) = (P ++ D ++ ['.']) ++ rstrip '0' Z := by
    have e : P ++ D ++ '.' :: Z = (P ++ D ++ ['.']) ++ Z := by simp
    rw [e, rstrip_append]
    split
    next h => rw [h, rstrip_snoc_ne _ _ _ (by decide), List.append_nil]
    · rfl
  rw [h0]
  split
  next h => rw [h, List.append_nil, rstrip_snoc_eq, rstrip_of_tail_ne '.' P D hD hDd, List.append_nil]
  next h => rw [rstrip_of_tail_ne '.' _ _ h hF]; simp

theorem rstrip_append_replicate (c : Char) (s : List Char) :
    rstrip c s ++ List.replicate (s.length - (rstrip c s).length) c = s := by
  have hsplit := List.takeWhile_append_dropWhile (p := (· = c)) (l := s.reverse)
  have hrun : s.reverse.takeWhile (· = c) = List.replicate (s.reverse.takeWhile (· = c)).length c :=
    List.eq_replicate_iff.mpr ⟨rfl, fun b hb => by simpa using List.all_eq_true.mp List.all_takeWhile b hb⟩
  have hlen := congrArg List.length hsplit
  rw [List.length_append, List.length_reverse] at hlen
  have hs : s = rstrip c s ++ (s.reverse.takeWhile (· = c)).reverse := by
    rw [rstrip, ← List.reverse_append, hsplit, List.reverse_reverse]
  have hn : s.length - (rstrip c s).length = (s.reverse.takeWhile (· = c)).length := by
    rw [rstrip, List.length_reverse]; omega
  rw [hn]
  conv => rhs; rw [hs, hrun, List.reverse_replicate]

theorem parse_rstrip_zeros (Z : List Char) (f : Nat) (hZ : parseDigitsAux 0 Z = some f) :
    ∃ v, parseDigitsAux 0 (rstrip '0' Z) = some v ∧ f = v * 10 ^ (Z.length - (rstrip '0' Z).length) := by
  rw [← rstrip_append_replicate '0' Z, parseDigitsAux_append] at hZ
  cases hv : parseDigitsAux 0 (rstrip '0' Z) with
  | none => rw [hv] at hZ; cases hZ
  | some v =>
    rw [hv, Option.bind_some, parseDigitsAux_zeros] at hZ
    exact ⟨v, rfl, (Option.some.inj hZ).symm⟩

theorem parseFixed_canonical (k : Nat) (sgn : Bool) (q : Nat) (F : List Char) (v : Nat)
    (hv : parseDigitsAux 0 F = some v) (hlen : F.length ≤ k) (hlast : F.getLast? ≠ some '0') :
    parseFixed k ((if sgn then ['-'] else []) ++ (decDigits q ++ (if F = [] then [] else '.' :: F)))
      = some (sgn, q * 10 ^ k + v * 10 ^ (k - F.length), true) := by
  have hqdot := decDigits_ne_dot q
  -- the sign is read off, and what follows it is the body
  have h1 : ∀ B : List Char, B.head? ≠ some '-' → (((if sgn then ['-'] else []) ++ B).head? == some '-') = sgn := by
    intro B hB
    cases sgn
    · simpa using hB
    · rfl
  have h2 : ∀ B : List Char, (if sgn = true then ((if sgn then ['-'] else []) ++ B).tail else (if sgn then ['-'] else []) ++ B) = B := by
    intro B; cases sgn <;> rfl
  unfold parseFixed
  simp only [h1 _ (decDigits_head_ne_minus q _), h2]
  by_cases he : F = []
  · subst he
    have hv0 : v = 0 := by simpa [parseDigitsAux] using hv.symm
    simp only [if_true, List.append_nil, takeWhile_all '.' _ hqdot, dropWhile_all '.' _ hqdot, parseDigits_decDigits, hv0]
    simp
  · have hne : F.isEmpty = false := List.isEmpty_eq_false_iff.mpr he
    have hp : parseDigits F = some v := by simp [parseDigits, hne, hv]
    have hlast' : (F.getLast? != some '0') = true := by simpa using hlast
    simp only [if_neg he, takeWhile_until '.' _ _ hqdot, dropWhile_until '.' _ _ hqdot, parseDigits_decDigits,
      Nat.not_lt.mpr hlen, if_false, hp, hlast']

theorem fmtAmount_eq (cents : Nat) :
    fmtAmount cents = ['E', 'U', 'R'] ++ (decDigits (cents / 100) ++
      (if rstrip '0' [digitChar (cents % 100 / 10), digitChar (cents % 10)] = [] then []
       else '.' :: rstrip '0' [digitChar (cents % 100 / 10), digitChar (cents % 10)])) := by
  exact rstrip_zeros_point _ _ _ (decDigits_ne_nil _) (decDigits_ne_dot _)
    (fun c hc => (isDigit_ne ((isDigits_digitChar _).append (isDigits_digitChar _) c hc)).1)

theorem fmtAmount_shape (cents : Nat) :
    fmtAmount cents = ['E', 'U', 'R'] ++ decDigits (cents / 100) ++
      (if cents % 10 ≠ 0 then ['.', digitChar (cents % 100 / 10), digitChar (cents % 10)]
       else if cents % 100 / 10 % 10 ≠ 0 then ['.', digitChar (cents % 100 / 10)] else []) := by
  rw [fmtAmount_eq, List.append_assoc]
  by_cases h0 : cents % 10 ≠ 0
  · have hd0 : digitChar (cents % 10) ≠ '0' := fun e => h0 (by have := (digitChar_eq_zero_iff _).mp e; omega)
    rw [if_pos h0, show rstrip '0' [_, _] = _ from rstrip_snoc_ne '0' _ [_] hd0]; rfl
  · have hd0 : digitChar (cents % 10) = '0' := (digitChar_eq_zero_iff _).mpr (by omega)
    rw [if_neg h0, hd0, show rstrip '0' [_, '0'] = _ from rstrip_snoc_eq '0' [_]]
    by_cases h1 : cents % 100 / 10 % 10 ≠ 0
    · have hd1 : digitChar (cents % 100 / 10) ≠ '0' := fun e => h1 ((digitChar_eq_zero_iff _).mp e)
      rw [if_pos h1, show rstrip '0' [_] = _ from rstrip_snoc_ne '0' _ [] hd1]; rfl
    · have hd1 : digitChar (cents % 100 / 10) = '0' := (digitChar_eq_zero_iff _).mpr (by omega)
      rw [if_neg h1, hd1]; rfl

theorem parseAmount_fmtAmount (cents : Nat) : parseAmountCents (fmtAmount cents) = some cents := by
  have hZ : parseDigitsAux 0 [digitChar (cents % 100 / 10), digitChar (cents % 10)] = some (cents % 100) := by
    simp [parseDigitsAux, digitVal_digitChar]; omega
  obtain ⟨v, hv, hfv⟩ := parse_rstrip_zeros _ _ hZ
  have hp := parseFixed_canonical 2 false (cents / 100) _ v hv ((rstrip_sublist _ _).length_le) (rstrip_getLast_ne _ _)
  rw [fmtAmount_eq]
  unfold parseAmountCents
  rw [stripPrefix_append]
  simp only [beq_eq_false_iff_ne.mpr (decDigits_head_ne_minus _ _), Bool.false_eq_true, if_false]
  simp only [Bool.false_eq_true, if_false, List.nil_append] at hp
  rw [hp]
  simp only [Option.map_some, Option.some.injEq]
  rw [show [digitChar (cents % 100 / 10), digitChar (cents % 10)].length = 2 from rfl] at hfv
  omega

theorem roundHalfEven_cases (n d : Nat) :
    (roundHalfEven n d = n / d ∧ 2 * (n % d) ≤ d) ∨ (roundHalfEven n d = n / d + 1 ∧ d ≤ 2 * (n % d)) := by
  unfold roundHalfEven
  simp only
  split
  · exact .inl ⟨rfl, by omega⟩
  · split
    · exact .inr ⟨rfl, by omega⟩
    · split
      · exact .inl ⟨rfl, by omega⟩
      · exact .inr ⟨rfl, by omega⟩

theorem roundHalfEven_near (n d : Nat) (hd : d ≠ 0) :
    2 * ((roundHalfEven n d : Int) * d - n).natAbs ≤ d := by
  have hdm := Nat.div_add_mod n d
  have hr : n % d < d := Nat.mod_lt _ (Nat.pos_of_ne_zero hd)
  have hcomm : n / d * d = d * (n / d) := Nat.mul_comm _ _
  rcases roundHalfEven_cases n d with ⟨e, h⟩ | ⟨e, h⟩
  · rw [e, ← Int.natCast_mul]; omega
  · rw [e, ← Int.natCast_mul, Nat.add_mul, Nat.one_mul]; omega

theorem isRounding_roundHalfEven (k : Nat) (x : Rat') (hd : x.den ≠ 0) :
    isRounding k x.neg (roundHalfEven (x.num * 10 ^ k) x.den) x = true := by
  have h := roundHalfEven_near (x.num * 10 ^ k) x.den hd
  unfold isRounding
  simp only [Bool.and_eq_true, bne_iff_ne, ne_eq, hd, not_false_eq_true, decide_eq_true_eq, true_and]
  cases x.neg
  · simpa using h
  · have : ∀ a b : Int, (-a * (x.den : Int) - -b * (10 : Int) ^ k).natAbs = (a * x.den - b * 10 ^ k).natAbs := by
      intro a b
      rw [Int.neg_mul, Int.neg_mul]
      generalize a * (x.den : Int) = u
      generalize b * (10 : Int) ^ k = w
      omega
    simp only [if_true]
    rw [this]
    simpa using h

theorem le_roundHalfEven (n d : Nat) : n / d ≤ roundHalfEven n d := by
  rcases roundHalfEven_cases n d with ⟨e, _⟩ | ⟨e, _⟩
  · exact Nat.le_of_eq e.symm
  · omega

theorem roundHalfEven_le (n d m : Nat) (hd : 0 < d) (h : n ≤ m * d) : roundHalfEven n d ≤ m := by
  have hdm := Nat.div_add_mod n d
  have hq : n / d ≤ m := Nat.div_le_of_le_mul (by rwa [Nat.mul_comm])
  rcases roundHalfEven_cases n d with ⟨e, _⟩ | ⟨e, h2⟩
  · omega
  · -- rounded up, so the remainder is not 0 and the quotient is below `m`
    have : n / d ≠ m := by
      intro hqm
      rw [hqm, Nat.mul_comm] at hdm
      omega
    omega

theorem isRounding_cents (x : Rat') (hd : x.den ≠ 0) (hn : x.neg = false) :
    isRounding 2 false (roundHalfEven (100 * x.num) x.den) x = true := by
  have h := isRounding_roundHalfEven 2 x hd
  rw [hn] at h
  have e : x.num * 10 ^ 2 = 100 * x.num := by omega
  rwa [e] at h
end Proofs.Helpers
