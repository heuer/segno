/-
  The four parts of the penalty score of `Model.evaluateMask`, bounded line by line for an n × n matrix of 0 / 1 modules
  (`maskScores_le`): with n ≤ 177 the sum is far below `sys.maxsize`, the hypothesis `hmax` of `best_mask_eq`.
-/
import Proofs.TieA2Scores
import Proofs.TieAOverhead

namespace Proofs.TieA3
open Proofs.TieA Proofs.TieA2 Model

theorem sumNat_map_le {α : Type} (l : List α) (f : α → Nat) (B : Nat) (h : ∀ x ∈ l, f x ≤ B) : sumNat (l.map f) ≤ l.length * B := by
  induction l with
  | nil => simp [sumNat]
  | cons x t ih =>
    rw [List.map_cons, sumNat_cons, List.length_cons, Nat.succ_mul]
    have h1 := h x (by simp)
    have h2 := ih (fun y hy => h y (by simp [hy]))
    omega

theorem n1Step_step (acc : Nat × Nat × Nat) (b : Nat) :
    (Proofs.Mask.n1Step acc b).1 + (Proofs.Mask.n1Step acc b).2.2 ≤ acc.1 + acc.2.2 + 1 := by
  unfold Proofs.Mask.n1Step
  split
  · simp; omega
  · split <;> simp

theorem n1Step_inv (l : List Nat) : ∀ acc : Nat × Nat × Nat,
    (l.foldl Proofs.Mask.n1Step acc).1 + (l.foldl Proofs.Mask.n1Step acc).2.2 ≤ acc.1 + acc.2.2 + l.length := by
  induction l with
  | nil => intro acc; simp
  | cons b t ih =>
    intro acc
    rw [List.foldl_cons, List.length_cons]
    have h1 := ih (Proofs.Mask.n1Step acc b)
    have h2 := n1Step_step acc b
    omega

theorem n1Line_le (l : List Nat) : n1Line l ≤ l.length := by
  rw [Proofs.Mask.n1Line_eq_foldl]
  have := n1Step_inv l (0, 2, 0)
  unfold Proofs.Mask.n1Fin
  simp only [] at this ⊢
  split <;> omega

theorem n3_go_le (seq : List Nat) : ∀ (fuel : Nat) (idx : Option Nat) (count : Nat),
    n3Occurrences.go seq seq.length fuel idx count ≤ count + 40 * fuel := by
  intro fuel
  induction fuel with
  | zero => intro idx count; rw [n3Occurrences.go.eq_1]; omega
  | succ f ih =>
    intro idx count
    cases idx with
    | none => rw [Proofs.Mask.n3Occurrences_go_none]; omega
    | some i =>
      rw [Proofs.Mask.n3Occurrences_go_some]
      refine Nat.le_trans (ih _ _) ?_
      split <;> omega

theorem n3_le (seq : List Nat) : n3Occurrences seq ≤ 40 * (seq.length + 1) := by
  unfold n3Occurrences
  have := n3_go_le seq (seq.length + 1) (findPattern seq 0) 0
  simpa using this

theorem sum_bits_le (l : List Nat) (h : ∀ b ∈ l, b ≤ 1) : sumNat l ≤ l.length := by
  have := sumNat_map_le l id 1 (fun x hx => h x hx)
  simpa using this

theorem row_eq (m : Matrix) (i : Nat) : (m.getD i #[]).toList = rowL m i := rfl
theorem col_eq (m : Matrix) : column m = colL m := rfl

theorem rows_le {m : Matrix} {n : Nat} (hs : Sq m n) (g : List Nat → Nat) (B : Nat → Nat)
    (hg : ∀ i, g (rowL m i) ≤ B (rowL m i).length) : sumNat ((List.range n).map (g ∘ fun i => rowL m i)) ≤ n * B n := by
  have := sumNat_map_le (List.range n) (g ∘ fun i => rowL m i) (B n) (fun i hi => by
    have := hg i
    rwa [rowL_length hs i (List.mem_range.mp hi)] at this)
  rwa [List.length_range] at this

theorem cols_le {m : Matrix} {n : Nat} (hs : Sq m n) (g : List Nat → Nat) (B : Nat → Nat)
    (hg : ∀ i, g (colL m i) ≤ B (colL m i).length) : sumNat ((List.range n).map (g ∘ colL m)) ≤ n * B n := by
  have := sumNat_map_le (List.range n) (g ∘ colL m) (B n) (fun i _ => by
    have := hg i
    rwa [colL_length hs i] at this)
  rwa [List.length_range] at this

theorem ite_le_three (a b c d : Nat) : (if (a == b && a == c && a == d) = true then 3 else 0) ≤ 3 := by
  split <;> omega

theorem maskScores_le (m : Matrix) (n : Nat) (hs : Sq m n) (hbits : ∀ i j, get2 m i j ≤ 1) :
    (maskScores m).1 ≤ n * n + n * n ∧ (maskScores m).2.1 ≤ (n - 1) * ((n - 1) * 3)
    ∧ (maskScores m).2.2.1 ≤ n * (40 * (n + 1)) + n * (40 * (n + 1)) ∧ (maskScores m).2.2.2 ≤ 300 := by
  unfold maskScores
  simp only [hs.size, List.map_map, row_eq, col_eq]
  refine ⟨?_, ?_, ?_, ?_⟩
  · have h1 := rows_le hs n1Line id (fun i => n1Line_le _)
    have h2 := cols_le hs n1Line id (fun i => n1Line_le _)
    exact Nat.add_le_add h1 h2
  · -- at most 3 for each of the (n − 1)² blocks of 2 × 2 modules
    have := sumNat_map_le (List.range (n - 1)) _ ((n - 1) * 3) (fun i _ => by
      have := sumNat_map_le (List.range (n - 1)) _ 3 (fun j _ => ite_le_three (get2 m i j) (get2 m i (j + 1)) (get2 m (i + 1) j)
        (get2 m (i + 1) (j + 1)))
      simpa using this)
    simpa using this
  · have h1 := rows_le hs n3Occurrences (fun k => 40 * (k + 1)) (fun i => n3_le _)
    have h2 := cols_le hs n3Occurrences (fun k => 40 * (k + 1)) (fun i => n3_le _)
    exact Nat.add_le_add h1 h2
  · have hd := rows_le hs sumNat id (fun i => sum_bits_le _ (rowL_bits hbits i))
    simp only [id] at hd
    generalize sumNat (List.map (sumNat ∘ fun i => rowL m i) (List.range n)) = dark at hd ⊢
    generalize n * n = total at hd ⊢
    have hq : ∀ dev : Nat, dev ≤ 30 * total → dev / total ≤ 30 := by
      intro dev h
      by_cases ht : total = 0
      · subst ht; simp
      · exact Nat.div_le_of_le_mul (by rw [Nat.mul_comm]; exact h)
    split
    · have := hq (20 * dark - 10 * total) (by omega); omega
    · have := hq (10 * total - 20 * dark) (by omega); omega

theorem evaluateMask_le (m : Matrix) (n : Nat) (hs : Sq m n) (hbits : ∀ i j, get2 m i j ≤ 1) :
    Model.evaluateMask m ≤ 2 * (n * n) + (n - 1) * ((n - 1) * 3) + 2 * (n * (40 * (n + 1))) + 300 := by
  obtain ⟨h1, h2, h3, h4⟩ := maskScores_le m n hs hbits
  rw [Proofs.Mask.evaluateMask_parts]
  omega

end Proofs.TieA3
