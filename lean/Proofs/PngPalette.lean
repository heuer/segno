/-
  Proofs.PngPalette — the palette / tRNS assembly of `Model.buildPalette` read back with the reference
  reader's colour semantics.  `paletteFrom_ok` lists the five outcomes of `Model.paletteFrom` on a
  sorted set of colours; everything said about the palette is derived from that list.  In front of it stand the lemmas on
  looking a module type up in a colour map (`cmGet_*`, `parseMap`, `eraseDups_*`) that the colormap, PPM and SVG proofs use too.
-/
import Proofs.PngDefs
import Proofs.Except

namespace Proofs.Png

open Model Spec

theorem length_rgb3 (c : PColor) : c.rgb3.length = 3 := by cases c <;> rfl

theorem length_flatMap_rgb3 (l : List PColor) : (l.flatMap PColor.rgb3).length = 3 * l.length := by
  induction l with
  | nil => rfl
  | cons c l ih => rw [List.flatMap_cons, List.length_append, ih, length_rgb3, List.length_cons]; omega

theorem getD_flatMap_rgb3 (l : List PColor) (k i : Nat) (hi : i < 3) (hk : k < l.length) :
    (l.flatMap PColor.rgb3).getD (3 * k + i) 0 = l[k].rgb3.getD i 0 := by
  induction l generalizing k with
  | nil => simp at hk
  | cons c l ih =>
    simp only [List.flatMap_cons, List.getD_eq_getElem?_getD, List.getElem?_append, length_rgb3]
    cases k with
    | zero => simp [hi]
    | succ k =>
      rw [if_neg (by omega), show 3 * (k + 1) + i - 3 = 3 * k + i by omega, ← List.getD_eq_getElem?_getD,
        ih k (by simpa using hk)]
      simp

/-- the palette entry the reference reader builds from the PLTE bytes of colour `c` and alpha `a` -/
def plteEntry (c : PColor) (a : Nat) : RGBA := ⟨c.rgb3.getD 0 0, c.rgb3.getD 1 0, c.rgb3.getD 2 0, a⟩

theorem plteOfBytes_getElem? (l : List PColor) (trns : List Nat) (k : Nat) :
    (plteOfBytes (l.flatMap PColor.rgb3) trns)[k]? = l[k]?.map (fun c => plteEntry c (trns.getD k 255)) := by
  unfold plteOfBytes
  rw [length_flatMap_rgb3, Nat.mul_div_cancel_left _ (by decide : 0 < 3)]
  by_cases hk : k < l.length
  · simp only [List.getElem?_map, List.getElem?_zipIdx, List.getElem?_range hk, Option.map_some, Nat.zero_add,
      List.getElem?_eq_getElem hk]
    rw [← Nat.add_zero (3 * k), getD_flatMap_rgb3 l k 0 (by omega) hk, Nat.add_zero, getD_flatMap_rgb3 l k 1 (by omega) hk,
      getD_flatMap_rgb3 l k 2 (by omega) hk]
    rfl
  · simp [Nat.le_of_not_lt hk]

theorem shows_self (c : PColor) : Shows c (plteEntry c c.alpha) := by
  cases c <;> simp [Shows, plteEntry, PColor.rgb3, PColor.alpha]

theorem shows_transparent (c : PColor) : Shows .transparent (plteEntry c 0) := rfl

theorem readColour_indexed (d : Nat) (plte trns : List Nat) (k : Nat) :
    readColour d 3 plte trns k = (plteOfBytes plte trns)[k]? := by
  simp [readColour, specPng, Png.img]

theorem readColour_grey1 (trns : List Nat) (k : Nat) :
    readColour 1 0 [] trns k =
      some ⟨k * 255, k * 255, k * 255,
        if (if trns.length == 2 then some (trns.getD 0 0 * 256 + trns.getD 1 0) else none) == some k then 0 else 255⟩ := by
  simp [readColour, specPng, Png.img]

theorem keyLe_trans (a b c : PColor) (h1 : keyLe a b = true) (h2 : keyLe b c = true) : keyLe a c = true := by
  simp only [keyLe, decide_eq_true_eq] at *; omega

theorem keyLe_total (a b : PColor) : (keyLe a b || keyLe b a) = true := by
  simp only [keyLe, Bool.or_eq_true, decide_eq_true_eq]; omega

theorem keyLe_transparent (a : PColor) (h : keyLe a .transparent = true) : a = .transparent := by
  cases a <;> simp [keyLe, PColor.key] at h ⊢

theorem insertBy_perm {α : Type} (le : α → α → Bool) (a : α) (l : List α) : (insertBy le a l).Perm (a :: l) := by
  induction l with
  | nil => exact List.Perm.refl _
  | cons b l ih =>
    unfold insertBy
    split
    · exact List.Perm.refl _
    · exact (List.Perm.cons b ih).trans (List.Perm.swap a b l)

theorem sortBy_perm {α : Type} (le : α → α → Bool) (l : List α) : (sortBy le l).Perm l := by
  induction l with
  | nil => exact List.Perm.refl _
  | cons a l ih => exact (insertBy_perm le a _).trans (List.Perm.cons a ih)

theorem insertBy_pairwise {α : Type} (le : α → α → Bool) (htrans : ∀ a b c, le a b = true → le b c = true → le a c = true)
    (htotal : ∀ a b, (le a b || le b a) = true) (a : α) (l : List α) (hl : l.Pairwise (fun x y => le x y = true)) :
    (insertBy le a l).Pairwise (fun x y => le x y = true) := by
  induction l with
  | nil => simp [insertBy]
  | cons b l ih =>
    obtain ⟨hb, hl'⟩ := List.pairwise_cons.1 hl
    unfold insertBy
    split
    · next hab =>
      refine List.pairwise_cons.2 ⟨fun x hx => ?_, hl⟩
      rcases List.mem_cons.1 hx with rfl | hx
      · exact hab
      · exact htrans _ _ _ hab (hb x hx)
    · next hab =>
      refine List.pairwise_cons.2 ⟨fun x hx => ?_, ih hl'⟩
      rcases List.mem_cons.1 ((insertBy_perm le a l).mem_iff.1 hx) with rfl | hx
      · simpa [hab] using htotal x b
      · exact hb x hx

theorem sortBy_pairwise {α : Type} (le : α → α → Bool) (htrans : ∀ a b c, le a b = true → le b c = true → le a c = true)
    (htotal : ∀ a b, (le a b || le b a) = true) (l : List α) : (sortBy le l).Pairwise (fun x y => le x y = true) := by
  induction l with
  | nil => exact List.Pairwise.nil
  | cons a l ih => exact insertBy_pairwise le htrans htotal a _ ih

/-- the `palette0` that `buildPalette` hands to `paletteFrom` -/
def palette0 (setOrder : List PColor → List PColor) (clrMap : List (Nat × PColor)) : List PColor :=
  sortBy keyLe (setOrder (clrMap.map (·.2)))

theorem mem_palette0 (setOrder : List PColor → List PColor) (hset : SetOrderOK setOrder) (clrMap : List (Nat × PColor)) (c : PColor) :
    c ∈ palette0 setOrder clrMap ↔ c ∈ clrMap.map (·.2) :=
  (sortBy_perm _ _).mem_iff.trans ((hset _).2 c)

theorem nodup_palette0 (setOrder : List PColor → List PColor) (hset : SetOrderOK setOrder) (clrMap : List (Nat × PColor)) :
    (palette0 setOrder clrMap).Nodup :=
  (sortBy_perm _ _).nodup_iff.2 (hset _).1

theorem sorted_palette0 (setOrder : List PColor → List PColor) (clrMap : List (Nat × PColor)) :
    (palette0 setOrder clrMap).Pairwise (fun a b => keyLe a b = true) :=
  sortBy_pairwise keyLe keyLe_trans keyLe_total _

theorem head_of_sorted (l : List PColor) (hs : l.Pairwise (fun a b => keyLe a b = true)) (h : PColor.transparent ∈ l) :
    ∃ rest, l = .transparent :: rest := by
  cases l with
  | nil => simp at h
  | cons a rest =>
    rcases List.mem_cons.1 h with h | h
    · exact ⟨rest, by rw [h]⟩
    · exact ⟨rest, by rw [keyLe_transparent a ((List.pairwise_cons.1 hs).1 _ h)]⟩

theorem cmGet_mem {α : Type} (cm : List (Nat × α)) (t : Nat) (c : α) (h : cmGet cm t = some c) : c ∈ cm.map (·.2) := by
  obtain ⟨e, he, rfl⟩ := Option.map_eq_some_iff.1 h
  exact List.mem_map.2 ⟨e, List.mem_of_find?_eq_some he, rfl⟩

theorem cmGet_filter {α : Type} (cm : List (Nat × α)) (q : Nat → Bool) (t : Nat) :
    cmGet (cm.filter (fun e => q e.1)) t = if q t then cmGet cm t else none := by
  unfold cmGet
  rw [List.find?_filter]
  split
  · next hq => congr 2; funext e; by_cases h : e.1 = t <;> simp [h, hq]
  · next hq =>
    rw [Option.map_eq_none_iff, List.find?_eq_none]
    intro e _
    by_cases h : e.1 = t <;> simp [h, hq]

theorem cmGet_mem_filter {α : Type} (cm : List (Nat × α)) (q : Nat → Bool) (t : Nat) (c : α) (h : cmGet cm t = some c)
    (hq : q t = true) : c ∈ (cm.filter (fun e => q e.1)).map (·.2) :=
  cmGet_mem _ t c (by rw [cmGet_filter, if_pos hq]; exact h)

theorem eraseDups_singleton_all_eq {α : Type} [BEq α] [LawfulBEq α] (l : List α) (h : l.eraseDups.length = 1) (x y : α)
    (hx : x ∈ l) (hy : y ∈ l) : x = y := by
  match hl : l.eraseDups, h with
  | [a], _ =>
    have hx' : x ∈ l.eraseDups := List.mem_eraseDups.2 hx
    have hy' : y ∈ l.eraseDups := List.mem_eraseDups.2 hy
    rw [hl] at hx' hy'
    simp only [List.mem_singleton] at hx' hy'
    rw [hx', hy']

theorem eraseDups_of_all_eq {α : Type} [BEq α] [LawfulBEq α] (a : α) (l : List α) (hne : l ≠ []) (h : ∀ x ∈ l, x = a) :
    l.eraseDups = [a] := by
  obtain ⟨b, l, rfl⟩ := List.exists_cons_of_ne_nil hne
  obtain rfl := h b List.mem_cons_self
  rw [List.eraseDups_cons, List.filter_eq_nil_iff.2 (fun x hx => by simp [h x (List.mem_cons_of_mem _ hx)])]
  rfl

theorem cmGet_map {α β : Type} (cm : List (Nat × α)) (f : α → β) (t : Nat) :
    cmGet (cm.map (fun e => (e.1, f e.2))) t = (cmGet cm t).map f := by
  simp [cmGet, List.find?_map, Function.comp_def]

/-- a colour map parsed entry by entry, `{k: f(colormap[k]) for k in colormap}` (`write_png`: `pngColor`, `write_ppm`: `colorToRgb`) -/
def parseMap {ε α β : Type} (f : α → Except ε β) (cm : List (Nat × α)) : Except ε (List (Nat × β)) :=
  cm.mapM (fun e => do let c ← f e.2; pure (e.1, c))

theorem parseMap_ok {ε α β : Type} (f : α → Except ε β) (d : β) (cm : List (Nat × α)) (m : List (Nat × β)) (h : parseMap f cm = .ok m) :
    (∀ e ∈ cm, f e.2 = .ok ((f e.2).toOption.getD d)) ∧ m = cm.map (fun e => (e.1, (f e.2).toOption.getD d)) := by
  induction cm generalizing m with
  | nil => cases h; exact ⟨fun _ h => (nomatch h), rfl⟩
  | cons e cm ih =>
    obtain ⟨y, rest, hy, hr, rfl⟩ := Proofs.Except.mapM_ok_cons.1 h
    obtain ⟨c, hc, hy⟩ := Proofs.Except.bind_ok.1 hy
    cases hy
    obtain ⟨h1, h2⟩ := ih rest hr
    refine ⟨fun e' he' => ?_, by rw [List.map_cons, hc, ← h2]; rfl⟩
    rcases List.mem_cons.1 he' with rfl | he'
    · rw [hc]; rfl
    · exact h1 e' he'

theorem parseMap_get {ε α β : Type} (f : α → Except ε β) (d : β) (cm : List (Nat × α)) (m : List (Nat × β)) (h : parseMap f cm = .ok m)
    (t : Nat) :
    (∀ a, cmGet cm t = some a → ∃ c, f a = .ok c ∧ cmGet m t = some c) ∧ (cmGet cm t = none → cmGet m t = none) := by
  obtain ⟨hall, rfl⟩ := parseMap_ok f d cm m h
  rw [cmGet_map (f := fun a => (f a).toOption.getD d)]
  refine ⟨fun a ha => ?_, fun hn => by rw [hn]; rfl⟩
  obtain ⟨e, he, rfl⟩ := List.mem_map.1 (cmGet_mem cm t a ha)
  exact ⟨_, hall e he, by rw [ha]; rfl⟩

theorem parseMap_get_some {ε α β : Type} (f : α → Except ε β) (cm : List (Nat × α)) (m : List (Nat × β)) (h : parseMap f cm = .ok m)
    (t : Nat) (c : β) (hc : cmGet m t = some c) : ∃ a, cmGet cm t = some a ∧ f a = .ok c := by
  obtain ⟨h1, h2⟩ := parseMap_get f c cm m h t
  cases ha : cmGet cm t with
  | none => rw [h2 ha] at hc; cases hc
  | some a => obtain ⟨c', hf, hg⟩ := h1 a ha; rw [hg] at hc; cases hc; exact ⟨a, rfl, hf⟩

theorem cmGet_replace (cm : List (Nat × PColor)) (T : PColor) (t : Nat) :
    cmGet (cm.map (fun e => if (e.2 == PColor.transparent) = true then (e.1, T) else e)) t
      = (cmGet cm t).map (fun c => if c == PColor.transparent then T else c) := by
  rw [← cmGet_map]
  congr 1
  apply List.map_congr_left
  intro e _
  split <;> rfl

theorem getElem?_idxOf_of_mem {α : Type} [BEq α] [LawfulBEq α] (l : List α) (c : α) (h : c ∈ l) : l[l.idxOf c]? = some c := by
  have hlt : l.idxOf c < l.length := List.idxOf_lt_length_iff.2 h
  rw [List.getElem?_eq_getElem hlt, List.getElem_idxOf hlt]

theorem mem_plteOrder (l : List PColor) (c : PColor) :
    c ∈ l.filter (fun x => x.isRgba) ++ l.filter (fun c => !c.isRgba) ↔ c ∈ l :=
  (List.filter_append_perm _ l).mem_iff

theorem length_plteOrder (l : List PColor) :
    (l.filter (fun x => x.isRgba) ++ l.filter (fun c => !c.isRgba)).length = l.length :=
  (List.filter_append_perm _ l).length_eq

theorem filter_isRgba_all (l : List PColor) : ∀ c ∈ l.filter (fun x => x.isRgba), c.isRgba = true :=
  fun _ hc => (List.mem_filter.1 hc).2

theorem filter_not_isRgba_all (l : List PColor) : ∀ c ∈ l.filter (fun c => !c.isRgba), c.isRgba = false :=
  fun _ hc => by simpa using (List.mem_filter.1 hc).2

theorem alpha_of_not_rgba (c : PColor) (h : c.isRgba = false) : c.alpha = 255 := by
  cases c <;> first | rfl | cases h

theorem trns_entry (A B : List PColor) (hA : ∀ c ∈ A, c.isRgba = true) (hB : ∀ c ∈ B, c.isRgba = false) (k : Nat) (c : PColor)
    (hk : (A ++ B)[k]? = some c) :
    (k < (A.map PColor.alpha).length ↔ c.isRgba = true) ∧ (A.map PColor.alpha).getD k 255 = c.alpha := by
  rw [List.length_map]
  by_cases h : k < A.length
  · rw [List.getElem?_append_left h] at hk
    exact ⟨⟨fun _ => hA c (List.mem_of_getElem? hk), fun _ => h⟩, by simp [hk]⟩
  · rw [List.getElem?_append_right (Nat.le_of_not_lt h)] at hk
    have hc := hB c (List.mem_of_getElem? hk)
    refine ⟨⟨fun h' => absurd h' h, fun h' => by rw [hc] at h'; cases h'⟩, ?_⟩
    rw [alpha_of_not_rgba c hc]
    simp [Nat.le_of_not_lt h]

theorem trnsBytes_plte (p : PaletteInfo) (hg : p.isGrey = false) (A B : List PColor) (hpal : p.palette = A ++ B)
    (hA : ∀ c ∈ A, c.isRgba = true) (hB : ∀ c ∈ B, c.isRgba = false) :
    trnsBytes p = if A = [] then (if p.isTransparent then [p.transIdx % 256] else []) else A.map PColor.alpha := by
  unfold trnsBytes
  rw [hg, hpal]
  cases A with
  | nil =>
    cases B with
    | nil => simp
    | cons b B => simp [hB b]
  | cons a A =>
    rw [List.filter_append, List.filter_eq_self.2 hA, List.filter_eq_nil_iff.2 (fun c hc => by simp [hB c hc]),
      List.append_nil]
    simp [hA a]

theorem standIn_spec (P1 : List PColor) (T : PColor) (h : standIn P1 = .ok T) :
    T ∉ P1 ∧ T ≠ .transparent ∧ T.alpha = (if T.isRgba then 0 else 255)
      ∧ (match P1[1]? with | some c => T.isRgba = c.isRgba | none => T.isRgba = false) := by
  unfold standIn at h
  split at h
  · next c hfind =>
    cases h
    refine ⟨by simpa using List.find?_some hfind, ?_⟩
    have hin := List.mem_of_find?_eq_some hfind
    unfold standInCandidates at hin
    cases h1 : P1[1]? with
    | none => rw [h1] at hin; obtain ⟨e, _, rfl⟩ := List.mem_map.1 hin; exact ⟨by simp, rfl, rfl⟩
    | some c => rw [h1] at hin; cases c <;> (obtain ⟨e, _, rfl⟩ := List.mem_map.1 hin; exact ⟨by simp, rfl, rfl⟩)
  · cases h

theorem standIn_not_mem (rest : List PColor) (T : PColor)
    (hT : standIn (.transparent :: (rest.filter (fun x => x.isRgba) ++ rest.filter (fun c => !c.isRgba))) = .ok T) :
    T ∉ PColor.transparent :: rest := by
  obtain ⟨hnot, hne, _⟩ := standIn_spec _ _ hT
  intro h
  exact hnot (List.mem_cons_of_mem _ ((mem_plteOrder rest T).2 ((List.mem_cons.1 h).resolve_left hne)))

/-- the three palettes for which `write_png` chooses greyscale -/
theorem grey_palette_cases (P0 : List PColor) (hlen : P0.length = 2)
    (hall : P0.all (fun c => c == PColor.transparent || c == PColor.black || c == PColor.white) = true)
    (hnd : P0.Nodup) (hs : P0.Pairwise (fun a b => keyLe a b = true)) :
    P0 = [PColor.black, PColor.white] ∨ P0 = [PColor.transparent, PColor.black] ∨ P0 = [PColor.transparent, PColor.white] := by
  match P0, hlen with
  | [a, b], _ =>
    simp only [List.all_cons, List.all_nil, Bool.and_true, Bool.and_eq_true, Bool.or_eq_true, beq_iff_eq] at hall
    have hne : a ≠ b := by
      intro h; subst h; simp at hnd
    have hle : keyLe a b = true := by
      simpa using hs
    obtain ⟨ha, hb⟩ := hall
    rcases ha with (rfl | rfl) | rfl <;> rcases hb with (rfl | rfl) | rfl <;>
      first
      | exact absurd rfl hne
      | exact absurd hle (by decide)
      | simp

/-- the outcomes of `paletteFrom` on a sorted set of colours: indexed colour without and with the
    placeholder (which is the first entry and gives way to the stand-in colour), and the three
    greyscale palettes -/
theorem paletteFrom_ok (P0 : List PColor) (clrMap : List (Nat × PColor)) (p : PaletteInfo)
    (hp : paletteFrom P0 clrMap = .ok p) (hnd : P0.Nodup) (hsorted : P0.Pairwise (fun a b => keyLe a b = true)) :
    (PColor.transparent ∉ P0 ∧
      p = { palette := P0.filter (fun x => x.isRgba) ++ P0.filter (fun c => !c.isRgba), clrMap := clrMap, n := P0.length,
            isGrey := false, isTransparent := false,
            depth := if P0.length > 2 then (if P0.length < 5 then 2 else 4) else 1, transIdx := 0 })
    ∨ (∃ rest T, P0 = .transparent :: rest
        ∧ standIn (.transparent :: (rest.filter (fun x => x.isRgba) ++ rest.filter (fun c => !c.isRgba))) = .ok T
        ∧ p = { palette := T :: (rest.filter (fun x => x.isRgba) ++ rest.filter (fun c => !c.isRgba)),
                clrMap := clrMap.map (fun e => if (e.2 == PColor.transparent) = true then (e.1, T) else e), n := P0.length,
                isGrey := false, isTransparent := true,
                depth := if P0.length > 2 then (if P0.length < 5 then 2 else 4) else 1, transIdx := 0 })
    ∨ (P0 = [.black, .white] ∧
        p = { palette := [.black, .white], clrMap := clrMap, n := 2, isGrey := true, isTransparent := false, depth := 1, transIdx := 0 })
    ∨ (P0 = [.transparent, .black] ∧
        p = { palette := [.black, .transparent], clrMap := clrMap, n := 2, isGrey := true, isTransparent := true, depth := 1, transIdx := 1 })
    ∨ (P0 = [.transparent, .white] ∧
        p = { palette := [.transparent, .white], clrMap := clrMap, n := 2, isGrey := true, isTransparent := true, depth := 1, transIdx := 0 }) := by
  unfold paletteFrom at hp
  simp only [bind, Except.bind, pure, Except.pure] at hp
  split at hp
  · split at hp
    · next htr =>
      obtain ⟨rest, rfl⟩ := head_of_sorted P0 hsorted (by simpa using htr)
      split at hp
      · cases hp
      · next T hT => cases hp; exact Or.inr (Or.inl ⟨rest, T, rfl, hT, rfl⟩)
    · next htr => cases hp; exact Or.inl ⟨by simpa using htr, rfl⟩
  · next hg =>
    simp only [Bool.not_eq_true', Bool.not_eq_false, Bool.and_eq_true, beq_iff_eq] at hg
    obtain rfl | rfl | rfl := grey_palette_cases P0 hg.1 hg.2 hnd hsorted
    · exact Or.inr (Or.inr (Or.inl ⟨rfl, by cases hp; rfl⟩))
    · exact Or.inr (Or.inr (Or.inr (Or.inl ⟨rfl, by cases hp; rfl⟩)))
    · exact Or.inr (Or.inr (Or.inr (Or.inr ⟨rfl, by cases hp; rfl⟩)))

theorem trnsBytes_standIn (p : PaletteInfo) (hg : p.isGrey = false) (htr : p.isTransparent = true) (hti : p.transIdx = 0)
    (T : PColor) (rest : List PColor)
    (hpal : p.palette = T :: (rest.filter (fun x => x.isRgba) ++ rest.filter (fun c => !c.isRgba)))
    (hT : standIn (.transparent :: (rest.filter (fun x => x.isRgba) ++ rest.filter (fun c => !c.isRgba))) = .ok T) :
    trnsBytes p = 0 :: (rest.filter (fun x => x.isRgba)).map PColor.alpha := by
  obtain ⟨_, _, hTalpha, hkind⟩ := standIn_spec _ _ hT
  have hA := filter_isRgba_all rest
  have hB := filter_not_isRgba_all rest
  cases hTr : T.isRgba with
  | true =>
    rw [trnsBytes_plte p hg (T :: rest.filter (fun x => x.isRgba)) _ hpal
      (fun c hc => (List.mem_cons.1 hc).elim (fun h => h ▸ hTr) (hA c)) hB]
    simp [hTalpha, hTr]
  | false =>
    -- an RGB stand-in means that no RGBA entry follows it, and tRNS is the single index byte `transIdx` = 0
    have hnil : rest.filter (fun x => x.isRgba) = [] := by
      cases hr : rest.filter (fun x => x.isRgba) with
      | nil => rfl
      | cons a A =>
        rw [hr] at hkind hA
        have : T.isRgba = a.isRgba := hkind
        rw [hTr, hA a (by simp)] at this
        cases this
    rw [hnil] at hpal ⊢
    rw [trnsBytes_plte p hg [] _ hpal (by simp) (fun c hc => (List.mem_cons.1 hc).elim (fun h => h ▸ hTr) (hB c))]
    simp [htr, hti]

/-- the reference reader, given the chunks written for `p`, shows colour `c` at colour code `k` -/
def ShowsAt (p : PaletteInfo) (k : Nat) (c : PColor) : Prop :=
  ∃ x, readColour p.depth (if p.isGrey then 0 else 3) (plteBytes p) (trnsBytes p) k = some x ∧ Shows c x

theorem showsAt_indexed (p : PaletteInfo) (hg : p.isGrey = false) (t : Nat) (c c' : PColor)
    (hc : cmGet p.clrMap t = some c') (hin : c' ∈ p.palette)
    (ha : Shows c (plteEntry c' ((trnsBytes p).getD (p.palette.idxOf c') 255))) : ShowsAt p (typeIndex p t) c := by
  unfold ShowsAt typeIndex plteBytes
  rw [hc, hg]
  simp only [Bool.false_eq_true, if_false]
  rw [readColour_indexed, plteOfBytes_getElem?, getElem?_idxOf_of_mem _ _ hin]
  exact ⟨_, rfl, ha⟩

theorem showsAt_grey (p : PaletteInfo) (hg : p.isGrey = true) (hd : p.depth = 1) (t : Nat) (c c' : PColor) (k : Nat)
    (hc : cmGet p.clrMap t = some c') (hk : p.palette.idxOf c' = k) (x : RGBA)
    (hx : readColour 1 0 [] (trnsBytes p) k = some x) (ha : Shows c x) : ShowsAt p (typeIndex p t) c := by
  subst hk
  unfold ShowsAt typeIndex plteBytes
  rw [hc, hg, hd]
  exact ⟨x, hx, ha⟩

theorem trnsBytes_opaque (p : PaletteInfo) (hg : p.isGrey = false) (htr : p.isTransparent = false) (A B : List PColor)
    (hpal : p.palette = A ++ B) (hA : ∀ c ∈ A, c.isRgba = true) (hB : ∀ c ∈ B, c.isRgba = false) :
    trnsBytes p = A.map PColor.alpha := by
  rw [trnsBytes_plte p hg A B hpal hA hB, htr]
  split
  · next h => rw [h]; rfl
  · rfl

theorem paletteFrom_trns (P0 : List PColor) (clrMap : List (Nat × PColor)) (p : PaletteInfo)
    (hp : paletteFrom P0 clrMap = .ok p) (hnd : P0.Nodup) (hsorted : P0.Pairwise (fun a b => keyLe a b = true))
    (hg : p.isGrey = false) :
    (p.isTransparent = true → ∃ T rest, p.palette = T :: rest ∧ T ∉ P0 ∧ T ≠ PColor.transparent)
    ∧ ∀ k c, p.palette[k]? = some c →
        ((k < (trnsBytes p).length ↔ (c.isRgba = true ∨ (p.isTransparent = true ∧ k = 0)))
         ∧ (trnsBytes p).getD k 255 = if p.isTransparent = true ∧ k = 0 then 0 else c.alpha) := by
  obtain ⟨_, hq⟩ | ⟨rest, T, rfl, hT, hq⟩ | ⟨_, hq⟩ | ⟨_, hq⟩ | ⟨_, hq⟩ := paletteFrom_ok P0 clrMap p hp hnd hsorted
  · have htr : p.isTransparent = false := by rw [hq]
    rw [trnsBytes_opaque p hg htr _ _ (by rw [hq]) (filter_isRgba_all P0) (filter_not_isRgba_all P0), htr]
    refine ⟨fun h => (by cases h), fun k c hk => ?_⟩
    rw [hq] at hk
    simpa using trns_entry _ _ (filter_isRgba_all P0) (filter_not_isRgba_all P0) k c hk
  · rw [trnsBytes_standIn p hg (by rw [hq]) (by rw [hq]) T rest (by rw [hq]) hT]
    have hpal : p.palette = T :: (rest.filter (fun x => x.isRgba) ++ rest.filter (fun c => !c.isRgba)) := by rw [hq]
    refine ⟨fun _ => ⟨T, _, hpal, standIn_not_mem rest T hT, (standIn_spec _ _ hT).2.1⟩, fun k c hk => ?_⟩
    · have htr : p.isTransparent = true := by rw [hq]
      rw [hpal] at hk
      cases k with
      | zero => simp [htr]
      | succ k => simpa using trns_entry _ _ (filter_isRgba_all rest) (filter_not_isRgba_all rest) k c hk
  all_goals rw [hq] at hg; cases hg

theorem paletteFrom_sound (P0 : List PColor) (clrMap : List (Nat × PColor)) (p : PaletteInfo)
    (hp : paletteFrom P0 clrMap = .ok p) (t : Nat) (c : PColor) (hc : cmGet clrMap t = some c)
    (hmem : c ∈ P0) (hnd : P0.Nodup) (hsorted : P0.Pairwise (fun a b => keyLe a b = true)) :
    ShowsAt p (typeIndex p t) c := by
  obtain ⟨_, hq⟩ | ⟨rest, T, rfl, hT, hq⟩ | ⟨rfl, hq⟩ | ⟨rfl, hq⟩ | ⟨rfl, hq⟩ := paletteFrom_ok P0 clrMap p hp hnd hsorted
  · have hg : p.isGrey = false := by rw [hq]
    have hin : c ∈ p.palette := by rw [hq]; exact (mem_plteOrder P0 c).2 hmem
    apply showsAt_indexed p hg t c c (by rw [hq]; exact hc) hin
    rw [((paletteFrom_trns P0 clrMap p hp hnd hsorted hg).2 _ c (getElem?_idxOf_of_mem _ _ hin)).2, if_neg (by rw [hq]; simp)]
    exact shows_self c
  · have hg : p.isGrey = false := by rw [hq]
    have htrns := (paletteFrom_trns _ clrMap p hp hnd hsorted hg).2
    have hc' : cmGet p.clrMap t = some (if c == PColor.transparent then T else c) := by
      rw [hq]; simp only; rw [cmGet_replace, hc]; rfl
    by_cases hct : c = PColor.transparent
    · -- the placeholder is drawn with the stand-in colour, entry 0, alpha 0
      subst hct
      have hin : T ∈ p.palette := by rw [hq]; exact List.mem_cons_self
      apply showsAt_indexed p hg t _ T hc' hin
      rw [(htrns _ T (getElem?_idxOf_of_mem _ _ hin)).2, if_pos ⟨by rw [hq], by rw [hq]; exact List.idxOf_cons_self⟩]
      exact shows_transparent T
    · -- any other colour keeps its entry, which is not entry 0
      have hin : c ∈ p.palette := by
        rw [hq]; exact List.mem_cons_of_mem _ ((mem_plteOrder rest c).2 ((List.mem_cons.1 hmem).resolve_left hct))
      have hTc : T ≠ c := fun h => standIn_not_mem rest T hT (h ▸ hmem)
      rw [if_neg (by simpa using hct)] at hc'
      apply showsAt_indexed p hg t c c hc' hin
      rw [(htrns _ c (getElem?_idxOf_of_mem _ _ hin)).2, if_neg]
      · exact shows_self c
      · intro h
        have := h.2
        rw [hq] at this
        simp [List.idxOf_cons, beq_eq_false_iff_ne.2 hTc] at this
  all_goals
    subst hq
    simp only [List.mem_cons, List.not_mem_nil, or_false] at hmem
    rcases hmem with rfl | rfl
  · exact showsAt_grey _ rfl rfl t _ _ 0 hc rfl _ (readColour_grey1 _ _) (by simp [Shows, trnsBytes, PColor.black])
  · exact showsAt_grey _ rfl rfl t _ _ 1 hc rfl _ (readColour_grey1 _ _) (by simp [Shows, trnsBytes, PColor.white])
  · exact showsAt_grey _ rfl rfl t _ _ 1 hc rfl _ (readColour_grey1 _ _) (by simp [Shows, trnsBytes])
  · exact showsAt_grey _ rfl rfl t _ _ 0 hc rfl _ (readColour_grey1 _ _) (by simp [Shows, trnsBytes, PColor.black])
  · exact showsAt_grey _ rfl rfl t _ _ 0 hc rfl _ (readColour_grey1 _ _) (by simp [Shows, trnsBytes])
  · exact showsAt_grey _ rfl rfl t _ _ 1 hc rfl _ (readColour_grey1 _ _) (by simp [Shows, trnsBytes, PColor.white])

theorem paletteFrom_clrMap (P0 : List PColor) (clrMap : List (Nat × PColor)) (p : PaletteInfo)
    (hp : paletteFrom P0 clrMap = .ok p) (hnd : P0.Nodup) (hsorted : P0.Pairwise (fun a b => keyLe a b = true)) :
    p.clrMap = clrMap ∨ ∃ T, T ∉ P0 ∧ p.clrMap = clrMap.map (fun e => (e.1, if e.2 == PColor.transparent then T else e.2)) := by
  obtain ⟨_, rfl⟩ | ⟨rest, T, rfl, hT, rfl⟩ | ⟨_, rfl⟩ | ⟨_, rfl⟩ | ⟨_, rfl⟩ := paletteFrom_ok P0 clrMap p hp hnd hsorted
  · exact Or.inl rfl
  · refine Or.inr ⟨T, standIn_not_mem rest T hT, List.map_congr_left fun e _ => ?_⟩
    split <;> rfl
  all_goals exact Or.inl rfl

end Proofs.Png
