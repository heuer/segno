/-
  Proofs.PlacementInfo — what each cell holds after `add_format_info` / `add_version_info` (behind Props/C02Model.lean).
  A list of writes is a loop of cell-wise steps (`Proofs.Cells.Cellwise.foldl`), so a cell of `applyW m ws` is read
  like a cell of any other builder: if all writes that address it agree, it holds their value if there is one, else
  its old value (`get2_applyW_val`).
-/
import Proofs.Placement
import Proofs.Cells

namespace Proofs.Placement
open Model

theorem cw_applyW (n : Nat) (ws : List W) :
    Proofs.Cells.Cellwise Sq get2 n (fun m => applyW m ws)
      (fun a b d => ws.foldl (fun d w => if a = w.1 ∧ b = w.2.1 then w.2.2 else d) d) :=
  Proofs.Cells.Cellwise.foldl (step := fun m w => set2 m w.1 w.2.1 w.2.2)
    (g := fun w a b d => if a = w.1 ∧ b = w.2.1 then w.2.2 else d) ws fun w _ => Proofs.Cells.Cellwise.set2 n w.1 w.2.1 w.2.2

theorem get2_applyW_val (m : Matrix) (n a b x : Nat) (ws : List W) (hs : Sq m n) (ha : a < n) (hb : b < n)
    (hc : ∀ w ∈ ws, a = w.1 ∧ b = w.2.1 → w.2.2 = x) :
    get2 (applyW m ws) a b = if ∃ w ∈ ws, a = w.1 ∧ b = w.2.1 then x else get2 m a b := by
  rw [(cw_applyW n ws m hs).2 a b ha hb]
  exact Proofs.Cells.foldl_ite_val ws _ _ x _ hc

theorem get2_applyW_untouched (m : Matrix) (n a b : Nat) (ws : List W) (hs : Sq m n)
    (h : ∀ w ∈ ws, ¬ (w.1 = a ∧ w.2.1 = b ∧ a < n ∧ b < n)) : get2 (applyW m ws) a b = get2 m a b := by
  by_cases hab : a < n ∧ b < n
  · rw [get2_applyW_val m n a b (get2 m a b) ws hs hab.1 hab.2
      (fun w hw hc => absurd ⟨hc.1.symm, hc.2.symm, hab⟩ (h w hw)), ite_self]
  · rw [get2_oob_sq ((Sq_applyW m n ws).2 hs) hab, get2_oob_sq hs hab]

theorem get2_applyW_const (m : Matrix) (n a b x : Nat) (ws : List W) (hs : Sq m n) (ha : a < n) (hb : b < n)
    (hc : ∀ w ∈ ws, w.1 = a → w.2.1 = b → w.2.2 = x) (hw : ∃ w ∈ ws, w.1 = a ∧ w.2.1 = b) :
    get2 (applyW m ws) a b = x := by
  obtain ⟨w, hm, h1, h2⟩ := hw
  rw [get2_applyW_val m n a b x ws hs ha hb (fun w hw h => hc w hw h.1.symm h.2.symm), if_pos ⟨w, hm, h1.symm, h2.symm⟩]

theorem applyW_bin (m : Matrix) (n : Nat) (ws : List W) (hs : Sq m n)
    (hw : ∀ w ∈ ws, w.2.2 ≤ 1) (a b : Nat) (h : get2 m a b ≤ 1) : get2 (applyW m ws) a b ≤ 1 := by
  by_cases hab : a < n ∧ b < n
  · rw [(cw_applyW n ws m hs).2 a b hab.1 hab.2]
    generalize get2 m a b = d at h
    induction ws generalizing d with
    | nil => exact h
    | cons w ws ih =>
      refine ih (fun w' hw' => hw w' (List.mem_cons_of_mem _ hw')) _ ?_
      show (if a = w.1 ∧ b = w.2.1 then w.2.2 else d) ≤ 1
      split
      · exact hw w List.mem_cons_self
      · exact h
  · rw [get2_oob_sq ((Sq_applyW m n ws).2 hs) hab]; omega

/-! The positions of the specification and the row / column offsets of the model are piecewise linear; the
lemmas `*_cases` hand their pieces to `omega`, which then identifies the bit a write carries with the
bit the specification expects in that cell. -/

theorem skip6_cases (i : Nat) :
    (i < 6 ∧ (if i ≥ 6 then 1 else 0) = 0) ∨ (6 ≤ i ∧ (if i ≥ 6 then 1 else 0) = 1) := by
  split <;> omega

theorem fmtPos1_cases (k : Nat) :
    (k < 6 ∧ (Spec.fmtPos1 k).1 = k ∧ (Spec.fmtPos1 k).2 = 8)
    ∨ (6 ≤ k ∧ k < 8 ∧ (Spec.fmtPos1 k).1 = k + 1 ∧ (Spec.fmtPos1 k).2 = 8)
    ∨ (k = 8 ∧ (Spec.fmtPos1 k).1 = 8 ∧ (Spec.fmtPos1 k).2 = 7)
    ∨ (8 < k ∧ (Spec.fmtPos1 k).1 = 8 ∧ (Spec.fmtPos1 k).2 = 14 - k) := by
  unfold Spec.fmtPos1
  simp only [beq_iff_eq]
  split
  · omega
  · split
    · omega
    · split
      · omega
      · split <;> omega

theorem fmtPos2_cases (n k : Nat) :
    (k < 8 ∧ (Spec.fmtPos2 n k).1 = 8 ∧ (Spec.fmtPos2 n k).2 = n - 1 - k)
    ∨ (8 ≤ k ∧ (Spec.fmtPos2 n k).1 = n - 15 + k ∧ (Spec.fmtPos2 n k).2 = 8) := by
  unfold Spec.fmtPos2
  split <;> omega

theorem fmtPosMicro_cases (k : Nat) :
    (k < 8 ∧ (Spec.fmtPosMicro k).1 = k + 1 ∧ (Spec.fmtPosMicro k).2 = 8)
    ∨ (8 ≤ k ∧ (Spec.fmtPosMicro k).1 = 8 ∧ (Spec.fmtPosMicro k).2 = 15 - k) := by
  unfold Spec.fmtPosMicro
  split <;> omega

theorem qr_copy1 (m : Matrix) (n fi k : Nat) (hs : Sq m n) (hn : 21 ≤ n) (hk : k < 15) :
    get2 (applyW m ((List.range 8).flatMap (qrStep n fi) ++ [(n - 8, 8, 1)])) (Spec.fmtPos1 k).1 (Spec.fmtPos1 k).2
      = (fi >>> k) % 2 := by
  have hp := fmtPos1_cases k
  refine get2_applyW_const m n _ _ _ _ hs (by omega) (by omega) (fun w hw h1 h2 => ?_) ?_
  · rcases (mem_fmtWrites_qr n fi w).1 hw with ⟨i, hi, rfl | rfl | rfl | rfl⟩ | rfl <;> dsimp only at h1 h2 ⊢
    · have := skip6_cases i; rw [show i = k by omega]
    · have := skip6_cases i; rw [show 14 - i = k by omega]
    · omega
    · omega
    · omega
  · have := skip6_cases k
    have := skip6_cases (14 - k)
    by_cases h8 : k < 8
    · exact ⟨_, (mem_fmtWrites_qr n fi _).2 (.inl ⟨k, h8, .inl rfl⟩), by dsimp only; omega, by dsimp only; omega⟩
    · exact ⟨_, (mem_fmtWrites_qr n fi _).2 (.inl ⟨14 - k, by omega, .inr (.inl rfl)⟩), by dsimp only; omega, by dsimp only; omega⟩

theorem qr_copy2 (m : Matrix) (n fi k : Nat) (hs : Sq m n) (hn : 21 ≤ n) (hk : k < 15) :
    get2 (applyW m ((List.range 8).flatMap (qrStep n fi) ++ [(n - 8, 8, 1)])) (Spec.fmtPos2 n k).1 (Spec.fmtPos2 n k).2
      = (fi >>> k) % 2 := by
  have hp := fmtPos2_cases n k
  refine get2_applyW_const m n _ _ _ _ hs (by omega) (by omega) (fun w hw h1 h2 => ?_) ?_
  · rcases (mem_fmtWrites_qr n fi w).1 hw with ⟨i, hi, rfl | rfl | rfl | rfl⟩ | rfl <;> dsimp only at h1 h2 ⊢
    · have := skip6_cases i; omega
    · have := skip6_cases i; omega
    · rw [show i = k by omega]
    · rw [show 14 - i = k by omega]
    · omega
  · by_cases h8 : k < 8
    · exact ⟨_, (mem_fmtWrites_qr n fi _).2 (.inl ⟨k, h8, .inr (.inr (.inl rfl))⟩), by dsimp only; omega, by dsimp only; omega⟩
    · exact ⟨_, (mem_fmtWrites_qr n fi _).2 (.inl ⟨14 - k, by omega, .inr (.inr (.inr rfl))⟩), by dsimp only; omega, by dsimp only; omega⟩

/-- the dark module is written last, over bit 7 of the second copy's loop -/
theorem qr_dark (m : Matrix) (n fi : Nat) (hs : Sq m n) (hn : 21 ≤ n) :
    get2 (applyW m ((List.range 8).flatMap (qrStep n fi) ++ [(n - 8, 8, 1)])) (n - 8) 8 = 1 := by
  rw [applyW_append]
  exact get2_applyW_const _ n _ _ 1 _ ((Sq_applyW m n _).2 hs) (by omega) (by omega)
    (fun w hw _ _ => by rw [List.mem_singleton.1 hw]) ⟨_, List.mem_singleton.2 rfl, rfl, rfl⟩

theorem micro_copy (m : Matrix) (n fi k : Nat) (hs : Sq m n) (hn : 11 ≤ n) (hk : k < 15) :
    get2 (applyW m ((List.range 8).flatMap (microStep fi))) (Spec.fmtPosMicro k).1 (Spec.fmtPosMicro k).2
      = (fi >>> k) % 2 := by
  have hp := fmtPosMicro_cases k
  refine get2_applyW_const m n _ _ _ _ hs (by omega) (by omega) (fun w hw h1 h2 => ?_) ?_
  · rcases (mem_fmtWrites_micro fi w).1 hw with ⟨i, hi, rfl | rfl⟩ <;> dsimp only at h1 h2 ⊢
    · rw [show i = k by omega]
    · rw [show 14 - i = k by omega]
  · by_cases h8 : k < 8
    · exact ⟨_, (mem_fmtWrites_micro fi _).2 ⟨k, h8, .inl rfl⟩, by dsimp only; omega, by dsimp only; omega⟩
    · exact ⟨_, (mem_fmtWrites_micro fi _).2 ⟨14 - k, by omega, .inr rfl⟩, by dsimp only; omega, by dsimp only; omega⟩

theorem format_written_qr (m m' : Model.Matrix) (v : Int) (e mask : Nat) (hv1 : 1 ≤ v) (hv2 : v ≤ 40)
    (he : e < 4) (hm : mask < 8) (hs : Sq m (Spec.size v))
    (h : Model.addFormatInfo m v (some e) mask = .ok m') :
    (∀ k, k < 15 → Spec.cell m' (Spec.fmtPos1 k).1 (Spec.fmtPos1 k).2 = (Spec.formatWordQR e mask >>> k) % 2)
    ∧ (∀ k, k < 15 → Spec.cell m' (Spec.fmtPos2 (Spec.size v) k).1 (Spec.fmtPos2 (Spec.size v) k).2
          = (Spec.formatWordQR e mask >>> k) % 2)
    ∧ Spec.cell m' (Spec.size v - 8) 8 = 1 := by
  obtain ⟨fi, hc, rfl⟩ := addFormatInfo_ok h
  cases (calcFormatInfo_qr v e mask hv1 he hm).symm.trans hc
  rw [fmtWrites, if_neg (by omega), hs.1]
  have hn := Size.le_size_qr v hv1
  exact ⟨fun k hk => qr_copy1 m _ _ k hs hn hk, fun k hk => qr_copy2 m _ _ k hs hn hk, qr_dark m _ _ hs hn⟩

theorem format_written_micro (m m' : Model.Matrix) (v : Int) (lvl : Option Nat) (mask s : Nat)
    (hv1 : -3 ≤ v) (hv2 : v < 1) (hm : mask < 4) (hs : Sq m (Spec.size v))
    (hsym : Spec.microSymbolNumber v (Model.lvlKey lvl) = some s)
    (h : Model.addFormatInfo m v lvl mask = .ok m') :
    ∀ k, k < 15 → Spec.cell m' (Spec.fmtPosMicro k).1 (Spec.fmtPosMicro k).2 = (Spec.formatWordMicro s mask >>> k) % 2 := by
  obtain ⟨fi, hc, rfl⟩ := addFormatInfo_ok h
  cases (calcFormatInfo_micro v lvl mask s hv2 hm hsym).symm.trans hc
  rw [fmtWrites, if_pos hv2]
  exact fun k hk => micro_copy m _ _ k hs (Size.le_size_micro v hv1 hv2) hk

theorem ver_copy1 (m : Matrix) (n vi k : Nat) (hs : Sq m n) (hn : 45 ≤ n) (hk : k < 18) :
    get2 (applyW m (verWrites n vi)) (Spec.verPos1 n k).1 (Spec.verPos1 n k).2 = (vi >>> k) % 2 := by
  unfold Spec.verPos1
  refine get2_applyW_const m n _ _ _ _ hs (by omega) (by omega) (fun w hw h1 h2 => ?_) ?_
  · rcases (mem_verWrites n vi w).1 hw with ⟨i, hi, rfl | rfl | rfl | rfl | rfl | rfl⟩ <;> dsimp only at h1 h2 ⊢
    · omega
    · omega
    · omega
    · rw [show i * 3 = k by omega]
    · rw [show i * 3 + 1 = k by omega]
    · rw [show i * 3 + 2 = k by omega]
  · rcases (by omega : k % 3 = 0 ∨ k % 3 = 1 ∨ k % 3 = 2) with h | h | h
    · exact ⟨_, (mem_verWrites n vi _).2 ⟨k / 3, by omega, .inr (.inr (.inr (.inl rfl)))⟩, rfl, by dsimp only; omega⟩
    · exact ⟨_, (mem_verWrites n vi _).2 ⟨k / 3, by omega, .inr (.inr (.inr (.inr (.inl rfl))))⟩, rfl, by dsimp only; omega⟩
    · exact ⟨_, (mem_verWrites n vi _).2 ⟨k / 3, by omega, .inr (.inr (.inr (.inr (.inr rfl))))⟩, rfl, by dsimp only; omega⟩

theorem ver_copy2 (m : Matrix) (n vi k : Nat) (hs : Sq m n) (hn : 45 ≤ n) (hk : k < 18) :
    get2 (applyW m (verWrites n vi)) (Spec.verPos2 n k).1 (Spec.verPos2 n k).2 = (vi >>> k) % 2 := by
  unfold Spec.verPos2
  refine get2_applyW_const m n _ _ _ _ hs (by omega) (by omega) (fun w hw h1 h2 => ?_) ?_
  · rcases (mem_verWrites n vi w).1 hw with ⟨i, hi, rfl | rfl | rfl | rfl | rfl | rfl⟩ <;> dsimp only at h1 h2 ⊢
    · rw [show i * 3 = k by omega]
    · rw [show i * 3 + 1 = k by omega]
    · rw [show i * 3 + 2 = k by omega]
    · omega
    · omega
    · omega
  · rcases (by omega : k % 3 = 0 ∨ k % 3 = 1 ∨ k % 3 = 2) with h | h | h
    · exact ⟨_, (mem_verWrites n vi _).2 ⟨k / 3, by omega, .inl rfl⟩, by dsimp only; omega, rfl⟩
    · exact ⟨_, (mem_verWrites n vi _).2 ⟨k / 3, by omega, .inr (.inl rfl)⟩, by dsimp only; omega, rfl⟩
    · exact ⟨_, (mem_verWrites n vi _).2 ⟨k / 3, by omega, .inr (.inr (.inl rfl))⟩, by dsimp only; omega, rfl⟩

theorem version_written (m m' : Model.Matrix) (v : Int) (hv1 : 7 ≤ v) (hv2 : v ≤ 40) (hs : Sq m (Spec.size v))
    (h : Model.addVersionInfo m v = .ok m') :
    (∀ k, k < 18 → Spec.cell m' (Spec.verPos1 (Spec.size v) k).1 (Spec.verPos1 (Spec.size v) k).2 = (Spec.golay18 v.toNat >>> k) % 2)
    ∧ (∀ k, k < 18 → Spec.cell m' (Spec.verPos2 (Spec.size v) k).1 (Spec.verPos2 (Spec.size v) k).2 = (Spec.golay18 v.toNat >>> k) % 2) := by
  rw [addVersionInfo_eq m v hv1 hv2, hs.1] at h
  injection h with h
  subst h
  have hn : 45 ≤ Spec.size v := by have := Size.size_qr v (by omega); omega
  exact ⟨fun k hk => ver_copy1 m _ _ k hs hn hk, fun k hk => ver_copy2 m _ _ k hs hn hk⟩

theorem kind_qr_format (v : Int) (i j : Nat) (h1 : 1 ≤ v)
    (hp : (i = 8 ∧ (j ≤ 8 ∨ j + 8 ≥ Spec.size v) ∨ j = 8 ∧ (i ≤ 8 ∨ i + 8 ≥ Spec.size v)) ∧ i ≠ 6 ∧ j ≠ 6
          ∧ i < Spec.size v ∧ j < Spec.size v) :
    Spec.kind v i j = .format ∨ Spec.kind v i j = .darkmodule := by
  have hn := Size.le_size_qr v h1
  unfold Spec.kind Spec.isMicro
  generalize Spec.size v = n at *
  simp only [show decide (v < 1) = false by simp; omega, Bool.false_eq_true, if_false,
    Bool.or_eq_true, Bool.and_eq_true, decide_eq_true_eq, beq_iff_eq]
  rw [if_neg (by omega), if_neg (by omega)]
  by_cases hd : i + 8 = n ∧ j = 8
  · rw [if_pos hd]; exact Or.inr rfl
  · rw [if_neg hd, if_pos (by omega), if_neg (by omega)]; exact Or.inl rfl

theorem kind_micro_format (v : Int) (i j : Nat) (h2 : v < 1)
    (hp : i = 8 ∧ 1 ≤ j ∧ j ≤ 8 ∨ j = 8 ∧ 1 ≤ i ∧ i ≤ 8) :
    Spec.kind v i j = .format := by
  unfold Spec.kind Spec.isMicro
  simp only [show decide (v < 1) = true by simp; omega, if_true,
    Bool.or_eq_true, Bool.and_eq_true, decide_eq_true_eq, beq_iff_eq]
  rw [if_neg (by omega), if_neg (by omega), if_neg (by omega), if_pos (by omega)]

theorem qr_untouched (m : Matrix) (n fi i j : Nat) (hs : Sq m n) (hn : 21 ≤ n)
    (hp : ¬ ((i = 8 ∧ (j ≤ 8 ∨ j + 8 ≥ n) ∨ j = 8 ∧ (i ≤ 8 ∨ i + 8 ≥ n)) ∧ i ≠ 6 ∧ j ≠ 6 ∧ i < n ∧ j < n)) :
    get2 (applyW m ((List.range 8).flatMap (qrStep n fi) ++ [(n - 8, 8, 1)])) i j = get2 m i j := by
  refine get2_applyW_untouched m n i j _ hs (fun w hw => ?_)
  rcases (mem_fmtWrites_qr n fi w).1 hw with ⟨i', hi, rfl | rfl | rfl | rfl⟩ | rfl <;> dsimp only
  · have := skip6_cases i'; omega
  · have := skip6_cases i'; omega
  · omega
  · omega
  · omega

theorem micro_untouched (m : Matrix) (n fi i j : Nat) (hs : Sq m n)
    (hp : ¬ (i = 8 ∧ 1 ≤ j ∧ j ≤ 8 ∨ j = 8 ∧ 1 ≤ i ∧ i ≤ 8)) :
    get2 (applyW m ((List.range 8).flatMap (microStep fi))) i j = get2 m i j := by
  refine get2_applyW_untouched m n i j _ hs (fun w hw => ?_)
  rcases (mem_fmtWrites_micro fi w).1 hw with ⟨i', hi, rfl | rfl⟩ <;> dsimp only <;> omega

theorem format_info_touches_only_format_cells (m m' : Model.Matrix) (v : Int) (lvl : Option Nat) (mask i j : Nat)
    (hv1 : -3 ≤ v) (hv2 : v ≤ 40) (hs : Sq m (Spec.size v))
    (h : Model.addFormatInfo m v lvl mask = .ok m')
    (hk : Spec.kind v i j ≠ .format ∧ Spec.kind v i j ≠ .darkmodule) :
    Spec.cell m' i j = Spec.cell m i j := by
  obtain ⟨fi, -, rfl⟩ := addFormatInfo_ok h
  unfold fmtWrites
  by_cases hv : v < 1
  · rw [if_pos hv]
    exact micro_untouched m _ fi i j hs (fun hp => hk.1 (kind_micro_format v i j hv hp))
  · have hv' : 1 ≤ v := by omega
    rw [if_neg hv, hs.1]
    refine qr_untouched m _ fi i j hs (Size.le_size_qr v hv') (fun hp => ?_)
    cases kind_qr_format v i j hv' hp with
    | inl h => exact hk.1 h
    | inr h => exact hk.2 h

end Proofs.Placement
