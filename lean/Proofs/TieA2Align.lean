/-
  Proofs.TieA2Align — `add_alignment_patterns` (translated, Gen/Funcs2.lean) against `Model.addAlignmentPatterns`:
  the slice assignments `matrix[i + r][j:j + 5] = pattern[r * 5:r * 5 + 5]` of the source are the 25 cell writes
  (`Model.set2`) per alignment pattern of the model.  Of the row of `consts.ALIGNMENT_POS` the tie needs what
  `Proofs.Align.Centres` says (first coordinate 6, last n − 7, all inside the symbol), and that the two renderings of the
  table agree (`align_tab`).  The lemmas about cells and slice assignments are those of Proofs/TieA2Finder.lean.
-/
import Proofs.TieA2Finder
import Proofs.Cells

namespace Proofs.TieA2.Align
open Gen.Py Proofs.TieA Model

/-- one position pair of the model -/
def alignCell (mn mx : Nat) (m : Matrix) (q : Nat × Nat) : Matrix :=
  if (q.1, q.2) == (mn, mn) || (q.1, q.2) == (mn, mx) || (q.1, q.2) == (mx, mn) then m
  else (List.range 5).foldl (fun m r => rowWrite m (q.1 - 2 + r) (q.2 - 2) 5 (fun c => alignmentPattern.getD (r * 5 + c) 0)) m

theorem addAlign_big (m : Matrix) (k : Nat) (pos : List Nat) (mn mx : Nat)
    (h1 : Gen.ALIGNMENT_POS[k]? = some pos) (h2 : pos.head? = some mn) (h3 : pos.getLast? = some mx) :
    addAlignmentPatterns m (4 * k + 25) =
      .ok ((pos.map (fun x => pos.map (fun y => (x, y)))).flatten.foldl (alignCell mn mx) m) :=
  Proofs.Cells.addAlignmentPatterns_big m k pos mn mx h1 h2 h3

/-- the two dumps of `consts.ALIGNMENT_POS` agree -/
theorem align_tab : Gen.Funcs2.T_consts_ALIGNMENT_POS = Gen.ALIGNMENT_POS.map toI := by decide

theorem pattern_slice : ∀ r : Fin 5,
    slice [(1 : Int), 1, 1, 1, 1, 1, 0, 0, 0, 1, 1, 0, 1, 0, 1, 1, 0, 0, 0, 1, 1, 1, 1, 1, 1]
        (some (((r.val : Nat) : Int) * 5)) (some (((r.val : Nat) : Int) * 5 + 5)) =
      toI ((List.range 5).map (fun c => alignmentPattern.getD (r.val * 5 + c) 0)) := by decide

/-- `itertools.product(positions, repeat=2)` is the list of pairs of the model -/
theorem product2_toI (l1 l2 : List Nat) :
    (toI l1).flatMap (fun x => (toI l2).map (fun y => (x, y))) =
      ((l1.map (fun x => l2.map (fun y => (x, y)))).flatten).map (fun q : Nat × Nat => ((q.1 : Int), (q.2 : Int))) := by
  induction l1 with
  | nil => rfl
  | cons a l1 ih =>
    rw [toI_cons, List.flatMap_cons, ih, List.map_cons, List.flatten_cons, List.map_append]
    congr 1
    simp [toI]

theorem mem_cells {l1 l2 : List Nat} {q : Nat × Nat} (h : q ∈ (l1.map (fun x => l2.map (fun y => (x, y)))).flatten) :
    q.1 ∈ l1 ∧ q.2 ∈ l2 := by
  simp only [List.mem_flatten, List.mem_map] at h
  obtain ⟨l, ⟨x, hx, rfl⟩, hq⟩ := h
  simp only [List.mem_map] at hq
  obtain ⟨y, hy, rfl⟩ := hq
  exact ⟨hx, hy⟩

theorem pair_beq (x y a b : Nat) : ((((x : Int), (y : Int)) == ((a : Int), (b : Int)))) = ((x, y) == (a, b)) := by
  rw [Bool.eq_iff_iff]; simp; omega

end Proofs.TieA2.Align

namespace Proofs.TieA2
open Gen.Py Proofs.TieA Model Proofs.TieA2.Align

/-- `add_alignment_patterns(matrix, n, n)` on a symbol of side n = 4·k + 25 whose row `pos` of `consts.ALIGNMENT_POS` runs from 6 to
    n − 7 inside the symbol (`Centres`): the model does not fail, and the translation yields its matrix -/
theorem add_alignment_patterns_row (m : Matrix) (k : Nat) (pos : List Nat) (hs : Sq m (4 * k + 25))
    (hpos : Gen.ALIGNMENT_POS[k]? = some pos) (hc : Proofs.Align.Centres (4 * k + 25) pos) :
    ∃ m', Model.addAlignmentPatterns m (4 * k + 25) = .ok m' ∧
      Yields (Sq · (4 * k + 25)) (Gen.Funcs2.add_alignment_patterns (mI m) ((4 * k + 25 : Nat) : Int) ((4 * k + 25 : Nat) : Int)) mI m' := by
  refine ⟨_, addAlign_big m k pos _ _ hpos hc.head hc.last, ?_⟩
  unfold Gen.Funcs2.add_alignment_patterns
  have hcnd : ¬ decide ((((4 * k + 25 : Nat) : Int) - 17) / 4 < 2) = true := by simp; omega
  have hv : (((4 * k + 25 : Nat) : Int) - 17) / 4 - 2 = (k : Int) := by omega
  simp only [beq_self_eq_true, Bool.true_and]
  -- the row, its first and its last coordinate
  rw [if_neg hcnd, hv, align_tab, index_getElem? _ k _ (by rw [List.getElem?_map, hpos]; rfl), bind_ok,
    index_head _ ((6 : Nat) : Int) (by rw [toI, List.head?_map, hc.head]; rfl), bind_ok,
    index_last _ ((4 * k + 25 - 7 : Nat) : Int) (by rw [toI, List.getLast?_map, hc.last]; rfl), bind_ok]
  unfold product2
  rw [product2_toI]
  refine .bind (.list_loop mI (alignCell 6 (4 * k + 25 - 7)) _ _ hs fun q hq t ht => ?_) fun h => ⟨rfl, h⟩
  -- the 5 × 5 block around the pair `q` lies inside the symbol
  obtain ⟨hq1, hq2⟩ := mem_cells hq
  have b1 := hc.inside q.1 hq1
  have b2 := hc.inside q.2 hq2
  unfold alignCell
  simp only [List.any_cons, List.any_nil, Bool.or_false, pair_beq, ← Bool.or_assoc]
  split
  · exact ⟨rfl, ht⟩
  · refine .bind (.range_loop (fun _ => mI)
      (fun m r => rowWrite m (q.1 - 2 + r) (q.2 - 2) 5 (fun c => alignmentPattern.getD (r * 5 + c) 0)) 5 rfl ht
      fun r hr u hu => ?_) fun h => ⟨rfl, h⟩
    have e2 := pattern_slice ⟨r, hr⟩
    simp only at e2
    rw [Int.zero_add, e2]
    have hrow : normIndex (4 * k + 25) ((q.1 : Int) - 2 + (r : Int)) = some (q.1 - 2 + r) := by
      rw [show (q.1 : Int) - 2 + (r : Int) = ((q.1 - 2 + r : Nat) : Int) by omega]
      exact normIndex_nat _ _ (by omega)
    exact .slice hu hrow (by omega) (by omega) (by omega)

/-- `add_alignment_patterns(matrix, n, n)` on an n × n matrix of a symbol size: n < 25 (no alignment pattern) or
    n = 4·ver + 17 with 2 ≤ ver ≤ 40.  The model does not fail there, and the translation yields its matrix. -/
theorem add_alignment_patterns_yields (m : Matrix) (n : Nat) (hs : Sq m n) (hn : n < 25 ∨ (n % 4 = 1 ∧ n ≤ 177)) :
    ∃ m', Model.addAlignmentPatterns m n = .ok m' ∧ Yields (Sq · n) (Gen.Funcs2.add_alignment_patterns (mI m) n n) mI m' := by
  by_cases h25 : n < 25
  · unfold Gen.Funcs2.add_alignment_patterns
    simp only [beq_self_eq_true, Bool.true_and]
    rw [if_pos (by simp; omega)]
    exact ⟨m, Proofs.Cells.addAlignmentPatterns_small m n h25, rfl, hs⟩
  · obtain ⟨k, rfl⟩ : ∃ k : Nat, n = 4 * k + 25 := ⟨(n - 25) / 4, by omega⟩
    -- every row of the table is the Annex E row of its version, which satisfies `Centres`
    obtain ⟨hrow, hc⟩ := Proofs.Cells.alignmentPos_centres ((k : Int) + 2) (by omega) (by omega)
    rw [show ((k : Int) + 2 - 2).toNat = k by omega] at hrow
    rw [show Spec.size ((k : Int) + 2) = 4 * k + 25 by have := Proofs.Size.size_qr ((k : Int) + 2) (by omega); omega] at hc
    exact add_alignment_patterns_row m k _ hs hrow hc

theorem sq_addAlignment {m fm : Matrix} {n : Nat} (hs : Sq m n) (hn : n < 25 ∨ (n % 4 = 1 ∧ n ≤ 177))
    (h : Model.addAlignmentPatterns m n = .ok fm) : Sq fm n := by
  obtain ⟨m', hm, hy⟩ := add_alignment_patterns_yields m n hs hn
  rw [hm] at h
  cases h
  exact hy.inv

theorem add_alignment_patterns_eq (m : Matrix) (n : Nat) (hs : Sq m n)
    (hn : n < 25 ∨ (n % 4 = 1 ∧ n ≤ 177)) :
    toR (Gen.Funcs2.add_alignment_patterns (mI m) n n) = (Model.addAlignmentPatterns m n).map mI := by
  obtain ⟨m', hm, hy⟩ := add_alignment_patterns_yields m n hs hn
  rw [hm, hy.eq]
  rfl

end Proofs.TieA2
