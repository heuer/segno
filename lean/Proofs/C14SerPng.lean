/-
  `write_png` through `colorful` on a symbol-shaped matrix and arguments of the documented types: a file, `struct.error` (a value
  does not fit a 32-bit field: `.ok none`) or ValueError, the latter exactly for what the documentation names — never KeyError
  (colour map), IndexError (alignment table) or StopIteration (the stand-in colour search, `.lookupError` in the model: the CSS
  table has more distinct values than the 16 a palette can hold).
-/
import Proofs.C14SerRaster
import Proofs.PngIndex
import Proofs.PngTwoTone

namespace Proofs.C14Ser
open Model Model.RasterDocs Proofs.RasterDocs Proofs.Png Proofs.Colormap

/-- 17 pairwise distinct values of the CSS colour table -/
private def W17 : List (Nat × Nat × Nat) := (Gen.Colors.NAME2RGB_VALUES.eraseDups).take 17

private theorem w17_rgb : (W17.map (fun c => PColor.rgb c.1 c.2.1 c.2.2)).Nodup ∧ (W17.map (fun c => PColor.rgb c.1 c.2.1 c.2.2)).length = 17
  ∧ ∀ x ∈ W17, x ∈ Gen.Colors.NAME2RGB_VALUES := by decide +kernel

private theorem w17_rgba : (W17.map (fun c => PColor.rgba c.1 c.2.1 c.2.2 0)).Nodup ∧ (W17.map (fun c => PColor.rgba c.1 c.2.1 c.2.2 0)).length = 17 := by
  decide +kernel

private theorem candidates_many (palette : List PColor) :
    ∃ D : List PColor, D.Nodup ∧ D.length = 17 ∧ ∀ x ∈ D, x ∈ standInCandidates palette := by
  have hsub : ∀ (f : Nat × Nat × Nat → PColor), ∀ x ∈ W17.map f, x ∈ Gen.Colors.NAME2RGB_VALUES.map f := by
    intro f x hx
    obtain ⟨e, he, rfl⟩ := List.mem_map.1 hx
    exact List.mem_map.2 ⟨e, w17_rgb.2.2 e he, rfl⟩
  unfold standInCandidates
  cases h1 : palette[1]? with
  | none => exact ⟨_, w17_rgb.1, w17_rgb.2.1, hsub _⟩
  | some c =>
    cases c with
    | rgb r g b => exact ⟨_, w17_rgb.1, w17_rgb.2.1, hsub _⟩
    | rgba r g b a => exact ⟨_, w17_rgba.1, w17_rgba.2, hsub _⟩
    | transparent => exact ⟨_, w17_rgba.1, w17_rgba.2, hsub _⟩

theorem standIn_total (palette : List PColor) (hlen : palette.length ≤ 16) : ∃ c, standIn palette = .ok c := by
  unfold standIn
  cases hfind : (standInCandidates palette).find? (fun c => !palette.contains c) with
  | some c => exact ⟨c, rfl⟩
  | none =>
    exfalso
    obtain ⟨D, hnd, hl, hsub⟩ := candidates_many palette
    have := hnd.length_le_of_subset (fun x hx => by
      have := List.find?_eq_none.1 hfind x (hsub x hx)
      simpa using this)
    omega

theorem parseColormap_clean (cm : List (Nat × ColorArg)) : ErrIff (parseColormap cm) (∃ e ∈ cm, malformed e.2 = true) :=
  ErrIff.mapM cm fun e _ => (pngColor_clean e.2).andThen fun _ _ => ⟨_, rfl⟩

theorem paletteFrom_total (P0 : List PColor) (clrMap : List (Nat × PColor)) (hlen : P0.length ≤ 16) :
    ∃ p, paletteFrom P0 clrMap = .ok p := by
  unfold paletteFrom
  simp only [bind, Except.bind, pure, Except.pure]
  split
  · split
    · obtain ⟨T, hT⟩ := standIn_total (P0.filter (·.isRgba) ++ P0.filter (fun c => !c.isRgba)) (by rw [length_plteOrder]; exact hlen)
      rw [hT]
      exact ⟨_, rfl⟩
    · exact ⟨_, rfl⟩
  · split <;> exact ⟨_, rfl⟩

theorem buildPalette_total (setOrder : List PColor → List PColor) (hset : SetOrderOK setOrder) (clrMap : List (Nat × PColor))
    (hlen : clrMap.length ≤ 16) : ∃ p, buildPalette setOrder clrMap = .ok p := by
  exact paletteFrom_total (palette0 setOrder clrMap) clrMap (Nat.le_trans (length_palette0_le setOrder hset clrMap) hlen)

theorem indexRows_total (p : PaletteInfo) (M : List (List Nat)) (w : Nat) (hs : SymbolShaped M w w)
    (dark light : ColorArg) (o : TypeOpts ColorArg)
    (hcov : ∀ t, (cmGet (makeColormap w w dark light o) t).isSome = true → (cmGet p.clrMap t).isNone = false) :
    ∃ idx, indexRows p M w w = .ok idx := by
  unfold indexRows
  -- with module colours a row is refused for a cell the palette lacks, but every cell of the verbose matrix is a key of the
  -- colour map (`iterVerbose_covered`); without, for a cell above 1, and a symbol holds bits
  by_cases hv : useVerbose p = true
  · obtain ⟨rows, hr, hcovered⟩ := iterVerbose_covered M w hs.size (.int 1) (some (.int 0)) 0 ⟨rfl, rfl, rfl⟩ dark light o
    simp only [hv, if_true, bind, Except.bind, hr]
    have hany : rows.any (fun row => row.any (fun t => (cmGet p.clrMap t).isNone)) = false := by
      rw [List.any_eq_false]
      intro r hr'
      simp only [List.any_eq_true, not_exists, not_and]
      intro t ht
      rw [hcov t (hcovered r hr' t ht)]
      simp
    rw [hany]
    exact ⟨_, rfl⟩
  · have hv' : useVerbose p = false := by simpa using hv
    simp only [hv', Bool.false_eq_true, if_false, bind, Except.bind]
    have hany : M.any (fun row => row.any (fun v => decide (v > 1))) = false := by
      rw [List.any_eq_false]
      intro r hr'
      simp only [List.any_eq_true, not_exists, not_and, decide_eq_true_eq]
      intro x hx
      have := hs.bits r hr' x hx
      omega
    rw [hany]
    exact ⟨_, rfl⟩

theorem writePng_outcome (setOrder : List PColor → List PColor) (hset : SetOrderOK setOrder) (M : List (List Nat)) (w : Nat)
    (hs : SymbolShaped M w w) (dark light : ColorArg) (o : TypeOpts ColorArg) (scale : Num) (border : Option Num) (b : Nat)
    (h1 : checkValidScale scale.toInt = .ok ()) (h2 : checkValidBorder border = .ok ()) (h5 : borderForRange w w border = .ok b) :
    ErrIff (writePng setOrder M w w (makeColormap w w dark light o) scale border)
      (∃ e ∈ makeColormap w w dark light o, malformed e.2 = true) := by
  have hform : ∀ colormap, writePng setOrder M w w colormap scale border = (do
    checkValidScale scale.toInt
    checkValidBorder border
    let clrMap ← parseColormap colormap
    let p ← buildPalette setOrder clrMap
    if (!useVerbose p && ((cmGet p.clrMap Gen.TYPE_QUIET_ZONE).isNone || (cmGet p.clrMap Gen.TYPE_FINDER_PATTERN_DARK).isNone)) = true then
      throw PyErr.keyError
    if (borderPositive w w border && (cmGet p.clrMap Gen.TYPE_QUIET_ZONE).isNone) = true then throw PyErr.keyError
    let b ← borderForRange w w border
    let idx ← indexRows p M w w
    pure ({ width := (w + 2 * b) * scale.toInt.toNat, height := (w + 2 * b) * scale.toInt.toNat, depth := p.depth,
            ctype := if p.isGrey then 0 else 3, plte := plteBytes p, trns := trnsBytes p,
            idat := pngStream idx w p.depth scale.toInt.toNat b (typeIndex p Gen.TYPE_QUIET_ZONE) } : PngOut)) := fun _ => rfl
  rw [hform, h1, h2]
  simp only [Proofs.Except.ok_bind]
  refine (parseColormap_clean _).andThen fun clrMap h3 => ?_
  have hlen : clrMap.length ≤ 16 := by
    rw [parseColormap_length _ _ h3]
    have := makeColormap_length w w dark light o
    omega
  obtain ⟨p, h4⟩ := buildPalette_total setOrder hset clrMap hlen
  have hnone := (buildPalette_facts setOrder hset clrMap p h4 hlen).keys
  -- every type with a colour in the map keeps one in the palette
  have hcov : ∀ t, (cmGet (makeColormap w w dark light o) t).isSome = true → (cmGet p.clrMap t).isNone = false := by
    intro t ht
    obtain ⟨a, hc⟩ := Option.isSome_iff_exists.1 ht
    obtain ⟨c, _, hcc⟩ := (parseMap_get pngColor .transparent _ _ h3 t).1 a hc
    cases hp : cmGet p.clrMap t with
    | none => rw [(hnone t).1 hp] at hcc; cases hcc
    | some _ => rfl
  have hq : (cmGet p.clrMap Gen.TYPE_QUIET_ZONE).isNone = false := hcov _ (by rw [colormap_quiet_zone]; rfl)
  have hf : (cmGet p.clrMap Gen.TYPE_FINDER_PATTERN_DARK).isNone = false := hcov _ (by rw [colormap_finder_dark]; rfl)
  obtain ⟨idx, h6⟩ := indexRows_total p M w hs dark light o hcov
  simp only [h4, hq, hf, h5, h6, bind, Except.bind, Bool.or_false, Bool.and_false, Bool.false_eq_true, if_false, pure, Except.pure]
  exact ⟨_, rfl⟩

theorem dpiPpm_clean (dpi : Option Dpi) : ErrIff (dpiPpm dpi) (dpiBad dpi = true) := by
  rw [Proofs.RasterDocs.dpiPpm_eq]
  cases dpi with
  | none => exact (ErrIff.ok _).congr (by simp [dpiBad])
  | some d => exact (ErrIff.guard fun _ => ErrIff.ok _).congr (by simp [dpiBad])

theorem png_outcome (setOrder : List PColor → List PColor) (hset : SetOrderOK setOrder) (M : List (List Nat)) (w h : Nat)
    (hs : SymbolShaped M w h) (scale : Num) (border : Option Num) (hb : BorderOK border) (dark light : ColorArg) (o : TypeOpts ColorArg)
    (dpi : Option Dpi) (comp : List Nat) :
    ErrIff (savePngFile setOrder M w h (some dark) (some light) o scale border dpi comp)
      (Props.C09.Refused scale border ∨ dpiBad dpi = true ∨ ∃ e ∈ makeColormap w h dark light o, malformed e.2 = true) := by
  refine ErrIff.first
    (fun hr => (Props.C09Docs.docs_refused M w h scale border hr false [] (some dark) (some light) [] setOrder o dpi comp).2.2.2.2.2) fun hr => ?_
  obtain rfl := hs.square
  obtain ⟨b, a⟩ := admitted_of_not_refused h h scale border hb hr
  have hform : savePngFile setOrder M h h (some dark) (some light) o scale border dpi comp = (do
      let ppm ← dpiPpm dpi
      let out ← writePng setOrder M h h (makeColormap h h dark light o) scale border
      if out.width ≥ 4294967296 || out.height ≥ 4294967296 || ppm ≥ 4294967296 || out.plte.length ≥ 4294967296
          || out.trns.length ≥ 4294967296 || comp.length ≥ 4294967296 then pure none
      else pure (some (pngFile out ppm comp))) := by
    unfold savePngFile
    rw [validSB_ok a]
    -- the border is absent or an `int`
    cases border with
    | none => rfl
    | some x =>
      rcases hb x rfl with ⟨i, rfl⟩ | hx | hx
      · rfl
      · exact absurd (Or.inr ⟨x, rfl, Or.inl hx⟩) hr
      · exact absurd (Or.inr ⟨x, rfl, Or.inr hx⟩) hr
  rw [hform]
  refine (dpiPpm_clean dpi).bind fun ppm _ =>
    (writePng_outcome setOrder hset M h hs dark light o scale border b a.okScale a.okBorder a.okRange).andThen fun out _ => ?_
  split <;> exact ⟨_, rfl⟩

end Proofs.C14Ser
