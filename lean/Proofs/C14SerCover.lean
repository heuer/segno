/-
  On a symbol-shaped matrix the look-ups of the document models cannot fail: the alignment table has an entry for every symbol
  size (no IndexError), the colour map for every module type `matrix_iter_verbose` yields (no KeyError), and the line iterator
  of `write_eps` is not empty (no StopIteration).
-/
import Proofs.C14SerDefs
import Proofs.IterShape
import Proofs.Verbose
import Proofs.Colormap
import Proofs.Lines


namespace Proofs.C14Ser
open Model Model.Lines Proofs.Colormap Proofs.IterShape

/-- the 44 symbol sizes: Micro QR (11 … 17), QR below version 7 (21 … 41), QR from version 7 (45 … 177) -/
theorem symbolSize_cases (w : Nat) (hs : SymbolSize w) : 11 ≤ w ∧ w ≤ 177 ∧ (w < 21 ∨ (21 ≤ w ∧ w ≤ 41) ∨ 45 ≤ w) := by
  obtain ⟨v, h1, h2, rfl⟩ := hs
  unfold Spec.size
  by_cases h0 : v > 0
  · rw [if_pos h0]; omega
  · rw [if_neg h0]; omega

theorem symbol_pos {M : List (List Nat)} {w h : Nat} (hs : SymbolShaped M w h) : 0 < w ∧ 0 < h := by
  have := symbolSize_cases w hs.size
  have := hs.square
  omega

theorem branch_version_gt (w h : Int) (sq mi : Bool) (a : Nat) (i j : Int) (hb : getBitBranch w h sq mi a i j = .version) : w > 41 := by
  unfold getBitBranch at hb
  simp only [apply_ite (· = Branch.version), reduceCtorEq, ite_self, if_false_left, if_false_right, and_true, Bool.and_eq_true,
    decide_eq_true_eq] at hb
  exact hb.2.1.2.2

theorem cover_aux {α : Type} (w h : Nat) (dark light : α) (o : TypeOpts α) (br : Branch) (a val : Nat)
    (hl : lacks w h (toKind br) = false) :
    (cmGet (makeColormap w h dark light o) (branchCode br a val)).isSome = true := by
  rw [Proofs.Verbose.branchCode_typeCode, colormap_fallback, hl]
  rfl

/-- the keys `_make_colormap` drops — version information below version 7, dark module and alignment patterns of Micro QR
    Codes — are never asked for, whatever the matrix and the alignment matrix hold -/
theorem colormap_covers {α : Type} (w : Nat) (hs : SymbolSize w) (dark light : α) (o : TypeOpts α) (M A : List (List Nat)) (b ii jj : Nat) :
    (cmGet (makeColormap w w dark light o) (verboseCell M A w w b ii jj)).isSome = true := by
  have hw := symbolSize_cases w hs
  unfold verboseCell
  split
  · refine cover_aux w w dark light o _ _ _ ?_
    by_cases hm : w < 21
    · -- a Micro QR Code has no alignment pattern, version information or dark module
      rw [show (w == w && decide (w < 21)) = true by simp [hm], branch_micro]
      unfold kindMicro
      repeat' split
      all_goals rfl
    · generalize hbr : getBitBranch _ _ _ _ _ _ _ = br
      cases br with
      | version =>
        have := branch_version_gt _ _ _ _ _ _ _ hbr
        have h45 : ¬ w < 45 := by omega
        simp [lacks, toKind, h45]
      | alignment | darkmodule => simp [lacks, toKind, hm]
      | _ => rfl
  · rw [colormap_quiet_zone]; rfl

theorem iterWith_mem (cell : Nat → Nat → Nat) (w h s b : Nat) :
    ∀ r ∈ iterWith cell w h s b, ∀ t ∈ r, ∃ ii jj, t = cell ii jj := by
  intro r hr t ht
  simp only [iterWith, scaleRow, List.mem_flatMap, List.mem_map, List.mem_replicate, List.mem_range] at hr
  obtain ⟨row, ⟨ii, _, rfl⟩, _, rfl⟩ := hr
  simp only [List.mem_flatMap, List.mem_map, List.mem_replicate, List.mem_range] at ht
  obtain ⟨x, ⟨jj, _, rfl⟩, _, rfl⟩ := ht
  exact ⟨ii, jj, rfl⟩

theorem iterVerbose_covered {α : Type} (M : List (List Nat)) (w : Nat) (hs : SymbolSize w) (scale : Num) (border : Option Num) (b : Nat)
    (a : Proofs.RasterDocs.Admitted w w scale border b) (dark light : α) (o : TypeOpts α) :
    ∃ rows, matrixIterVerbose M w w scale border = .ok rows
      ∧ ∀ r ∈ rows, ∀ t ∈ r, (cmGet (makeColormap w w dark light o) t).isSome = true := by
  obtain ⟨A, hA⟩ : ∃ A, alignmentMatrix w = .ok A := by
    obtain ⟨v, h1, h2, rfl⟩ := hs
    exact Proofs.Verbose.alignmentMatrix_ok v h1 h2
  refine ⟨iterWith (verboseCell M A w w b) w w scale.toInt.toNat b, ?_, ?_⟩
  · simp only [matrixIterVerbose, a.okBorder, a.okScale, a.okRange, hA, bind, Except.bind, pure, Except.pure]
  · intro r hr t ht
    obtain ⟨ii, jj, rfl⟩ := iterWith_mem _ _ _ _ _ r hr t ht
    exact colormap_covers w hs dark light o M A b ii jj

/-- the first row always yields a line, since `last_bit` starts as 0x1 -/
theorem epsPath_isSome (M : List (List Nat)) (b : Nat) (hne : M ≠ []) : (epsPath M b).isSome = true := by
  obtain ⟨row, rest, rfl⟩ := List.exists_cons_of_ne_nil hne
  obtain ⟨ab, more, h⟩ := List.exists_cons_of_ne_nil (Proofs.Lines.rowRuns_ne_nil b 1 row (by decide))
  simp [epsPath, toInt, matrixToLines, linesGo, h]

end Proofs.C14Ser
