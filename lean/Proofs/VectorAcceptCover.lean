/-
  C10, coverage: the judge's `checkCoverage` (array of rows, `rowCover`, `firstDiff`)
  succeeds on grid segments whose rows cover exactly the expected page rows.
-/
import Proofs.VectorAcceptGeom
import Proofs.Lines

namespace Proofs.VectorAccept
open Spec.Vector Model.Lines Proofs.Lines

theorem mem_zip_self {α} (l : List α) : ∀ p ∈ l.zip l, p.1 = p.2 := by
  induction l with
  | nil => intro p hp; simp at hp
  | cons a l ih =>
    intro p hp
    simp only [List.zip_cons_cons, List.mem_cons] at hp
    rcases hp with rfl | hp
    · rfl
    · exact ih p hp

theorem firstDiff_self (l : List Nat) : firstDiff l l = none := by
  unfold firstDiff
  rw [Option.map_eq_none_iff, List.find?_eq_none]
  intro x hx
  obtain ⟨p, j⟩ := x
  have hp : p ∈ l.zip l := List.fst_mem_of_mem_zipIdx hx
  simp [mem_zip_self l p hp]

/-- the fold step of `checkCoverage` (verbatim) -/
def addSeg (a : Array (List (Nat × Nat))) (x : Nat × Nat × Nat) : Array (List (Nat × Nat)) :=
  match x with
  | (i, j0, j1) => a.modify i (fun l => (j0, j1) :: l)

/-- the segments of grid row `r`, in order -/
def rowSegs (segs : List (Nat × Nat × Nat)) (r : Nat) : List (Nat × Nat) :=
  (segs.filter (fun t => t.1 == r)).map (fun t => t.2)

theorem addSeg_size (a : Array (List (Nat × Nat))) (x : Nat × Nat × Nat) : (addSeg a x).size = a.size := by
  obtain ⟨i, j0, j1⟩ := x; simp [addSeg]

theorem addSeg_getD (a : Array (List (Nat × Nat))) (x : Nat × Nat × Nat) (r : Nat) (hr : r < a.size) :
    (addSeg a x).getD r [] = (if x.1 == r then [x.2] else []) ++ a.getD r [] := by
  obtain ⟨i, j0, j1⟩ := x
  simp only [addSeg, Array.getD_eq_getD_getElem?]
  by_cases h : i = r
  · subst h; simp [Array.getElem_modify, hr]
  · have : (i == r) = false := by simp [h]
    simp [Array.getElem?_modify, h, this]

theorem foldl_addSeg (segs : List (Nat × Nat × Nat)) : ∀ (a : Array (List (Nat × Nat))) (r : Nat), r < a.size →
    (segs.foldl addSeg a).getD r [] = (rowSegs segs r).reverse ++ a.getD r [] := by
  induction segs with
  | nil => intro a r _; simp [rowSegs]
  | cons x rest ih =>
    intro a r hr
    rw [List.foldl_cons, ih (addSeg a x) r (by rw [addSeg_size]; exact hr), addSeg_getD a x r hr]
    unfold rowSegs
    by_cases h : x.1 == r <;> simp [h]

theorem coverAt_reverse (l : List (Nat × Nat)) (j : Nat) : coverAt l.reverse j = coverAt l j := by
  unfold coverAt; rw [List.filter_reverse, List.length_reverse]

theorem rowCover_congr (n : Nat) (a b : List (Nat × Nat)) (h : ∀ j, coverAt a j = coverAt b j) : rowCover n a = rowCover n b := by
  unfold rowCover
  apply List.map_congr_left
  intro j _; exact h j

theorem forIn_unit_ok {ε α} (l : List α) (f : α → PUnit → Except ε (ForInStep PUnit))
    (h : ∀ a ∈ l, f a PUnit.unit = .ok (.yield PUnit.unit)) : forIn l PUnit.unit f = .ok PUnit.unit := by
  induction l with
  | nil => rfl
  | cons a l ih =>
    rw [List.forIn_cons, h a (by simp)]
    exact ih (fun a ha => h a (by simp [ha]))

theorem checkCoverage_ok (w : Want) (c : Color) (hd : w.dark = some c) (segs : List (Nat × Nat × Nat))
    (h : ∀ r, r < w.size + 2 * w.b → rowCover (w.size + 2 * w.b) (rowSegs segs r) = pageRow w.m w.size w.b r) :
    checkCoverage w segs = .ok () := by
  unfold checkCoverage
  simp only []
  rw [forIn_unit_ok]
  · rfl
  · intro r hr
    have hr' : r < w.size + 2 * w.b := List.mem_range.mp hr
    have hf : (List.foldl (fun a x => match x with | (i, j0, j1) => a.modify i fun l => (j0, j1) :: l)
        (Array.replicate (w.size + 2 * w.b) []) segs) = segs.foldl addSeg (Array.replicate (w.size + 2 * w.b) []) := rfl
    have hg := foldl_addSeg segs (Array.replicate (w.size + 2 * w.b) []) r (by simpa using hr')
    have hc : rowCover (w.size + 2 * w.b) ((segs.foldl addSeg (Array.replicate (w.size + 2 * w.b) [])).getD r [])
        = pageRow w.m w.size w.b r := by
      rw [hg, ← h r hr']
      apply rowCover_congr
      intro j
      simp [coverAt_reverse, hr']
    simp only [hd, Option.isSome_some, if_true]
    rw [hf, hc, firstDiff_self]
    rfl

/-- every run lies within the columns of the symbol, `b … b + size` -/
def RowsOK (b size : Nat) (rows : List (List (Nat × Nat))) : Prop :=
  ∀ rs ∈ rows, ∀ ab ∈ rs, b ≤ ab.1 ∧ ab.1 ≤ ab.2 ∧ ab.2 ≤ b + size

theorem rowsGo_ok (b size : Nat) (m : List (List Nat)) (hm : ∀ row ∈ m, row.length = size) : ∀ lb, RowsOK b size (rowsGo b lb m) := by
  induction m with
  | nil => intro lb rs hrs; simp [rowsGo] at hrs
  | cons row rest ih =>
    intro lb rs hrs
    simp only [rowsGo, List.mem_cons] at hrs
    rcases hrs with rfl | hrs
    · intro ab hab
      have h1 := sep_mem _ _ (rowRuns_sep b lb row) ab hab
      have h2 := rowRuns_bound b lb row ab hab
      have := hm row (by simp)
      omega
    · exact ih (fun r hr => hm r (by simp [hr])) _ rs hrs

/-- the grid segments of row groups starting at grid row `i0` (empty runs dropped) -/
def segsFrom : Nat → List (List (Nat × Nat)) → List (Nat × Nat × Nat)
  | _, [] => []
  | i0, rs :: rest => rs.filterMap (fun ab => if ab.1 = ab.2 then none else some (i0, ab.1, ab.2)) ++ segsFrom (i0 + 1) rest

theorem rowSegs_append (a b : List (Nat × Nat × Nat)) (r : Nat) : rowSegs (a ++ b) r = rowSegs a r ++ rowSegs b r := by
  simp [rowSegs]

theorem rowSegs_cons (x : Nat × Nat × Nat) (l : List (Nat × Nat × Nat)) (r : Nat) :
    rowSegs (x :: l) r = if x.1 = r then x.2 :: rowSegs l r else rowSegs l r := by
  by_cases h : x.1 = r <;> simp [rowSegs, h]

theorem coverAt_rowSegs_row (i0 r : Nat) (rs : List (Nat × Nat)) (j : Nat) :
    coverAt (rowSegs (rs.filterMap (fun ab => if ab.1 = ab.2 then none else some (i0, ab.1, ab.2))) r) j
      = if i0 = r then coverAt rs j else 0 := by
  induction rs with
  | nil => simp [rowSegs, coverAt_nil]
  | cons ab rs ih =>
    rw [List.filterMap_cons, coverAt_cons]
    by_cases h : ab.1 = ab.2
    · simp only [h, if_true, ind_self, Nat.zero_add]
      simpa only [h] using ih
    · simp only [h, if_false, rowSegs_cons]
      by_cases hr : i0 = r
      · simp only [hr, if_true, coverAt_cons] at ih ⊢
        rw [ih]
      · simp only [hr, if_false] at ih ⊢
        exact ih

theorem coverAt_segsFrom (rows : List (List (Nat × Nat))) : ∀ (i0 r j : Nat),
    coverAt (rowSegs (segsFrom i0 rows) r) j = if r < i0 then 0 else coverAt (rows.getD (r - i0) []) j := by
  induction rows with
  | nil => intro i0 r j; simp [segsFrom, rowSegs, coverAt_nil]
  | cons rs rest ih =>
    intro i0 r j
    rw [segsFrom, rowSegs_append, coverAt_append, coverAt_rowSegs_row, ih]
    by_cases h1 : r < i0
    · have : ¬ i0 = r := by omega
      have : r < i0 + 1 := by omega
      simp [*]
    · by_cases h2 : i0 = r
      · subst h2; simp
      · have h3 : ¬ r < i0 + 1 := by omega
        have h4 : r - i0 = (r - (i0 + 1)) + 1 := by omega
        simp only [h1, h2, h3, if_false, Nat.zero_add]
        rw [h4]; simp

theorem rowCover_model (m : List (List Nat)) (b : Nat) (hsq : ∀ row ∈ m, row.length = m.length) (r : Nat) :
    rowCover (m.length + 2 * b) (rowSegs (segsFrom b (rowsGo b 1 m)) r) = pageRow m m.length b r := by
  by_cases hin : b ≤ r ∧ r < b + m.length
  · obtain ⟨h1, h2⟩ := hin
    have hi : r - b < m.length := by omega
    have hi' : r - b < (rowsGo b 1 m).length := by rw [rowsGo_length]; exact hi
    have hlen : (m[r - b]).length = m.length := hsq _ (List.getElem_mem hi)
    have e : m.length + 2 * b = b + (m[r - b]).length + b := by omega
    have hrr : r = b + (r - b) := by omega
    rw [rowCover_congr _ _ (rowRuns b 0 (m[r - b])).1]
    · rw [e, rowCover_runs]
      conv => rhs; rw [hrr]
      rw [pageRow_inside m m.length b (r - b) hi hlen hi]
    · intro j
      rw [coverAt_segsFrom, if_neg (by omega), List.getD_eq_getElem?_getD, List.getElem?_eq_getElem hi', Option.getD_some,
        rowsGo_cover b m 1 (r - b) hi hi' j, rowRuns_cover]
  · -- above and below the symbol the page row is empty, and no row group lies there
    have hp : pageRow m m.length b r = List.replicate (m.length + 2 * b) 0 := by
      unfold pageRow; rw [if_pos]; simp only [Bool.or_eq_true, decide_eq_true_eq]; omega
    rw [hp]; unfold rowCover
    apply map_range_zero
    intro j _
    rw [coverAt_segsFrom]
    split
    · rfl
    · rw [List.getD_eq_getElem?_getD, List.getElem?_eq_none (by rw [rowsGo_length]; omega)]; rfl

end Proofs.VectorAccept
