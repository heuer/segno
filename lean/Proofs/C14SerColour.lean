/-
  Every colour parser of the document models ends in a value or in ValueError, and succeeds exactly on the colours of the
  documented grammar (`malformed` = `Proofs.ColourGrammar.meaning` rejects the value; `opaqueCol` = well-formed, no transparency).
  `Model.Svg.isBlack` / `isWhite` mirror `_color_is_black` / `_color_is_white` of segno/writers.py, which accept a 4-tuple
  only with an alpha value that is opaque by type (`_is_opaque_alpha`: the float 1.0, the int 255 or 1): `(0, 0, 0, 255.0)` —
  equal to the int tuple as a Python value, while 255.0 is no alpha value of the grammar — is not black.
-/
import Proofs.C14SerGlue
import Proofs.RasterDocsColour

namespace Proofs.C14Ser
open Model Model.RasterDocs Model.Svg Model.VectorDocs Proofs.ColourGrammar

theorem malformed_none : malformed .none = false := rfl

theorem opaqueCol_none : opaqueCol .none = false := rfl

theorem opaque_wellformed (c : ColorArg) (h : opaqueCol c = true) : malformed c = false := by
  unfold opaqueCol at h; unfold malformed
  cases hm : meaning c with
  | none => rw [hm] at h; cases h
  | some e => rfl

theorem malformed_iff (c : ColorArg) : malformed c = true ↔ meaning c = none := by
  unfold malformed; cases meaning c <;> simp

theorem colorToRgba_clean (c : ColorArg) (hc : c ≠ .none) : ErrIff (colorToRgba c) (malformed c = true) := by
  have h := grammar_core c hc
  unfold malformed
  cases hm : meaning c <;> rw [hm] at h
  · rw [h]; exact ErrIff.refuse.congr (by simp)
  · obtain ⟨r, g, b, a, hok, _⟩ := h
    rw [hok]; exact (ErrIff.ok _).congr (by simp)

theorem pngColor_clean (c : ColorArg) : ErrIff (pngColor c) (malformed c = true) := by
  have h := png_core c
  unfold malformed
  cases hm : meaning c <;> rw [hm] at h
  · rw [h]; exact ErrIff.refuse.congr (by simp)
  · obtain ⟨p, hok, _⟩ := h
    rw [hok]; exact (ErrIff.ok _).congr (by simp)

theorem rgbOrRgba_clean (c : ColorArg) (hc : c ≠ .none) : ErrIff (rgbOrRgba c) (malformed c = true) :=
  (colorToRgba_clean c hc).andThen fun _ _ => ⟨_, rfl⟩

theorem colorToRgb_str (s : String) :
    colorToRgb (.str s) = match colorToRgba (.str s) with
      | .ok (r, g, b, a) => if 254 ≤ a then .ok [r, g, b] else .error .valueError
      | .error e => .error e := by
  simp only [colorToRgb, colorToRgba]
  cases nameToRgb s with
  | some v => obtain ⟨r, g, b⟩ := v; rfl
  | none =>
    simp only [bind, Except.bind]
    cases hexToInts s with
    | error e => rfl
    | ok l =>
      match l with
      | [] => rfl
      | [_] => rfl
      | [_, _] => rfl
      | [r, g, b] => rfl
      | [r, g, b, a] => rfl
      | _ :: _ :: _ :: _ :: _ :: _ => rfl

theorem colorToRgb_clean (c : ColorArg) : ErrIff (colorToRgb c) (opaqueCol c = false) := by
  -- on each form of colour `colorToRgb` is one test (`ErrIff.test`) or a refusal; what is left is that the test says `opaqueCol`
  cases c with
  | none => exact ErrIff.refuse.congr (by simp [opaqueCol_none])
  | str s =>
    have h := str_agree s
    rw [colorToRgb_str]
    simp only [opaqueCol, meaning]
    cases hp : Spec.parseColourString s <;> rw [hp] at h <;> rw [h]
    · exact ErrIff.refuse.congr (by simp)
    · exact (ErrIff.test (c := 254 ≤ _) _).congr (by simp)
  | floatAlpha r g b k =>
    refine (ErrIff.test _).congr ?_
    by_cases h : r ≤ 255 ∧ g ≤ 255 ∧ b ≤ 255 ∧ k ≤ 1000
    · simp [opaqueCol, meaning, h]
    · exact ⟨fun _ => by simp [opaqueCol, meaning, h], fun _ x => h ⟨x.1, x.2.1, x.2.2.1, by omega⟩⟩
  | ints l =>
    match l with
    | [r, g, b] =>
      refine (ErrIff.test _).congr ?_
      by_cases h : r ≤ 255 ∧ g ≤ 255 ∧ b ≤ 255 <;> simp [opaqueCol, meaning, h]
    | [r, g, b, a] =>
      refine (ErrIff.test _).congr ?_
      by_cases h : r ≤ 255 ∧ g ≤ 255 ∧ b ≤ 255 ∧ a ≤ 255
      · simp [opaqueCol, meaning, h]
      · exact ⟨fun _ => by simp [opaqueCol, meaning, h], fun _ x => h ⟨x.1, x.2.1, x.2.2.1, x.2.2.2.2⟩⟩
    | [] | [_] | [_, _] | _ :: _ :: _ :: _ :: _ :: _ => exact ErrIff.refuse.congr (by simp [opaqueCol, meaning])

theorem alphaOfIntF_clean (a : Nat) : ErrIff (alphaOfIntF a) (¬ a ≤ 255) := by
  unfold alphaOfIntF
  by_cases h : a > 255
  · rw [if_pos h]; exact ErrIff.refuse.congr (by simp; omega)
  · rw [if_neg h]
    refine ErrIff.of_cases (fun hn => absurd (by omega) hn) (fun _ => ?_)
    repeat' split
    all_goals exact ⟨_, rfl⟩

theorem alphaOfFloatF_clean (k : Nat) : ErrIff (alphaOfFloatF k) (¬ k ≤ 1000) := by
  unfold alphaOfFloatF
  by_cases h : k > 1000
  · rw [if_pos h]; exact ErrIff.refuse.congr (by simp; omega)
  · rw [if_neg h]
    refine ErrIff.of_cases (fun hn => absurd (by omega) hn) (fun _ => ?_)
    repeat' split
    all_goals exact ⟨_, rfl⟩

theorem malformed_str (s : String) : malformed (.str s) = (Spec.parseColourString s).isNone := by
  show ((Spec.parseColourString s).map Spec.ColExp.exact).isNone = _
  cases Spec.parseColourString s <;> rfl

theorem wellformed_of_lower (s t : String) (h : lowerAscii s = t) (ht : lowerAscii t = t ∧ malformed (.str t) = false) :
    malformed (.str s) = false := by
  rw [malformed_str, parseColourString_case s t (h.trans ht.1.symm), ← malformed_str]
  exact ht.2

theorem shortcut_wellformed (c : ColorArg) (h : Svg.isBlack c = true ∨ Svg.isWhite c = true) : malformed c = false := by
  cases c with
  | none => simp [isBlack, isWhite] at h
  | str s =>
    simp only [isBlack, isWhite, Bool.or_eq_true, beq_iff_eq] at h
    -- the six strings the shortcuts compare with are lower-case and well-formed
    rcases h with ((h | h) | h) | ((h | h) | h) <;> exact wellformed_of_lower s _ h (by decide +kernel)
  | ints l =>
    match l, h with
    | [r, g, b], h =>
      simp only [isBlack, isWhite, Bool.and_eq_true, beq_iff_eq] at h
      rcases h with ⟨⟨rfl, rfl⟩, rfl⟩ | ⟨⟨rfl, rfl⟩, rfl⟩ <;> rfl
    | [r, g, b, a], h =>
      simp only [isBlack, isWhite, opaqueIntAlpha, Bool.and_eq_true, Bool.or_eq_true, beq_iff_eq] at h
      rcases h with ⟨⟨⟨rfl | rfl, rfl⟩, rfl⟩, rfl⟩ | ⟨⟨⟨rfl | rfl, rfl⟩, rfl⟩, rfl⟩ <;> rfl
    | [], h | [_], h | [_, _], h | _ :: _ :: _ :: _ :: _ :: _, h => simp [isBlack, isWhite] at h
  | floatAlpha r g b k =>
    simp only [isBlack, isWhite, Bool.and_eq_true, beq_iff_eq] at h
    rcases h with ⟨⟨⟨rfl, rfl⟩, rfl⟩, rfl⟩ | ⟨⟨⟨rfl, rfl⟩, rfl⟩, rfl⟩ <;> decide

theorem isBlack_wellformed (c : ColorArg) (h : Svg.isBlack c = true) : malformed c = false := shortcut_wellformed c (.inl h)


/-- the float alpha 255.0 (`_is_opaque_alpha` of segno/writers.py refuses it): not black, not white, and malformed -/
example : Svg.isBlack (.floatAlpha 0 0 0 255000) = false ∧ malformed (.floatAlpha 0 0 0 255000) = true := by decide
example : Svg.isWhite (.floatAlpha 255 255 255 255000) = false ∧ malformed (.floatAlpha 255 255 255 255000) = true := by decide

theorem xpmColour_clean (c : ColorArg) : ErrIff (xpmColour c) (c ≠ .none ∧ opaqueCol c = false) := by
  cases c with
  | none => exact (ErrIff.ok _).congr (by simp)
  | _ => exact ((colorToRgb_clean _).andThen fun _ _ => ⟨_, rfl⟩).congr (by simp)

theorem colorToRgbaF_str (s : String) :
    (∀ x, colorToRgba (.str s) = .ok x → ∃ y, colorToRgbaF (.str s) = .ok y)
    ∧ (colorToRgba (.str s) = .error .valueError → colorToRgbaF (.str s) = .error .valueError) := by
  simp only [colorToRgba, colorToRgbaF]
  cases nameToRgb s with
  | some v => exact ⟨fun _ _ => ⟨_, rfl⟩, fun h => (by cases h)⟩
  | none =>
    simp only [bind, Except.bind]
    cases hx : hexToInts s with
    | error e => exact ⟨fun x h => (by cases h), fun h => (by simpa using h)⟩
    | ok l =>
      have hb := Proofs.RasterDocs.hexToInts_bounds s l hx
      match l with
      | [r, g, b] => exact ⟨fun _ _ => ⟨_, rfl⟩, fun h => (by cases h)⟩
      | [r, g, b, a] =>
        -- a hexadecimal alpha value is a byte
        obtain ⟨t, ht⟩ := (alphaOfIntF_clean a).value (fun hn => hn (hb a (by simp)))
        simp only [ht]
        exact ⟨fun _ _ => ⟨_, rfl⟩, fun h => (by cases h)⟩
      | [] | [_] | [_, _] | _ :: _ :: _ :: _ :: _ :: _ => exact ⟨fun x h => (by cases h), fun _ => rfl⟩

theorem isNone_ite {α : Type} {c : Prop} [Decidable c] (x : α) : (if c then some x else none).isNone = true ↔ ¬ c := by
  by_cases h : c <;> simp [h]

/-- the model tests the three channels, then the alpha value; the grammar their conjunction -/
theorem colorToRgbaF_clean (c : ColorArg) (hc : c ≠ .none) : ErrIff (colorToRgbaF c) (malformed c = true) := by
  cases c with
  | none => exact absurd rfl hc
  | str s => exact (colorToRgba_clean _ hc).transfer (colorToRgbaF_str s).1 (colorToRgbaF_str s).2
  | floatAlpha r g b k =>
    refine (ErrIff.guardNot fun _ => (alphaOfFloatF_clean k).andThen fun _ _ => ⟨_, rfl⟩).congr ?_
    rw [← Decidable.not_and_iff_not_or_not, and_assoc, and_assoc]
    exact (isNone_ite _).symm
  | ints l =>
    match l with
    | [r, g, b] =>
      refine (ErrIff.test _).congr ?_
      simp only [malformed, meaning]
      split <;> simp_all
    | [r, g, b, a] =>
      refine (ErrIff.guardNot fun _ => (alphaOfIntF_clean a).andThen fun _ _ => ⟨_, rfl⟩).congr ?_
      rw [← Decidable.not_and_iff_not_or_not, and_assoc, and_assoc]
      exact (isNone_ite _).symm
    | [] | [_] | [_, _] | _ :: _ :: _ :: _ :: _ :: _ => exact ErrIff.refuse.congr (by simp [malformed, meaning])

theorem toWebColor_clean (css3 : Bool) (c : ColorArg) (hc : c ≠ .none) : ErrIff (toWebColor css3 c) (malformed c = true) := by
  unfold toWebColor
  by_cases hb : Svg.isBlack c = true
  · rw [if_pos hb]; exact (ErrIff.ok _).congr (by simp [isBlack_wellformed c hb])
  rw [if_neg hb]
  by_cases hw : Svg.isWhite c = true
  · rw [if_pos hw]; exact (ErrIff.ok _).congr (by simp [shortcut_wellformed c (.inr hw)])
  rw [if_neg hw]
  refine (colorToRgbaF_clean c hc).andThen fun x _ => ?_
  obtain ⟨r, g, b, a⟩ := x
  cases a with
  | none => exact ⟨_, rfl⟩
  | some t => cases css3 <;> exact ⟨_, rfl⟩

theorem channels_clean {β : Type} (f : Nat → String) (g : Chan → String) (k : List String → R β)
    (hk : ∀ r g b, ∃ y, k [r, g, b] = .ok y) (c : ColorArg) :
    ErrIff (channelTexts f g (.arg c) >>= k) (opaqueCol c = false) :=
  (colorToRgb_clean c).transfer
    (fun l hl => by
      obtain ⟨r, g', b, rfl, _⟩ := Proofs.RasterDocs.colorToRgb_ok c _ hl
      obtain ⟨y, hy⟩ := hk (f r) (f g') (f b)
      exact ⟨y, by simp only [channelTexts, hl, bind, Except.bind, pure, Except.pure, List.map, hy]⟩)
    (fun he => by simp only [channelTexts, he, bind, Except.bind])

theorem epsColor_clean (c : ColorArg) : ErrIff (epsColor (.arg c)) (opaqueCol c = false) := by
  refine channels_clean _ _ _ (fun _ _ _ => ?_) c
  exact ⟨_, rfl⟩

theorem pdfColor_clean (o : PdfOpts) (c : ColorArg) : ErrIff (pdfColor o (.arg c)) (opaqueCol c = false) := by
  refine channels_clean _ _ _ (fun _ _ _ => ?_) c
  exact ⟨_, rfl⟩

end Proofs.C14Ser
