/-
  Proofs.Scan — the readers of the specifications that collect the current piece in an accumulator (`linesT`, `pamLines`,
  `splitOn`, `splitChars`, `List.span.loop`, the tokenizer's `run`) all pass over a stretch without a separator in the same
  way; what a reader does AT the separator is then one unfolding of its definition.
-/
namespace Proofs.Scan

theorem scan_clean {α β : Type} {f : List α → List α → β} {p : α → Prop}
    (step : ∀ c r cur, p c → f (c :: r) cur = f r (c :: cur)) {l : List α} (hl : ∀ c ∈ l, p c) (rest : List α) :
    ∀ cur, f (l ++ rest) cur = f rest (l.reverse ++ cur) := by
  induction l with
  | nil => intro cur; rfl
  | cons c l ih =>
    intro cur
    rw [List.cons_append, step c _ cur (hl c List.mem_cons_self), ih fun x hx => hl x (List.mem_cons_of_mem _ hx),
      List.reverse_cons, List.append_assoc, List.singleton_append]

end Proofs.Scan
