/-
  Proofs.ApiRaises — what `Model.encode` and the public functions (`Model.Args.api`) raise, for any class `P` of errors: each
  stage in front of `_encode` raises ValueError or DataOverflowError (Proofs/EncodeStages, Proofs/SegmentErr), `_encode` itself on
  what these stages hand over ValueError at most (`Proofs.EncodeCoreTotal.encodeCore_err`).
-/
import Proofs.EncodeCoreTotal
import Proofs.SegmentErr

namespace Proofs.ApiRaises
open Model Model.Args Proofs.ArgsLemmas Proofs.SegmentErr Proofs.EncodeStages
open Proofs.Except (RaisesOnly)

theorem encode_raises {P : PyErr → Prop} (hV : P .valueError) (hD : P .dataOverflow)
    (ps : List Part) (er : Option Nat) (v : Option Int) (m mask : Option Nat)
    (eci : Bool) (micro : Option Bool) (boost : Bool) (f : String → Option Nat) :
    RaisesOnly P (encode ps er v m mask eci micro boost f) := by
  rw [encode_eq]
  refine .bind ((comboChecks_err _ _ _ _ _).of_eq hV) fun _ hcombo => ?_
  unfold encTail
  refine .bind ((prepareData_err _).of_eq hV) fun segs _ => ?_
  refine .bind ((findVersion_err _ _ _ _).mono ?_) fun g hg => ?_
  · rintro e (rfl | rfl | ⟨rfl, h2⟩)
    · exact hV
    · exact hD
    · -- the `assert not (eci and micro)`: excluded by the ECI / Micro check that has passed
      rw [combo_not_eci_micro hcombo] at h2
      cases h2
  refine .bind ((pickVersion_err _ _).of_eq hD) fun v' _ => ?_
  refine .bind ((ownCapacityCheck_err _ _ _ _ _).of_eq hD) fun _ hu => ?_
  refine .bind ((maskRangeCheck_err _ _).of_eq hV) fun _ hu2 => ?_
  exact (Proofs.EncodeCoreTotal.encodeCore_err segs er v' mask eci boost f
    (fits_of_check (findVersion_fits _ _ _ _ _ hg) ((ownCapacityCheck_ok_iff _ _ _ _ _ _).1 hu))
    ((maskRangeCheck_ok_iff _ _ _).1 hu2)).of_eq hV

theorem apiEncode_raises {P : PyErr → Prop} (hV : P .valueError) (hD : P .dataOverflow) (hL : P .lookupError)
    (c : Call) (micro : Option Bool) (eci : Bool)
    (hmask : maskRequest c.mask ≠ .typeError) (hparts : ∀ e, c.parts = .error e → P e) :
    RaisesOnly P (apiEncode c micro eci) := by
  unfold apiEncode
  refine .bind ((normalizeVersion_err _).of_eq hV) fun v _ => ?_
  refine .bind ((normalizeErrorLevel_err _).of_eq hV) fun er _ => ?_
  refine .bind ((normalizeMode_err _).of_eq hV) fun m _ => ?_
  refine .bind ((comboChecks_err _ _ _ _ _).of_eq hV) fun _ _ => ?_
  refine .bind hparts fun ps _ => ?_
  have key (parts mask) : RaisesOnly P (encodeLookup c parts er v m mask eci micro) :=
    encodeLookup_err _ _ _ _ _ _ _ _ hL fun f => encode_raises hV hD _ _ _ _ _ _ _ _ _
  split
  · exact .bind (key _ _) fun _ _ => .ok _
  · exact .bind (key _ _) fun _ _ => .ok _
  · exact .bind (key _ _) fun _ _ => .error hV
  · rename_i hk; exact absurd hk hmask

theorem apiSequence_raises {P : PyErr → Prop} (hV : P .valueError) (c : Call) (hmask : maskRequest c.mask ≠ .typeError)
    (hcount : c.symbolCount = .none ∨ (asInt c.symbolCount).isSome = true) (hparts : ∀ e, c.parts = .error e → P e) :
    RaisesOnly P (apiSequence c) := by
  unfold apiSequence
  refine .bind ((normalizeVersion_err _).of_eq hV) fun v _ => ?_
  refine .bind ((sequenceVersionCheck_err _ _).of_eq hV) fun _ _ => ?_
  refine .bind ((symbolCountCheck_err _).mono ?_) fun _ _ => ?_
  · rintro e (rfl | ⟨rfl, hne, h2⟩)
    · exact hV
    · rcases hcount with h3 | h3
      · exact absurd h3 hne
      · rw [h2] at h3; cases h3
  refine .bind ((normalizeErrorLevel_err _).of_eq hV) fun _ _ => ?_
  refine .bind ((normalizeMode_err _).of_eq hV) fun m _ => ?_
  refine .bind ((normalizeMask_err _ _).mono ?_) fun _ _ => ?_
  · rintro e (rfl | ⟨rfl, h2⟩)
    · exact hV
    · exact absurd h2 hmask
  refine .bind hparts fun ps _ => ?_
  exact .bind ((prepareData_err _).of_eq hV) fun _ _ => .ok _

/-- What the public functions raise, for any class `P` of errors: if `P` holds ValueError, DataOverflowError, LookupError and
    whatever the codec service raised for the content, then the public functions raise nothing outside `P` — provided `mask` is
    not rejected by `int()` by type and `symbol_count` is None or an integer (the two undocumented argument types that do end in
    TypeError in the implementation: `mask=[1]`, `symbol_count='2'`). -/
theorem api_raises_only {P : PyErr → Prop} (hV : P .valueError) (hD : P .dataOverflow) (hL : P .lookupError)
    (c : Call) (hmask : maskRequest c.mask ≠ .typeError)
    (hcount : c.symbolCount = .none ∨ (asInt c.symbolCount).isSome = true) (hparts : ∀ e, c.parts = .error e → P e) :
    RaisesOnly P (api c) := by
  unfold api
  split
  · exact apiEncode_raises hV hD hL c _ _ hmask hparts
  · exact apiEncode_raises hV hD hL c _ _ hmask hparts
  · exact apiEncode_raises hV hD hL c _ _ hmask hparts
  · exact apiSequence_raises hV c hmask hcount hparts

end Proofs.ApiRaises
