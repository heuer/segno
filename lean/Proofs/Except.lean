/-
  Proofs.Except — when `>>=`, `<$>`, a raise-guard, `List.mapM` and `List.foldlM` succeed or fail in
  `Except ε` (`Model.R`, `Gen.Py.M`), and `List.mapM` in `Option`.  The lemmas read one statement of a
  `do` block at a time, with the continuation a variable; shared by the proof modules.  `RaisesOnly P x`: how a
  computation ends — with a value, or with an error of the class `P`; kept by `>>=`, `map`, `if`, `mapM`, `foldlM`.
-/

namespace Proofs.Except

variable {ε α β : Type}

theorem bind_ok {x : Except ε α} {f : α → Except ε β} {b : β} :
    (x >>= f) = .ok b ↔ ∃ a, x = .ok a ∧ f a = .ok b := by
  cases x <;> simp [bind, Except.bind]

theorem bind_err {x : Except ε α} {f : α → Except ε β} {e : ε} :
    (x >>= f) = .error e ↔ x = .error e ∨ ∃ a, x = .ok a ∧ f a = .error e := by
  cases x <;> simp [bind, Except.bind]

theorem ok_bind (a : α) (f : α → Except ε β) : (Except.ok a >>= f) = f a := rfl

theorem throw_bind (e : ε) (f : α → Except ε β) : ((throw e : Except ε α) >>= f) = throw e := rfl

theorem throw_eq_error (e : ε) : (throw e : Except ε α) = .error e := rfl

theorem map_ok {x : Except ε α} {f : α → β} {b : β} : (f <$> x) = .ok b ↔ ∃ a, x = .ok a ∧ f a = b := by
  cases x <;> simp [Functor.map, Except.map]

theorem map_eq_bind (f : α → β) (x : Except ε α) : x.map f = x >>= fun a => pure (f a) := by
  cases x <;> rfl

theorem pure_eq_ok {a b : α} : ((pure a : Except ε α) = .ok b) ↔ a = b := by
  simp [pure, Except.pure]

theorem throw_ne_ok {e : ε} {a : α} : ((throw e : Except ε α) = .ok a) ↔ False := by
  simp [throw, throwThe, MonadExceptOf.throw]

theorem ite_throw_ok {c : Prop} [Decidable c] {e : ε} {x : Except ε α} {a : α} :
    ((if c then throw e else x) = .ok a) ↔ ¬ c ∧ x = .ok a := by
  by_cases h : c <;> simp [h, throw_ne_ok]

theorem ite_else_throw_ok {c : Prop} [Decidable c] {e : ε} {x : Except ε α} {a : α} :
    ((if c then x else throw e) = .ok a) ↔ c ∧ x = .ok a := by
  by_cases h : c <;> simp [h, throw_ne_ok]

/-- a statement `if c: raise e` in front of the continuation `k`, as `do` notation lays it out; `k` is a
    variable, so reading one statement backwards never unfolds the rest of the block -/
theorem guard_ok {c : Prop} [Decidable c] {e : ε} {k : Unit → Except ε α} {a : α}
    (h : (if c then throw e >>= k else k ()) = .ok a) : ¬ c ∧ k () = .ok a := by
  by_cases hc : c
  · rw [if_pos hc] at h; cases h
  · rw [if_neg hc] at h; exact ⟨hc, h⟩

theorem mapM_ok_cons {f : α → Except ε β} {a : α} {as : List α} {r : List β} :
    (a :: as).mapM f = .ok r ↔ ∃ b bs, f a = .ok b ∧ as.mapM f = .ok bs ∧ r = b :: bs := by
  rw [List.mapM_cons]
  constructor
  · intro h
    obtain ⟨b, hb, h⟩ := bind_ok.1 h
    obtain ⟨bs, hbs, h⟩ := bind_ok.1 h
    exact ⟨b, bs, hb, hbs, (pure_eq_ok.1 h).symm⟩
  · rintro ⟨b, bs, hb, hbs, rfl⟩
    rw [hb, hbs]
    rfl

theorem mapM_ok (f : α → Except ε β) : ∀ (l : List α) (r : List β), l.mapM f = .ok r →
    r.length = l.length ∧ ∀ (i : Nat) (h1 : i < l.length) (h2 : i < r.length), f l[i] = .ok r[i]
  | [], r, h => by
    rw [List.mapM_nil, pure_eq_ok] at h
    subst h
    exact ⟨rfl, fun i h1 => absurd h1 (Nat.not_lt_zero i)⟩
  | a :: as, r, h => by
    obtain ⟨b, bs, hb, hbs, rfl⟩ := mapM_ok_cons.1 h
    obtain ⟨hl, hi⟩ := mapM_ok f as bs hbs
    refine ⟨by rw [List.length_cons, List.length_cons, hl], fun i h1 h2 => ?_⟩
    cases i with
    | zero => exact hb
    | succ j => exact hi j (Nat.lt_of_succ_lt_succ h1) (Nat.lt_of_succ_lt_succ h2)

theorem mapM_map_ok.{u, v, w, x} {ε : Type u} {α : Type x} {β : Type w} {γ : Type v} (f : β → Except ε γ) (r : α → β)
    (g : α → γ) (l : List α) (h : ∀ a ∈ l, f (r a) = .ok (g a)) : (l.map r).mapM f = .ok (l.map g) := by
  induction l with
  | nil => rfl
  | cons a l ih =>
    rw [List.map_cons, List.mapM_cons, h a List.mem_cons_self, ih fun b hb => h b (List.mem_cons_of_mem _ hb)]
    rfl

theorem mapM_guard {γ : Type} (p : α → Bool) (g : α → γ) (e : ε) (l : List α) :
    l.mapM (fun x => if p x then (.ok (g x) : Except ε γ) else .error e)
      = if l.all p then .ok (l.map g) else .error e := by
  induction l with
  | nil => rfl
  | cons x xs ih =>
    rw [List.mapM_cons, ih, List.all_cons]
    cases p x
    · rfl
    · cases xs.all p <;> rfl

theorem mapM_all (f : α → Except ε β) (Q : β → Prop) : ∀ (l : List α),
    (∀ x ∈ l, ∃ y, f x = .ok y ∧ Q y) → ∃ ys, l.mapM f = .ok ys ∧ ∀ y ∈ ys, Q y
  | [], _ => ⟨[], rfl, fun _ h => nomatch h⟩
  | a :: l, hf => by
    obtain ⟨y, hy, hq⟩ := hf a List.mem_cons_self
    obtain ⟨ys, hys, hqs⟩ := mapM_all f Q l fun x hx => hf x (List.mem_cons_of_mem _ hx)
    refine ⟨y :: ys, mapM_ok_cons.2 ⟨y, ys, hy, hys, rfl⟩, fun z hz => ?_⟩
    rcases List.mem_cons.1 hz with rfl | hz
    · exact hq
    · exact hqs z hz

theorem mapM_err (f : α → Except ε β) : ∀ (l : List α) (e : ε), l.mapM f = .error e →
    ∃ a ∈ l, f a = .error e
  | [], e, h => by rw [List.mapM_nil] at h; cases h
  | a :: as, e, h => by
    rw [List.mapM_cons] at h
    rcases bind_err.1 h with h | ⟨b, _, h⟩
    · exact ⟨a, List.mem_cons_self .., h⟩
    · rcases bind_err.1 h with h | ⟨bs, _, h⟩
      · obtain ⟨s, hs, he⟩ := mapM_err f as e h
        exact ⟨s, List.mem_cons_of_mem _ hs, he⟩
      · cases h

/-- `P pre b` speaks of the state `b` reached after the elements `pre` -/
theorem foldlM_ok_inv {f : β → α → Except ε β} (P : List α → β → Prop) {r : β} :
    ∀ (l pre : List α) (b : β), P pre b →
      (∀ pre a b b', a ∈ l → P pre b → f b a = .ok b' → P (pre ++ [a]) b') →
      l.foldlM f b = .ok r → P (pre ++ l) r
  | [], pre, b, hb, _, h => by
    cases h; rwa [List.append_nil]
  | a :: t, pre, b, hb, step, h => by
    rw [List.foldlM_cons] at h
    obtain ⟨b', hb', h⟩ := bind_ok.1 h
    have := foldlM_ok_inv P t (pre ++ [a]) b' (step pre a b b' (List.mem_cons_self ..) hb hb')
      (fun pre x c c' hx => step pre x c c' (List.mem_cons_of_mem _ hx)) h
    rwa [List.append_assoc] at this

/-- a fold whose step runs `f` on the element and combines purely is `mapM f` followed by the pure fold -/
theorem foldlM_eq_mapM {γ : Type} (f : α → Except ε β) (g : γ → β → γ) (l : List α) (init : γ) :
    l.foldlM (fun acc a => f a >>= fun b => pure (g acc b)) init = (l.mapM f).map (List.foldl g init) := by
  induction l generalizing init with
  | nil => rfl
  | cons a t ih =>
    rw [List.foldlM_cons, List.mapM_cons]
    cases f a with
    | error e => rfl
    | ok b =>
      rw [ok_bind, ok_bind, pure_bind, ih]
      cases t.mapM f <;> rfl

theorem mapM_some_iff (f : α → Option β) : ∀ (l : List α) (r : List β),
    l.mapM f = some r ↔ l.map f = r.map some
  | [], r => by cases r <;> simp
  | a :: t, [] => by rw [List.mapM_cons]; cases f a <;> cases t.mapM f <;> simp
  | a :: t, b :: r => by
    rw [List.mapM_cons, List.map_cons, List.map_cons, List.cons.injEq, ← mapM_some_iff f t r]
    cases f a <;> cases t.mapM f <;> simp

theorem mapM_none_iff (f : α → Option β) : ∀ l : List α,
    l.mapM f = none ↔ ∃ a ∈ l, f a = none
  | [] => by simp
  | a :: t => by
    have ih := mapM_none_iff f t
    rw [List.mapM_cons]
    cases hfa : f a <;> cases ht : t.mapM f <;> simp [hfa, ht] at ih ⊢ <;> assumption

/-- `x` returns a value, or raises an error that satisfies `P` -/
def RaisesOnly (P : ε → Prop) (x : Except ε α) : Prop := ∀ e, x = .error e → P e

namespace RaisesOnly
variable {P Q : ε → Prop}

theorem ok (a : α) : RaisesOnly P (.ok a : Except ε α) := fun _ h => nomatch h

theorem error {e : ε} (h : P e) : RaisesOnly P (.error e : Except ε α) := fun _ h' => by cases h'; exact h

theorem of_ok {x : Except ε α} (h : ∃ a, x = .ok a) : RaisesOnly P x := by
  obtain ⟨a, rfl⟩ := h; exact ok a

theorem mono {x : Except ε α} (hx : RaisesOnly P x) (h : ∀ e, P e → Q e) : RaisesOnly Q x := fun e he => h e (hx e he)

theorem of_eq {x : Except ε α} {e₀ : ε} (hx : RaisesOnly (· = e₀) x) (h : P e₀) : RaisesOnly P x :=
  hx.mono fun _ he => he ▸ h

theorem cases {x : Except ε α} (hx : RaisesOnly P x) : (∃ a, x = .ok a) ∨ ∃ e, x = .error e ∧ P e := by
  cases x with
  | ok a => exact .inl ⟨a, rfl⟩
  | error e => exact .inr ⟨e, rfl, hx e rfl⟩

theorem ok_or_eq {x : Except ε α} {e₀ : ε} (hx : RaisesOnly (· = e₀) x) : (∃ a, x = .ok a) ∨ x = .error e₀ :=
  hx.cases.imp_right fun ⟨_, he, h⟩ => h ▸ he

theorem ite {c : Prop} [Decidable c] {x y : Except ε α} (hx : RaisesOnly P x) (hy : RaisesOnly P y) :
    RaisesOnly P (if c then x else y) := by
  split <;> assumption

theorem bind {x : Except ε α} {f : α → Except ε β} (hx : RaisesOnly P x) (hf : ∀ a, x = .ok a → RaisesOnly P (f a)) :
    RaisesOnly P (x >>= f) := by
  intro e h
  cases x with
  | error e' => cases h; exact hx _ rfl
  | ok a => exact hf a rfl e h

theorem map {x : Except ε α} (hx : RaisesOnly P x) (f : α → β) : RaisesOnly P (x.map f) := by
  cases x with
  | error e => exact error (hx e rfl)
  | ok a => exact ok _

theorem bind_eq_error {x : Except ε α} {f : α → Except ε β} {e : ε} (hx : RaisesOnly (· = e) x) (hf : ∀ a, f a = .error e) :
    x >>= f = .error e := by
  cases x with
  | error e' => rw [hx e' rfl]; rfl
  | ok a => exact hf a

theorem mapM {f : α → Except ε β} {l : List α} (hf : ∀ a ∈ l, RaisesOnly P (f a)) : RaisesOnly P (l.mapM f) := fun e h =>
  have ⟨a, ha, he⟩ := mapM_err f l e h
  hf a ha e he

theorem foldlM {f : β → α → Except ε β} {l : List α} (hf : ∀ b, ∀ a ∈ l, RaisesOnly P (f b a)) (b : β) :
    RaisesOnly P (l.foldlM f b) := by
  induction l generalizing b with
  | nil => exact ok _
  | cons a l ih =>
    rw [List.foldlM_cons]
    exact bind (hf b a List.mem_cons_self) fun b' _ => ih (fun b a' h => hf b a' (List.mem_cons_of_mem _ h)) b'

end RaisesOnly

end Proofs.Except
