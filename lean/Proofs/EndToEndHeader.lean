/-
  The reference reader's `readHeader` on a matrix whose format / version cells hold the expected words.
-/
import Spec.Decode
import Model.Encoder
import Proofs.EndToEndMatrix
import Proofs.EndToEndBlocks

namespace Proofs.EndToEnd
open Model

theorem readWord_eq (m : Matrix) (pos : Nat → Nat × Nat) (x w : Nat) (hx : x < 2 ^ w)
    (h : ∀ k, k < w → Spec.cell m (pos k).1 (pos k).2 = (x >>> k) % 2) : Spec.readWord m pos w = x := by
  have : ∀ w, (∀ k, k < w → Spec.cell m (pos k).1 (pos k).2 = (x >>> k) % 2) →
      Spec.readWord m pos w = x % 2 ^ w := by
    intro w
    unfold Spec.readWord
    induction w with
    | zero => intro _; simp [Nat.mod_one]
    | succ n ih =>
      intro h
      rw [List.range_succ, List.foldl_append, ih (fun k hk => h k (by omega))]
      simp only [List.foldl_cons, List.foldl_nil]
      rw [h n (by omega), Nat.mod_pow_succ, Nat.shiftRight_eq_div_pow, Nat.mul_comm]
  rw [this w h, Nat.mod_eq_of_lt hx]

theorem bch_table : (List.range 32).all (fun k => Spec.bch15 k >>> 10 == k && decide (Spec.bch15 k ^^^ 0x5412 < 2 ^ 15)
      && decide (Spec.bch15 k ^^^ 0x4445 < 2 ^ 15)) = true := by
  decide +kernel

theorem golay_table : (List.range 41).all (fun k => decide (Spec.golay18 k < 2 ^ 18)) = true := by
  decide +kernel

theorem readHeader_qr (m : Matrix) (ver e mk w : Nat) 
    (hall1 : m.all (fun r => r.size == m.size) = true)
    (hall2 : m.all (fun r => r.all (fun x => decide (x ≤ 1))) = true)
    (hn : ¬ m.size < 21) (hn2 : (m.size - 17) % 4 = 0) (hn3 : ¬ m.size > 177) (hver : (m.size - 17) / 4 = ver)
    (hw1 : Spec.readWord m Spec.fmtPos1 15 = w) (hw2 : Spec.readWord m (Spec.fmtPos2 m.size) 15 = w)
    (hdark : Spec.cell m (m.size - 8) 8 = 1)
    (hbch : Spec.bch15 ((w ^^^ 0x5412) >>> 10) = w ^^^ 0x5412)
    (hlvl : (w ^^^ 0x5412) >>> 10 >>> 3 = e) (hmask : ((w ^^^ 0x5412) >>> 10) % 8 = mk)
    (hv : ver ≥ 7 → Spec.readWord m (Spec.verPos1 m.size) 18 = Spec.golay18 ver ∧ Spec.readWord m (Spec.verPos2 m.size) 18 = Spec.golay18 ver) :
    Spec.readHeader m = .ok { version := (ver : Int), level := (e : Int), mask := mk } := by
  -- each early exit of `readHeader` is followed by a join point; inlining them doubles the term at every
  -- exit, so the checks whose arguments are at hand are decided first, with the join points kept (`-zeta`)
  unfold Spec.readHeader
  extract_lets +onlyGivenNames n
  simp -zeta only [n, hall1, hall2, hn, hn2, hn3, hver, hw1, hw2, hdark, Bool.not_true, Bool.false_eq_true, if_false,
    bne_self_eq_false, Bool.or_self, decide_false]
  simp only [hbch, hlvl, hmask, bind, Except.bind, pure, Except.pure, Bool.false_eq_true, if_false,
    bne_self_eq_false]
  split
  · next h7 =>
    obtain ⟨a, b⟩ := hv h7
    simp only [a, b, bne_self_eq_false, Bool.false_eq_true, if_false]
  · rfl

theorem readHeader_micro (m : Matrix) (v lvl : Int) (mk w : Nat) 
    (hall1 : m.all (fun r => r.size == m.size) = true)
    (hall2 : m.all (fun r => r.all (fun x => decide (x ≤ 1))) = true)
    (hn : m.size < 21) (hn2 : (m.size == 11 || m.size == 13 || m.size == 15 || m.size == 17) = true)
    (hw1 : Spec.readWord m Spec.fmtPosMicro 15 = w)
    (hbch : Spec.bch15 ((w ^^^ 0x4445) >>> 10) = w ^^^ 0x4445)
    (hsym : Spec.microSymbol ((w ^^^ 0x4445) >>> 10 >>> 2) = (v, lvl)) (hsize : Spec.size v = m.size)
    (hmask : ((w ^^^ 0x4445) >>> 10) % 4 = mk) :
    Spec.readHeader m = .ok { version := v, level := lvl, mask := mk } := by
  unfold Spec.readHeader
  extract_lets +onlyGivenNames n
  simp -zeta only [n, hall1, hall2, hn, hn2, Bool.not_true, Bool.false_eq_true, if_false, if_true]
  simp only [hw1, hbch, hsym, hsize, hmask, bind, Except.bind, pure, Except.pure,
    Bool.false_eq_true, if_false, bne_self_eq_false]

theorem all_square (m : Matrix) (n : Nat) (hs : Proofs.Placement.Sq m n) :
    m.all (fun r => r.size == m.size) = true := by
  rw [Array.all_eq_true]
  intro i hi
  have := hs.2 i (by rw [← hs.1]; exact hi)
  simp only [Array.getD_eq_getD_getElem?, Array.getElem?_eq_getElem hi, Option.getD_some] at this
  simp [this, hs.1]

theorem all_binary (m : Matrix) (n : Nat) (hs : Proofs.Placement.Sq m n)
    (hb : ∀ a b, a < n → b < n → get2 m a b ≤ 1) :
    m.all (fun r => r.all (fun x => decide (x ≤ 1))) = true := by
  rw [Array.all_eq_true]
  intro i hi
  rw [Array.all_eq_true]
  intro j hj
  have hin : i < n := by rw [← hs.1]; exact hi
  have hrow := hs.2 i hin
  simp only [Array.getD_eq_getD_getElem?, Array.getElem?_eq_getElem hi, Option.getD_some] at hrow
  have := hb i j hin (by rw [← hrow]; exact hj)
  unfold get2 at this
  simp only [Array.getD_eq_getD_getElem?, Array.getElem?_eq_getElem hi, Option.getD_some,
    Array.getElem?_eq_getElem hj] at this
  simpa using this

end Proofs.EndToEnd
