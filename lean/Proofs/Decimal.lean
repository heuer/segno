/-
  Proofs.Decimal — decimal numbers written and read back: every printer of the model is core's `Nat.toDigits 10`, every reader of
  the specifications is core's `Nat.ofDigitChars 10` (the left fold `a * 10 + (c - 48)`); the round trip is core's
  `Nat.ofDigitChars_ten_toDigits`.
-/
namespace Proofs.Decimal

theorem foldl_eq (l : List Char) (init : Nat) :
    l.foldl (fun a c => a * 10 + (c.toNat - 48)) init = Nat.ofDigitChars 10 l init := by
  unfold Nat.ofDigitChars
  congr 1
  funext a c
  rw [Nat.mul_comm]; rfl

theorem foldl_toDigits (n : Nat) : (Nat.toDigits 10 n).foldl (fun a c => a * 10 + (c.toNat - 48)) 0 = n := by
  rw [foldl_eq]; exact Nat.ofDigitChars_ten_toDigits

theorem isDigit_toDigits (n : Nat) : ∀ c ∈ Nat.toDigits 10 n, c.isDigit = true :=
  fun _ hc => Nat.isDigit_of_mem_toDigits (by decide) (by decide) hc

end Proofs.Decimal
