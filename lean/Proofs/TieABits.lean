/-
  Proofs.TieABits — the nested look-up `consts.CHAR_COUNT_INDICATOR_LENGTH[mode][ver_range]` of the translated code
  against `Model.cciLen` (used by the ties of `calc_qrcode_bit_length` and `bit_length_with_overhead`).
-/
import Proofs.TieA

namespace Proofs.TieA
open Gen.Py

theorem cci_same : sameTable Gen.Funcs.T_consts_CHAR_COUNT_INDICATOR_LENGTH Gen.CHAR_COUNT_INDICATOR_LENGTH
    (fun m : Nat => (m : Int)) id Int.ofNat = true := by decide

theorem cci_lookup (mode : Nat) (vr : Int) :
    Gen.Py.bind (lookup Gen.Funcs.T_consts_CHAR_COUNT_INDICATOR_LENGTH (mode : Int)) (fun t => lookup t vr)
      = ofOption .keyError ((Model.cciLen mode vr).map Int.ofNat) :=
  nested_of_sameTable cci_same (fun _ _ h => Int.ofNat.inj h) (fun _ _ h => h) mode vr

theorem ite_ok_add {c : Prop} [Decidable c] (a x y : Int) :
    (if c then (Except.ok (a + x) : M Int) else .ok (a + y)) = .ok (a + if c then x else y) := by
  split <;> rfl

end Proofs.TieA
