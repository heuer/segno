/-
  All layers composed: what the reference reader finds in the symbol `_encode` returns, read off the stages
  (`Proofs.Sequence.Tail`) for any data bit stream that fits, and for an accepted input of `Model.encode` the
  stream that parses back to the content.  The former are declared in the namespace of the record, `Proofs.Sequence.Tail`
  (for `t : Tail …` they read `t.take`, `t.read`, …), the latter in `Proofs.EndToEnd`.
-/
import Spec.Decode
import Model.Encoder
import Props.C03Message
import Props.C01Placement
import Props.C01Stream
import Props.C13
import Proofs.EndToEndFinal

namespace Proofs.Sequence.Tail
open Model Proofs.EndToEnd

variable {buff : List Nat} {e : Option Nat} {v : Int} {mask : Option Nat} {c : Code} (t : Tail buff e v mask c)

theorem take (hfit : buff.length ≤ t.cap) :
    t.stream.take t.cap = buff ++ Spec.d1Tail v t.cap buff.length ∧ t.cap ≤ t.stream.length :=
  Props.C13.stream_layout_d1 v t.cap buff t.stream t.range.1 t.range.2 ⟨e, t.hcap⟩ hfit t.hstream

theorem final_bin : ∀ b ∈ t.final, b ≤ 1 := Bin_final v e t.stream t.final t.hfinal

theorem final_length (hfit : buff.length ≤ t.cap) : t.final.length = (Spec.dataCoords v).length := by
  obtain ⟨h1, h2⟩ := t.range
  obtain ⟨ecc, hecc⟩ := Proofs.Message.ecc_of_ok _ _ _ _ t.hfinal
  have hl1 := Props.C03.final_message_length v e t.cap t.stream t.final h1 h2 t.hcap (t.take hfit).2 t.hfinal ecc hecc
  have hl2 := Props.C01.data_cell_count v (lvlKey e) ecc h1 h2 hecc
  generalize (if Spec.fourBitFinal v = true then 4 else 0) = z at hl1 hl2
  omega

theorem read (hfit : buff.length ≤ t.cap) : Spec.readDataBits v c.mask c.matrix = t.final :=
  chain_data _ _ _ _ _ _ t.chain t.range.1 t.range.2 t.final_bin (t.final_length hfit)

theorem header (hfit : buff.length ≤ t.cap) :
    Spec.readHeader c.matrix = .ok { version := v, level := lvlKey e, mask := c.mask } :=
  chain_header _ _ _ _ _ _ t.chain t.range.1 t.range.2 t.final_bin (t.final_length hfit) t.cap t.hcap

theorem fn (hfit : buff.length ≤ t.cap) : Spec.functionPatternsOk v c.matrix = none :=
  chain_fn _ _ _ _ _ _ t.chain t.range.1 t.range.2 t.final_bin (t.final_length hfit) t.cap t.hcap

theorem blocks (hb : Bin buff) (hfit : buff.length ≤ t.cap) :
    ∃ b, Spec.splitBlocks v (lvlKey e) t.final = .ok b ∧ Spec.badBlocks b = 0
      ∧ Spec.allZero b.remainder = true ∧ Spec.dataStream v b = t.stream.take t.cap := by
  obtain ⟨h1, h2⟩ := t.range
  refine Props.C03.final_message_blocks_valid_partial v e t.cap t.stream t.final h1 h2 t.hcap (t.take hfit).2
    (Bin_finish buff t.stream v t.cap h1 h2 hb t.hstream) (fun hf b hb' => ?_) t.hfinal
  -- M1/M3: the stream has exactly `cap` bits, so nothing follows the final half codeword
  have := Props.C03.m13_stream_has_capacity_length v e t.cap _ _ t.hcap hfit hf t.hstream
  rw [List.drop_of_length_le (by omega)] at hb'
  simp at hb'

end Proofs.Sequence.Tail

namespace Proofs.EndToEnd
open Model Proofs.Sequence

theorem run_bin {parts : List Part} {segs : List Segment} {v : Int} {mask : Option Nat} {eci : Bool}
    {f : String → Option Nat} {c : Code} (r : Run segs v mask eci f none c)
    (hp : ∀ p ∈ parts, (∀ b ∈ p.data, b < 256) ∧ p.data ≠ [] ∧ p.mode ∈ [none, some 1, some 2, some 4, some 8, some 13])
    (hprep : prepareData parts = .ok segs) : Bin r.segBits.flatten :=
  Bin_written_all v eci f r.tail.range.1 r.tail.range.2 segs r.segBits (Bin_segs parts segs hp hprep) r.hw

theorem stream_parses {parts : List Part} {segs : List Segment} {v : Int} {mask : Option Nat} {eci : Bool}
    {f : String → Option Nat} {c : Code} (r : Run segs v mask eci f none c)
    (hp : ∀ p ∈ parts, (∀ b ∈ p.data, b < 256) ∧ p.data ≠ [] ∧ p.mode ∈ [none, some 1, some 2, some 4, some 8, some 13])
    (hprep : prepareData parts = .ok segs) (hev : eci = true → 1 ≤ v)
    (hfit : r.segBits.flatten.length ≤ r.tail.cap) (hf : ∀ enc n, f enc = some n → n < 128) :
    ∃ p, Spec.parseStream v (r.tail.stream.take r.tail.cap) = .ok p ∧ p.sa = none
      ∧ (p.segments.map (·.bytes)).flatten = (parts.map (·.data)).flatten
      ∧ (eci = false → ∀ s ∈ p.segments, s.eci = none)
      ∧ (r.tail.stream.take r.tail.cap).drop p.endPos = Spec.d1Tail v r.tail.cap p.endPos := by
  obtain ⟨h1, h2⟩ := r.tail.range
  have htake : r.tail.stream.take r.tail.cap = r.segBits.flatten ++ Spec.d1Tail v r.tail.cap r.segBits.flatten.length :=
    (r.tail.take hfit).1
  rw [htake]
  obtain ⟨ps, hsegs, hflat, hok⟩ := prepareData_pairs parts segs hp hprep
  have hwf := Proofs.Sizing.prepareData_wf parts segs (fun p hp' => (hp p hp').2.2) hprep
  have hcount := count_fits segs v eci c.error _ r.tail.cap h1 h2 hwf (written_bitLength v eci f none segs r.segBits r.hw)
    r.tail.hcap hfit
  have hparse := Props.C01.stream_roundtrip_list_d1 ps v r.tail.cap eci f r.segBits h1 h2 ⟨c.error, r.tail.hcap⟩ hev
    (fun x hx => ⟨(hok x hx).1, (hok x hx).2.1⟩)
    (fun x hx => by
      obtain ⟨-, -, hm, enc, hk⟩ := hok x hx
      exact ⟨some x.2.mode, enc, some_mode_mem _ hm, hk⟩)
    (hsegs ▸ r.hw) hfit
    (fun x hx w hw => hcount x.2 (by rw [hsegs]; exact List.mem_map_of_mem hx) w hw)
    (fun x hx n hn => by
      unfold Props.C01.eciDesignator at hn
      split at hn
      · exact hf _ n hn
      · cases hn)
  refine ⟨_, hparse, rfl, ?_, ?_, ?_⟩
  · rw [← hflat]
    simp only [List.map_map]
    rfl
  · intro he s hs
    simp only [List.mem_map] at hs
    obtain ⟨x, hx, rfl⟩ := hs
    subst he
    rfl
  · simp

theorem decode_eq (m : Spec.Matrix) (hdr : Spec.Header) (b : Spec.Blocks)
    (hh : Spec.readHeader m = .ok hdr)
    (hs : Spec.splitBlocks hdr.version hdr.level (Spec.readDataBits hdr.version hdr.mask m) = .ok b) :
    Spec.decode m = .ok {
      header := hdr, fnBad := Spec.functionPatternsOk hdr.version m, blocks := b,
      badBlocks := Spec.badBlocks b, stream := Spec.dataStream hdr.version b,
      parsed := Spec.parseStream hdr.version (Spec.dataStream hdr.version b) } := by
  unfold Spec.decode
  simp only [hh, hs, bind, Except.bind, pure, Except.pure]

theorem _root_.Proofs.Sequence.Tail.decodes {buff : List Nat} {e : Option Nat} {v : Int} {mask : Option Nat} {c : Code}
    (t : Tail buff e v mask c) (hb : Bin buff) (hfit : buff.length ≤ t.cap) :
    ∃ d, Spec.decode c.matrix = .ok d
      ∧ d.header = { version := v, level := lvlKey e, mask := c.mask }
      ∧ d.fnBad = none ∧ d.badBlocks = 0 ∧ Spec.allZero d.blocks.remainder = true
      ∧ d.stream = t.stream.take t.cap ∧ d.parsed = Spec.parseStream v d.stream := by
  obtain ⟨b, hsplit, hbad, hrem, hds⟩ := t.blocks hb hfit
  exact ⟨_, decode_eq c.matrix _ b (t.header hfit) (by rw [t.read hfit]; exact hsplit), rfl, t.fn hfit, hbad, hrem, hds, rfl⟩

end Proofs.EndToEnd
