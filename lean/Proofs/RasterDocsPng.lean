/-
  The chunk framing of the PNG file the model writes (`Model.RasterDocs.pngFile`): the
  list-level chunk walk of Spec/RasterL.lean (`Spec.L.pngChunks`: lengths, chunk names, CRC-32 of every chunk)
  undoes the framing of any list of chunks with four-letter names and 32-bit lengths (`pngChunks_frames`); the file is
  the signature and `fileChunks`, framed, so the walk accepts it and returns exactly the chunks written, in order.
-/
import Proofs.RasterDocsBase

namespace Proofs.RasterDocs

open Model Model.RasterDocs Spec

theorem crcByte_eq (c : UInt32) (b : Nat) : crc32Step c (UInt8.ofNat b) = crcByte c b := by
  have hb : ∀ x : UInt32, (if x &&& 1 = 1 then x >>> 1 ^^^ 3988292384 else x >>> 1) = crcBit x := by
    intro x; simp [crcBit]
  unfold crc32Step
  simp [Id.run]
  show List.foldl (fun (b : UInt32) (_ : Nat) => if b &&& 1 = 1 then b >>> 1 ^^^ 3988292384 else b >>> 1)
    (c ^^^ (UInt8.ofNat b).toUInt32) (List.range' 0 8) = _
  simp only [List.range', List.foldl, hb]
  rfl

theorem crc32_eq_model (bs : List Nat) : L.crc32 bs = Model.RasterDocs.crc32 bs := by
  have : (fun (c : UInt32) (b : Nat) => crc32Step c (UInt8.ofNat b)) = crcByte := by funext c b; exact crcByte_eq c b
  unfold L.crc32 Model.RasterDocs.crc32
  rw [this]

theorem crc_lt (bs : List Nat) : Model.RasterDocs.crc32 bs < 4294967296 := by
  unfold Model.RasterDocs.crc32
  exact UInt32.toNat_lt _

theorem be32_read (n : Nat) (h : n < 4294967296) (rest : List Nat) : L.be32 (be32 n ++ rest) = n := by
  simp only [L.be32, RasterDocs.be32, List.cons_append, List.nil_append, List.getD_cons_zero, List.getD_cons_succ]
  omega

theorem be32_length (n : Nat) : (be32 n).length = 4 := rfl

theorem pngChunks_fuel : ∀ (fuel : Nat) (bs : List Nat), bs.length ≤ 12 * fuel → L.pngChunks fuel bs = L.pngChunks (fuel + 1) bs := by
  intro fuel
  induction fuel with
  | zero =>
    intro bs h
    have : bs = [] := by cases bs with
      | nil => rfl
      | cons a l => simp at h
    subst this
    rfl
  | succ n ih =>
    intro bs h
    cases bs with
    | nil => rfl
    | cons a l =>
      simp only [L.pngChunks]
      split
      · rfl
      · split
        · rfl
        · split
          · rfl
          · split
            · rfl
            · rename_i h12 hlen _ _
              rw [ih]
              simp only [List.length_drop]
              simp only [List.length_cons, Nat.not_lt, gt_iff_lt] at h h12 hlen ⊢
              omega

theorem pngChunks_fuel_le (fuel k : Nat) (bs : List Nat) (h : bs.length ≤ 12 * fuel) : L.pngChunks (fuel + k) bs = L.pngChunks fuel bs := by
  induction k with
  | zero => rfl
  | succ k ih =>
    rw [← ih, ← Nat.add_assoc, ← pngChunks_fuel (fuel + k) bs (by omega)]

/-- a chunk as it stands in the file: length, name, data, CRC-32 of name and data (`Model.RasterDocs.chunk`, the name in bytes) -/
def frame (c : L.ChunkL) : List Nat :=
  be32 c.data.length ++ c.name ++ c.data ++ be32 (Model.RasterDocs.crc32 (c.name ++ c.data))

/-- what the chunk walk asks of a chunk: a name of four ASCII letters, a length of 32 bits -/
def Framed (c : L.ChunkL) : Prop := (c.name.length = 4 ∧ c.name.all L.isAlphaByte = true) ∧ c.data.length < 4294967296

theorem pngChunks_frame (c : L.ChunkL) (hc : Framed c) (rest : List Nat) (fuel : Nat) :
    L.pngChunks (fuel + 1) (frame c ++ rest) =
      (match L.pngChunks fuel rest with
       | .error e => .error e
       | .ok l => .ok (c :: l)) := by
  obtain ⟨nm, data⟩ := c
  obtain ⟨⟨hn4, halpha⟩, hlen⟩ := hc
  simp only at hn4 halpha hlen
  unfold frame
  simp only
  generalize hcrc : Model.RasterDocs.crc32 (nm ++ data) = crc
  have hcrc_lt : crc < 4294967296 := by rw [← hcrc]; exact crc_lt _
  -- the byte string, bracketed so that every prefix the reader cuts off is visible
  have e1 : be32 data.length ++ nm ++ data ++ be32 crc ++ rest = be32 data.length ++ (nm ++ (data ++ (be32 crc ++ rest))) := by
    simp only [List.append_assoc]
  have e2 : be32 data.length ++ nm ++ data ++ be32 crc ++ rest = (be32 data.length ++ nm) ++ (data ++ (be32 crc ++ rest)) := by
    simp only [List.append_assoc]
  have e3 : be32 data.length ++ nm ++ data ++ be32 crc ++ rest = (be32 data.length ++ nm ++ data) ++ (be32 crc ++ rest) := by
    simp only [List.append_assoc]
  have e4 : be32 data.length ++ nm ++ data ++ be32 crc ++ rest = (be32 data.length ++ nm ++ data ++ be32 crc) ++ rest := by
    simp only [List.append_assoc]
  have hbe : L.be32 (be32 data.length ++ nm ++ data ++ be32 crc ++ rest) = data.length := by
    rw [e1]; exact be32_read _ hlen _
  have hname : ((be32 data.length ++ nm ++ data ++ be32 crc ++ rest).drop 4).take 4 = nm := by
    rw [e1, List.drop_left' (be32_length _), List.take_left' hn4]
  have hdata : ((be32 data.length ++ nm ++ data ++ be32 crc ++ rest).drop 8).take data.length = data := by
    rw [e2, List.drop_left' (by simp [be32_length, hn4]), List.take_left' rfl]
  have hcrcRead : L.be32 ((be32 data.length ++ nm ++ data ++ be32 crc ++ rest).drop (8 + data.length)) = crc := by
    rw [e3, List.drop_left' (by simp [be32_length, hn4]; omega)]
    exact be32_read _ hcrc_lt _
  have hdrop : (be32 data.length ++ nm ++ data ++ be32 crc ++ rest).drop (12 + data.length) = rest := by
    rw [e4, List.drop_left' (by simp [be32_length, hn4]; omega)]
  have hlenbs : (be32 data.length ++ nm ++ data ++ be32 crc ++ rest).length = 12 + data.length + rest.length := by
    simp only [List.length_append, be32_length, hn4]; omega
  obtain ⟨x, xs, hx⟩ : ∃ x xs, be32 data.length ++ nm ++ data ++ be32 crc ++ rest = x :: xs := ⟨_, _, by simp only [RasterDocs.be32, List.cons_append]; rfl⟩
  rw [hx] at hbe hname hdata hcrcRead hdrop hlenbs ⊢
  simp only [L.pngChunks, hlenbs, hbe, hname, hdata, hcrcRead, hdrop, halpha, crc32_eq_model, hcrc]
  have c1 : ¬ (12 + data.length + rest.length < 12) := by omega
  have c2 : ¬ (12 + data.length > 12 + data.length + rest.length) := by omega
  simp only [c1, c2, if_false, Bool.not_true, Bool.false_eq_true, bne_self_eq_false]
  cases L.pngChunks fuel rest <;> rfl

/-- for ANY list of chunks; one unit of fuel per chunk is enough for the reader, which hands in the length of the file
    (`frames_length`) -/
theorem pngChunks_frames : ∀ (cs : List L.ChunkL), (∀ c ∈ cs, Framed c) → ∀ fuel, cs.length ≤ fuel →
    L.pngChunks fuel (cs.flatMap frame) = .ok cs
  | [], _, fuel, _ => by cases fuel <;> rfl
  | c :: cs, h, fuel + 1, hf => by
    rw [List.flatMap_cons, pngChunks_frame c (h c (by simp)),
      pngChunks_frames cs (fun x hx => h x (by simp [hx])) fuel (by simpa using hf)]

theorem frames_length (cs : List L.ChunkL) : cs.length ≤ (cs.flatMap frame).length := by
  induction cs with
  | nil => exact Nat.le_refl _
  | cons c cs ih => simp only [List.flatMap_cons, List.length_append, List.length_cons, frame, be32_length]; omega

/-- the chunks of the file the model writes -/
def fileChunks (o : PngOut) (ppm : Nat) (comp : List Nat) : List L.ChunkL :=
  { name := L.nIHDR, data := be32 o.width ++ be32 o.height ++ [o.depth, o.ctype, 0, 0, 0] }
    :: ((if ppm != 0 then [{ name := L.npHYs, data := be32 ppm ++ be32 ppm ++ [1] }] else [])
        ++ ((if o.ctype != 0 then [{ name := L.nPLTE, data := o.plte }] else [])
            ++ ((if !o.trns.isEmpty then [{ name := L.ntRNS, data := o.trns }] else [])
                ++ [{ name := L.nIDAT, data := comp }, { name := L.nIEND, data := [] }])))

theorem pngFile_eq (o : PngOut) (ppm : Nat) (comp : List Nat) :
    pngFile o ppm comp = pngSignature ++ (fileChunks o ppm comp).flatMap frame := by
  have opt : ∀ (c : Bool) (ch : L.ChunkL), (if c then [ch] else []).flatMap frame = if c then frame ch else [] := by
    intro c ch; cases c <;> simp
  unfold pngFile fileChunks
  simp only [List.flatMap_cons, List.flatMap_append, opt, List.flatMap_nil, List.append_nil, List.append_assoc]
  -- chunk by chunk `chunk "NAME" data` is `frame ⟨name in bytes, data⟩`
  rfl

theorem fileChunks_framed (o : PngOut) (ppm : Nat) (comp : List Nat)
    (hplte : o.plte.length < 4294967296) (htrns : o.trns.length < 4294967296) (hcomp : comp.length < 4294967296) :
    ∀ c ∈ fileChunks o ppm comp, Framed c := by
  have opt : ∀ (b : Bool) (c : L.ChunkL), Framed c → ∀ x ∈ (if b then [c] else []), Framed x := by
    intro b c hc x hx; cases b <;> simp at hx; exact hx ▸ hc
  unfold fileChunks
  simp only [List.forall_mem_cons, List.forall_mem_append]
  exact ⟨⟨⟨rfl, rfl⟩, by simp [be32_length]⟩, opt _ _ ⟨⟨rfl, rfl⟩, by simp [be32_length]⟩, opt _ _ ⟨⟨rfl, rfl⟩, hplte⟩,
    opt _ _ ⟨⟨rfl, rfl⟩, htrns⟩, ⟨⟨rfl, rfl⟩, hcomp⟩, ⟨⟨rfl, rfl⟩, by decide⟩, by simp⟩

theorem png_file_chunks (o : PngOut) (ppm : Nat) (comp : List Nat)
    (hplte : o.plte.length < 4294967296) (htrns : o.trns.length < 4294967296) (hcomp : comp.length < 4294967296) :
    (pngFile o ppm comp).take 8 = [137, 80, 78, 71, 13, 10, 26, 10]
    ∧ L.pngChunks (pngFile o ppm comp).length ((pngFile o ppm comp).drop 8) = .ok (fileChunks o ppm comp) := by
  rw [pngFile_eq]
  refine ⟨rfl, ?_⟩
  rw [show ∀ X : List Nat, (pngSignature ++ X).drop 8 = X from fun _ => rfl]
  exact pngChunks_frames _ (fileChunks_framed o ppm comp hplte htrns hcomp) _
    (by rw [List.length_append]; exact Nat.le_trans (frames_length _) (Nat.le_add_left _ _))

end Proofs.RasterDocs
