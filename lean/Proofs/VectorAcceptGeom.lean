/-
  C10, geometry: a run stroked with half width s/2 under a transform of scale s is a
  rectangle whose edges, divided by s, are lines of the module grid, where the judge's `snap` finds them
  (exact `Rat` arithmetic, s > 0).
-/
import Proofs.VectorAcceptPath
import Proofs.Except

namespace Proofs.VectorAccept
open Spec.Vector Model.Lines

theorem mapM_ok {ε α β} (f : α → Except ε β) (g : α → β) (l : List α) (h : ∀ a ∈ l, f a = .ok (g a)) :
    l.mapM f = .ok (l.map g) := by
  simpa using Proofs.Except.mapM_map_ok f id g l h

theorem filterMapM_map_ok {ε α β γ} (f : β → Except ε (Option γ)) (r : α → β) (g : α → Option γ) (l : List α)
    (h : ∀ a ∈ l, f (r a) = .ok (g a)) : (l.map r).filterMapM f = .ok (l.filterMap g) := by
  induction l with
  | nil => rfl
  | cons a l ih =>
    rw [List.map_cons, List.filterMapM_cons, h a (by simp), ih (fun a ha => h a (by simp [ha]))]
    cases hg : g a <;> simp [hg] <;> rfl

theorem minQ_of_le {a b : Rat} (h : a ≤ b) : minQ a b = a := by
  unfold minQ; split
  · rename_i h'; exact absurd h (Rat.not_le.mpr h')
  · rfl

theorem maxQ_of_le {a b : Rat} (h : a ≤ b) : maxQ a b = b := by
  unfold maxQ; split
  · rfl
  · rename_i h'; exact Rat.le_antisymm h (Rat.not_lt.mp h')

theorem roundQ_int (k : Int) : roundQ (k : Rat) = k := by
  unfold roundQ
  rw [Rat.add_comm, Rat.floor_add_intCast]
  have : (mkRat 1 2).floor = 0 := by decide +kernel
  omega

theorem snap_int {tol : Rat} (ht : 0 ≤ tol) (k : Int) : snap tol (k : Rat) = some k := by
  unfold snap
  simp only [roundQ_int, Rat.sub_self]
  have : absQ 0 = 0 := by decide +kernel
  simp [this, ht]

theorem snap_scaled (s : Rat) (hs : s ≠ 0) (k : Int) : snap 0 ((s * (k : Rat)) / s) = some k := by
  have : (s * (k : Rat)) / s = (k : Rat) := by grind
  rw [this, snap_int (Rat.le_refl)]

/-- the subpath of one run `(x1, 2·y, x2)` under the transform `c` -/
def subC (c : Xf) (t : Nat × Int × Nat) : Sub :=
  { pts := [c.app (((t.1 : Int) : Rat), half t.2.1), c.app (((t.2.2 : Int) : Rat), half t.2.1)], closed := false }

theorem subsOf_toInt (c : Xf) (l : List (Nat × Int × Nat)) : subsOf c (toInt l) = l.map (subC c) := by
  simp [subsOf, toInt, subC]

/-- the device rectangle of a run stroked with half width `hw` under the transform `c` -/
def rectC (c : Xf) (hw : Rat) (t : Nat × Int × Nat) : Rect :=
  mkRect (c.sx * ((t.1 : Int) : Rat) + c.tx) (c.sx * ((t.2.2 : Int) : Rat) + c.tx)
    (c.sy * half t.2.1 + c.ty - hw) (c.sy * half t.2.1 + c.ty + hw)

theorem strokeRects_subC (c : Xf) (hw : Rat) (lines : List (Nat × Int × Nat)) :
    strokeRects hw (lines.map (subC c)) = .ok (lines.map (rectC c hw)) := by
  unfold strokeRects
  apply Proofs.Except.mapM_map_ok
  intro t _
  simp [subC, rectC, Xf.app]

/-- the edges of `r`, measured from `top` (downwards; `yUp`: device y grows upwards) in units of `s`, are the grid lines
    around row `I` from column `J0` to column `J1`: what `gridSegs` asks of a stroked rectangle -/
def OnGrid (s : Rat) (yUp : Bool) (top : Rat) (r : Rect) (I J0 J1 : Int) : Prop :=
  (if yUp then top - r.y1 else r.y0 - top) / s = (I : Rat)
  ∧ (if yUp then top - r.y0 else r.y1 - top) / s = ((I + 1 : Int) : Rat)
  ∧ r.x0 / s = (J0 : Rat)
  ∧ r.x1 / s = (J1 : Rat)

theorem rect_grid (yUp : Bool) (s : Rat) (hs : 0 < s) (xa xb yc hw top : Rat) (J0 J1 I : Int) (hJ : J0 ≤ J1)
    (hxa : xa = s * (J0 : Rat)) (hxb : xb = s * (J1 : Rat)) (hhw : hw = s / 2)
    (hyc : yc = if yUp then top - s * ((I : Rat) + 1 / 2) else top + s * ((I : Rat) + 1 / 2)) :
    OnGrid s yUp top (mkRect xa xb (yc - hw) (yc + hw)) I J0 J1 := by
  have hs0 : s ≠ 0 := by grind
  have hx : xa ≤ xb := by
    rw [hxa, hxb]
    exact Rat.mul_le_mul_of_nonneg_left (Rat.intCast_le_intCast.mpr hJ) (Rat.le_of_lt hs)
  have hy : yc - hw ≤ yc + hw := by rw [hhw]; grind
  unfold OnGrid mkRect
  simp only [minQ_of_le hx, maxQ_of_le hx, minQ_of_le hy, maxQ_of_le hy]
  subst hxa hxb hhw hyc
  rw [Rat.intCast_add]
  cases yUp <;> exact ⟨by grind, by grind, by grind, by grind⟩

end Proofs.VectorAccept
