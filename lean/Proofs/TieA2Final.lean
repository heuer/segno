/-
  Proofs.TieA2Final — `make_final_message(version, error, buff)` and its nested function `to_binary` (translated,
  Gen/Funcs2.lean) against `Model.makeFinalMessage` / `Model.appendBits`, for EVERY version number, every error level
  (or `None`) and every 0/1 stream.

  `to_binary(val, length)` = `appendBits` (most significant bit first).
  `chain(*map(to_binary, (x for x in chain.from_iterable(zip_longest(*blocks)) if x is not None)))` is the model's
  `interleave` followed by `appendBits · 8` (`fm_ilv`).
  `consts.ECC[version][error]` (nested dicts) against `Model.eccInfo` (flat table) inside and outside the tables
  (`ecc_lookup`); every EC information of the table has num_blocks ≥ 1 and num_data ≤ num_total.
  The whole function: the look-up, `make_blocks_eq` of Proofs.TieA2Blocks for the blocks, then the statements after
  `make_blocks` on both sides: M1 / M3 pop the last codeword of the first data block (`IndexError` without one),
  interleaving, remainder bits (the `if` / `elif` chain of the source is `Gen.remainder_bits` by unfolding).
-/
import Gen.Funcs2
import Proofs.TieA2
import Proofs.TieA2Blocks
import Proofs.TieA2Matrix
import Proofs.TieA2Stream
import Model.Encoder

namespace Proofs.TieA2
open Gen.Py Proofs.TieA

theorem fm_bit (x k : Nat) : band (Int.fdiv (x : Int) (2 ^ ((k : Int)).toNat)) 1 = (((x >>> k) % 2 : Nat) : Int) := by
  rw [Int.toNat_natCast, fdiv_two_pow, band_one]

theorem to_binary_eq (x len : Nat) : Gen.Funcs2.to_binary (x : Int) (len : Int) = toI (Model.appendBits x len) := by
  unfold Gen.Funcs2.to_binary Model.appendBits
  rw [range_zero_nat, ← List.map_reverse, Placement.reverse_range_eq]
  simp only [toI, List.map_map]
  apply List.map_congr_left
  intro k _
  simp only [Function.comp]
  exact fm_bit x (len - 1 - k)

theorem fm_zip_interleave (B : List (List Nat)) :
    ((zipLongest (B.map toI)).flatten).filterMap id = toI (Model.interleave B) := by
  unfold zipLongest Model.interleave
  rw [List.filterMap_flatten]
  simp only [toI, List.map_map, List.map_flatten]
  have hlen : (List.length ∘ toI) = List.length := by
    funext l; simp
  rw [hlen]
  congr 1
  apply List.map_congr_left
  intro r _
  simp only [Function.comp, List.filterMap_map, List.map_filterMap]
  apply List.filterMap_congr
  intro b _
  simp [toI]

theorem fm_ilv (B : List (List Nat)) :
    ((((zipLongest (B.map toI)).flatten).filterMap id).map (fun (x : Int) => Gen.Funcs2.to_binary x (8 : Int))).flatten
      = toI ((Model.interleave B).map (fun x => Model.appendBits x 8)).flatten := by
  rw [fm_zip_interleave]
  simp only [toI, List.map_map, List.map_flatten]
  congr 1
  apply List.map_congr_left
  intro x _
  exact to_binary_eq x 8

theorem ecc_same : sameTable Gen.Funcs2.T_consts_ECC_intkeys Gen.ECC id unKey ecI = true := by decide +kernel

theorem model_ecc_facts (v : Int) (e : Option Nat) (ecs : List (Nat × Nat × Nat)) (h : Model.eccInfo v e = some ecs) :
    ∀ y ∈ ecs, 1 ≤ y.1 ∧ y.2.2 ≤ y.2.1 :=
  (Proofs.Message.row_facts v _ ecs (Proofs.Message.eccInfo_eq v e ▸ h)).blocks

theorem ecc_lookup (v : Int) (e : Option Nat) :
    Gen.Py.bind (lookup Gen.Funcs2.T_consts_ECC_intkeys v) (fun d => lookup d (e.map Int.ofNat))
      = ofOption .keyError ((Model.eccInfo v e).map ecI) :=
  version_level_of_sameTable ecc_same v e

theorem ecc_then {β : Type} (v : Int) (e : Option Nat) (k : List (Int × Int × Int) → M β) :
    Gen.Py.bind (lookup Gen.Funcs2.T_consts_ECC_intkeys v) (fun d => Gen.Py.bind (lookup d (e.map Int.ofNat)) k)
      = Gen.Py.bind (ofOption .keyError ((Model.eccInfo v e).map ecI)) k := by
  rw [← ecc_lookup v e, bind_assoc]

theorem fm_repeat (r : Int) : Gen.Py.repeat [(0 : Int)] r = toI (List.replicate r.toNat 0) := by
  unfold Gen.Py.repeat
  rw [List.flatten_replicate_singleton, toI_replicate]
  rfl

theorem fm_to_binary4 (x : Nat) : Gen.Funcs2.to_binary (x : Int) (4 : Int) = toI (Model.appendBits x 4) := to_binary_eq x 4

theorem fm_shift (l : Nat) : (l : Int) / (16 : Int) = ((l >>> 4 : Nat) : Int) := by
  rw [Nat.shiftRight_eq_div_pow]
  omega

/-- `make_final_message(version, error, buff)` for every version number, error level (or None) and bit stream:
    the same final message; `KeyError` (no ECC entry / no generator polynomial) and `IndexError` (M1 / M3 without a data
    codeword) in the same cases -/
theorem make_final_message_eq (v : Int) (e : Option Nat) (bits : List Nat) (hbits : ∀ b ∈ bits, b ≤ 1) :
    toR (Gen.Funcs2.make_final_message v (e.map Int.ofNat) (toI bits)) = (Model.makeFinalMessage v e bits).map toI := by
  unfold Gen.Funcs2.make_final_message Model.makeFinalMessage
  rw [ecc_then]
  cases hE : Model.eccInfo v e with
  | none => rfl
  | some ecs =>
    simp only [Option.map_some, ofOption_some, bind_ok]
    refine toR_bind_map (make_blocks_eq ecs bits hbits (model_ecc_facts v e ecs hE)) (fun p _ => ?_)
    obtain ⟨D, E⟩ := p
    -- after `make_blocks`: M1 / M3 pop the last codeword of the first data block, then interleaving and remainder bits
    simp only [isM1M3_unfold, fm_repeat, fm_ilv E]
    by_cases h : ((v == (-3 : Int)) || (v == (-1 : Int))) = true
    · simp only [h, if_true]
      cases D with
      | nil => rfl
      | cons b bs =>
        have hidx : index (List.map toI (b :: bs)) (0 : Int) = .ok (toI b) := index_head _ _ rfl
        simp only [hidx, bind_ok]
        rcases List.eq_nil_or_concat b with rfl | ⟨b', l, rfl⟩
        · rfl
        · simp only [List.concat_eq_append]
          rw [toI_append, toI_cons, toI_nil, popAt_last, bind_ok]
          simp only []
          rw [show (0 : Int) = ((0 : Nat) : Int) from rfl, setItem_eq_of_norm _ _ 0 _ (normIndex_nat _ 0 (by simp)), bind_ok]
          have hset : (List.map toI ((b' ++ [l]) :: bs)).set 0 (toI b') = List.map toI (b' :: bs) := rfl
          rw [hset, fm_ilv, fm_shift, fm_to_binary4]
          simp only [List.getLast?_append, List.getLast?_singleton, Option.some_or, List.dropLast_concat, toR_ok,
            Bind.bind, Except.bind, pure, Except.pure, Except.map, List.nil_append, toI_append]
          rfl
    · simp only [h, Bool.false_eq_true, if_false, fm_ilv D]
      simp only [toR_ok, Bind.bind, Except.bind, pure, Except.pure, Except.map, List.nil_append, List.append_nil, toI_append]
      rfl

end Proofs.TieA2
