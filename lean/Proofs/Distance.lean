/-
  Proofs.Distance — the encoder's Reed-Solomon code (roots ρ⁰ … ρ^(n-1), length ≤ 255) is linear with
  minimum distance > n, hence uniquely decodable up to ⌊n/2⌋ errors.
  No determinant: if Σ_p c_p β_p^i = 0 for i < m, for at most m points β_p with pairwise unit differences,
  then all c_p = 0 (any commutative ring; K is not assumed to be a field).  In K, ρ^a − ρ^b (b < a < 255)
  is a unit because ρ has order 255 (`RSField.isUnit_pow_sub_pow`).
-/
import Proofs.RSField

namespace Proofs.Distance

open Proofs.RSGeneric Proofs.RSField

section Generic

variable {R : Type} [CommRing R]

/-- the i-th power sum Σ c·β^i of a list of (coefficient, point) pairs -/
def psum (ps : List (R × R)) (i : Nat) : R := (ps.map (fun t => t.1 * t.2 ^ i)).sum

theorem psum_nil (i : Nat) : psum ([] : List (R × R)) i = 0 := rfl

theorem psum_cons (t : R × R) (ps : List (R × R)) (i : Nat) :
    psum (t :: ps) i = t.1 * t.2 ^ i + psum ps i := by
  simp [psum]

/-- eliminate the point β: β·S_i − S_(i+1) kills the term of β and scales the others by (β − β') -/
theorem psum_elim (β : R) (ps : List (R × R)) (i : Nat) :
    psum (ps.map (fun t => (t.1 * (β - t.2), t.2))) i = β * psum ps i - psum ps (i + 1) := by
  induction ps with
  | nil => simp [psum_nil]
  | cons t ps ih =>
    simp only [List.map_cons, psum_cons, ih]
    ring

theorem psum_eq_zero (ps : List (R × R)) (h : ∀ t ∈ ps, t.1 = 0) (i : Nat) : psum ps i = 0 := by
  apply List.sum_eq_zero
  intro x hx
  obtain ⟨t, ht, rfl⟩ := List.mem_map.mp hx
  rw [h t ht, zero_mul]

theorem vandermonde_elim (m : Nat) (ps : List (R × R))
    (hp : ps.Pairwise (fun s t => IsUnit (s.2 - t.2))) (hlen : ps.length ≤ m)
    (hs : ∀ i, i < m → psum ps i = 0) : ∀ t ∈ ps, t.1 = 0 := by
  induction m generalizing ps with
  | zero =>
    obtain rfl := List.eq_nil_of_length_eq_zero (Nat.le_zero.mp hlen)
    simp
  | succ m ih =>
    cases ps with
    | nil => simp
    | cons s ps =>
    obtain ⟨hs1, hs2⟩ := List.pairwise_cons.mp hp
    -- eliminating s leaves m points and m power sums
    have hred := ih (ps.map fun t => (t.1 * (s.2 - t.2), t.2)) (List.pairwise_map.mpr hs2)
      (by simpa using hlen) fun i hi => by
        have h1 := hs i (by omega)
        have h2 := hs (i + 1) (by omega)
        rw [psum_cons] at h1 h2
        rw [psum_elim, eq_neg_of_add_eq_zero_right h1, eq_neg_of_add_eq_zero_right h2]
        ring
    have hrest : ∀ t ∈ ps, t.1 = 0 := fun t ht =>
      (hs1 t ht).mul_left_eq_zero.mp (hred _ (List.mem_map_of_mem ht))
    have h0 := hs 0 (by omega)
    rw [psum_cons, psum_eq_zero ps hrest, pow_zero, mul_one, add_zero] at h0
    exact List.forall_mem_cons.mpr ⟨h0, hrest⟩

end Generic

/-- the word c₀ c₁ … (highest coefficient first) as terms (c, exponent of x) -/
def terms : List Nat → List (Nat × Nat)
  | [] => []
  | c :: l => (c, l.length) :: terms l

theorem terms_exp_lt (w : List Nat) : ∀ t ∈ terms w, t.2 < w.length := by
  induction w with
  | nil => simp [terms]
  | cons c l ih =>
    simp only [terms, List.forall_mem_cons, List.length_cons]
    exact ⟨by omega, fun t ht => by have := ih t ht; omega⟩

theorem terms_pairwise (w : List Nat) : (terms w).Pairwise (fun s t => t.2 < s.2) := by
  induction w with
  | nil => simp [terms]
  | cons c l ih => exact List.pairwise_cons.mpr ⟨terms_exp_lt l, ih⟩

theorem terms_map_fst (w : List Nat) : (terms w).map Prod.fst = w := by
  induction w with
  | nil => rfl
  | cons c l ih => rw [terms, List.map_cons, ih]

theorem terms_fst_mem : ∀ (w : List Nat), ∀ t ∈ terms w, t.1 ∈ w := by
  intro w t ht
  have := List.mem_map_of_mem (f := Prod.fst) ht
  rwa [terms_map_fst] at this

noncomputable def toK (t : Nat × Nat) : K × K := (φ t.1, ρ ^ t.2)

theorem evalP_terms (i : Nat) (w : List Nat) :
    evalP (ρ ^ i) (w.map φ) = psum ((terms w).map toK) i := by
  induction w with
  | nil => rfl
  | cons c l ih =>
    simp only [List.map_cons, evalP_cons, terms, psum_cons, ih, toK, List.length_map]
    rw [← pow_mul, ← pow_mul, Nat.mul_comm]

theorem psum_filter (i : Nat) (ts : List (Nat × Nat)) :
    psum ((ts.filter (fun t => t.1 != 0)).map toK) i = psum (ts.map toK) i := by
  induction ts with
  | nil => rfl
  | cons t ts ih =>
    by_cases h : t.1 = 0
    · simp [h, psum_cons, ih, toK, φ_zero]
    · simp [h, psum_cons, ih]

def IsCodeword (n : Nat) (w : List Nat) : Prop :=
  ∀ i, i < n → tevalPoly w (Gen.GALIOS_EXP.getD i 0) = 0

theorem min_distance (n : Nat) (w : List Nat) (hlen : w.length ≤ 255) (hb : ∀ x ∈ w, x < 256)
    (hc : IsCodeword n w) (hw : (w.filter (· != 0)).length ≤ n) : ∀ x ∈ w, x = 0 := by
  -- the non-zero terms of w: at most n points with pairwise unit differences, n vanishing power sums
  let ts := (terms w).filter (fun t => t.1 != 0)
  have hlen_ts : ts.length = (w.filter (· != 0)).length := by
    conv_rhs => rw [← terms_map_fst w, List.filter_map, List.length_map]
    rfl
  have hwl : (w.filter (· != 0)).length ≤ w.length := List.length_filter_le _ _
  have hall : ∀ t ∈ ts.map toK, t.1 = 0 := by
    apply vandermonde_elim ts.length
    · rw [List.pairwise_map]
      refine ((terms_pairwise w).filter _).imp_of_mem fun {s t} hs _ hst => ?_
      have := terms_exp_lt w s (List.mem_filter.mp hs).1
      exact isUnit_pow_sub_pow s.2 t.2 hst (by omega)
    · simp
    · intro i hi
      rw [psum_filter, ← evalP_terms, ← φ_exp i (by omega)]
      exact (tevalPoly_eq_zero_iff w _ hb (exp_lt i)).mp (hc i (by omega))
  intro x hx
  by_contra hx0
  rw [← terms_map_fst w] at hx
  obtain ⟨t, ht, rfl⟩ := List.mem_map.mp hx
  have hmem : t ∈ ts := List.mem_filter.mpr ⟨ht, by simpa using hx0⟩
  exact hx0 (φ_eq_zero _ (hb _ (terms_fst_mem w t ht)) (hall (toK t) (List.mem_map_of_mem hmem)))

theorem codeword_xor (n : Nat) (a b : List Nat) (hl : a.length = b.length)
    (ha : ∀ x ∈ a, x < 256) (hb : ∀ x ∈ b, x < 256) (h1 : IsCodeword n a) (h2 : IsCodeword n b) :
    IsCodeword n (List.zipWith (· ^^^ ·) a b) := by
  intro i hi
  rw [tevalPoly_eq_zero_iff _ _ (bytes_zipWith_xor ha hb) (exp_lt i), map_φ_zipWith_xor,
    evalP_zipWith_add _ _ _ (by simpa using hl),
    (tevalPoly_eq_zero_iff a _ ha (exp_lt i)).mp (h1 i hi),
    (tevalPoly_eq_zero_iff b _ hb (exp_lt i)).mp (h2 i hi), add_zero]

def hammingDist (a b : List Nat) : Nat := ((a.zip b).filter (fun p => p.1 != p.2)).length

theorem hammingDist_cons (x y : Nat) (a b : List Nat) :
    hammingDist (x :: a) (y :: b) = (if x = y then 0 else 1) + hammingDist a b := by
  unfold hammingDist
  simp only [List.zip_cons_cons, List.filter_cons]
  by_cases h : x = y
  · simp [h]
  · simp [h]; omega

theorem hammingDist_triangle (r a b : List Nat) (ha : a.length = r.length) (hb : b.length = r.length) :
    hammingDist a b ≤ hammingDist r a + hammingDist r b := by
  induction r generalizing a b with
  | nil =>
    obtain rfl := List.eq_nil_of_length_eq_zero ha
    simp [hammingDist]
  | cons z r ih =>
    cases a with
    | nil => simp at ha
    | cons x a =>
      cases b with
      | nil => simp at hb
      | cons y b =>
        have := ih a b (by simpa using ha) (by simpa using hb)
        simp only [hammingDist_cons]
        split <;> split <;> split <;> omega

theorem weight_xor (a b : List Nat) :
    ((List.zipWith (· ^^^ ·) a b).filter (· != 0)).length = hammingDist a b := by
  induction a generalizing b with
  | nil => simp [hammingDist]
  | cons x a ih =>
    cases b with
    | nil => simp [hammingDist]
    | cons y b =>
      rw [hammingDist_cons, ← ih b]
      by_cases h : x = y
      · simp [h]
      · have : x ^^^ y ≠ 0 := fun e => h (Nat.eq_of_xor_eq_zero e)
        simp [h, this]; omega

theorem eq_of_xor_all_zero (a b : List Nat) (hl : a.length = b.length)
    (h : ∀ x ∈ List.zipWith (· ^^^ ·) a b, x = 0) : a = b := by
  induction a generalizing b with
  | nil => exact (List.eq_nil_of_length_eq_zero hl.symm).symm
  | cons x a ih =>
    cases b with
    | nil => simp at hl
    | cons y b =>
      simp only [List.zipWith_cons_cons, List.forall_mem_cons] at h
      rw [Nat.eq_of_xor_eq_zero h.1, ih b (by simpa using hl) h.2]

theorem unique_decoding (n : Nat) (r a b : List Nat) (hlen : r.length ≤ 255)
    (hla : a.length = r.length) (hlb : b.length = r.length)
    (ha : ∀ x ∈ a, x < 256) (hb : ∀ x ∈ b, x < 256)
    (hca : IsCodeword n a) (hcb : IsCodeword n b)
    (hda : hammingDist r a ≤ n / 2) (hdb : hammingDist r b ≤ n / 2) : a = b := by
  have hl : a.length = b.length := by omega
  apply eq_of_xor_all_zero a b hl
  apply min_distance n
  · simp only [List.length_zipWith]; omega
  · exact bytes_zipWith_xor ha hb
  · exact codeword_xor n a b hl ha hb hca hcb
  · rw [weight_xor]
    have := hammingDist_triangle r a b hla hlb
    omega

theorem table9_blocks_at_most_255 :
    Spec.eccTable.all (fun e => e.2.2.all (fun b => b.2.1 ≤ 255)) = true := by decide +kernel

end Proofs.Distance
