/-
  Proofs.PngTwoTone — the colour map of a call without per-type options (`dark` / `light` only): it
  is two-tone, has at most two colours, so `write_png` uses the cheap iterator (helpers for
  `png_model_picture`, Props/C09Png.lean).
-/
import Proofs.PngPicture
import Proofs.Colormap

namespace Proofs.Png

open Model Spec Proofs.Colormap

theorem makeColormap_length {α : Type} (w h : Nat) (dark light : α) (o : TypeOpts α) :
    (makeColormap w h dark light o).length ≤ 15 := by
  unfold makeColormap
  exact Nat.le_trans (List.length_filter_le _ _) (by simp [mt2color])

theorem map_makeColormap_default {α β : Type} (w h : Nat) (D L : α) (f : α → β) :
    (makeColormap w h D L {}).map (fun e => (e.1, f e.2)) = makeColormap w h (f D) (f L) {} := by
  show _ = ((mt2color D L {}).map (fun e => (e.1, f e.2))).filter _
  rw [List.filter_map]
  rfl

theorem makeColormap_default_colour {α : Type} (w h : Nat) (D L : α) :
    ∀ e ∈ makeColormap w h D L {}, e.2 = if isDarkType e.1 then D else L := by
  have : ∀ e ∈ mt2color D L {}, e.2 = if isDarkType e.1 then D else L := by simp +decide [mt2color]
  exact fun e he => this e (List.mem_filter.1 he).1

theorem parseColormap_default (w h : Nat) (D L : ColorArg) (clrMap : List (Nat × PColor))
    (hp : parseColormap (makeColormap w h D L {}) = .ok clrMap) :
    ∃ dC lC, pngColor D = .ok dC ∧ pngColor L = .ok lC ∧ clrMap = makeColormap w h dC lC {} := by
  rw [parseColormap_eq] at hp
  obtain ⟨dC, hD, _⟩ := (parseMap_get pngColor .transparent _ _ hp Gen.TYPE_FINDER_PATTERN_DARK).1 D (colormap_finder_dark w h D L {})
  obtain ⟨lC, hL, _⟩ := (parseMap_get pngColor .transparent _ _ hp Gen.TYPE_QUIET_ZONE).1 L (colormap_quiet_zone w h D L {})
  refine ⟨dC, lC, hD, hL, ?_⟩
  rw [(parseMap_ok pngColor .transparent _ _ hp).2, map_makeColormap_default w h D L (fun a => (pngColor a).toOption.getD .transparent), hD, hL]
  rfl

theorem isTwoTone_uniform (cm : List (Nat × PColor)) (h : isTwoTone cm = true) (t1 t2 : Nat) (c1 c2 : PColor)
    (h1 : cmGet cm t1 = some c1) (h2 : cmGet cm t2 = some c2) (hsame : isDarkType t1 = isDarkType t2) : c1 = c2 := by
  unfold isTwoTone at h
  rw [Bool.and_eq_true] at h
  -- both types pass the same test on the key, the one for dark or the one for light types
  obtain ⟨q, hq1, hq2, hlen⟩ : ∃ q : Nat → Bool, q t1 = true ∧ q t2 = true
      ∧ ((cm.filter (fun e => q e.1)).map (·.2)).eraseDups.length = 1 := by
    cases hdk : isDarkType t1 with
    | true => exact ⟨isDarkType, hdk, hsame ▸ hdk, by simpa [isDarkType] using h.1⟩
    | false => exact ⟨fun t => !isDarkType t, by simp [hdk], by simp [← hsame, hdk], by simpa [isDarkType] using h.2⟩
  exact eraseDups_singleton_all_eq _ hlen c1 c2 (cmGet_mem_filter cm q t1 c1 h1 hq1) (cmGet_mem_filter cm q t2 c2 h2 hq2)

theorem isTwoTone_of_uniform (cm : List (Nat × PColor)) (a b : PColor)
    (hcol : ∀ e ∈ cm, e.2 = if isDarkType e.1 then a else b)
    (td tl : Nat) (hd : isDarkType td = true) (hl : isDarkType tl = false)
    (hdark : (cmGet cm td).isSome = true) (hlight : (cmGet cm tl).isSome = true) : isTwoTone cm = true := by
  -- the entries that pass a test `q` on the key: there is one (that of `t`), and all have the colour `c`
  have one (q : Nat → Bool) (c : PColor) (t : Nat) (ht : q t = true) (hsome : (cmGet cm t).isSome = true)
      (hq : ∀ e ∈ cm, q e.1 = true → e.2 = c) : ((cm.filter (fun e => q e.1)).map (·.2)).eraseDups.length = 1 := by
    obtain ⟨c', hc'⟩ := Option.isSome_iff_exists.1 hsome
    rw [eraseDups_of_all_eq c _ (List.ne_nil_of_mem (cmGet_mem_filter cm q t c' hc' ht))]
    · rfl
    · intro x hx
      obtain ⟨e, he, rfl⟩ := List.mem_map.1 hx
      exact hq e (List.mem_filter.1 he).1 (List.mem_filter.1 he).2
  unfold isTwoTone
  rw [Bool.and_eq_true, beq_iff_eq, beq_iff_eq]
  exact ⟨one isDarkType a td hd hdark (fun e he hq => by rw [hcol e he, if_pos hq]),
    one (fun t => !isDarkType t) b tl (by rw [hl]; rfl) hlight (fun e he hq => by rw [hcol e he, if_neg (by simpa using hq)])⟩

theorem isTwoTone_default (w h : Nat) (a b : PColor) : isTwoTone (makeColormap w h a b {}) = true :=
  isTwoTone_of_uniform _ a b (makeColormap_default_colour w h a b) Gen.TYPE_FINDER_PATTERN_DARK Gen.TYPE_QUIET_ZONE (by decide) (by decide)
    (by rw [colormap_finder_dark]; rfl) (by rw [colormap_quiet_zone]; rfl)

theorem useVerbose_eq_false (p : PaletteInfo) : useVerbose p = false ↔ p.n ≤ 2 ∧ isTwoTone p.clrMap = true := by
  simp [useVerbose, Nat.not_lt]

theorem useVerbose_default (setOrder : List PColor → List PColor) (hset : SetOrderOK setOrder) (w h : Nat) (dC lC : PColor)
    (p : PaletteInfo) (hp : buildPalette setOrder (makeColormap w h dC lC {}) = .ok p) : useVerbose p = false := by
  have hn2 : p.n ≤ 2 := by
    rw [buildPalette_n setOrder hset _ p hp]
    apply (nodup_palette0 setOrder hset _).length_le_of_subset (l₂ := [dC, lC])
    intro x hx
    have := (mem_palette0 setOrder hset _ x).1 hx
    obtain ⟨e, he, rfl⟩ := List.mem_map.1 this
    rw [makeColormap_default_colour w h dC lC e he]
    split <;> simp
  have htt : isTwoTone p.clrMap = true := by
    rcases paletteFrom_clrMap _ _ p hp (nodup_palette0 setOrder hset _) (sorted_palette0 setOrder _) with h' | ⟨T, _, h'⟩
    · rw [h']; exact isTwoTone_default w h dC lC
    · rw [h', map_makeColormap_default w h dC lC (fun c => if c == PColor.transparent then T else c)]
      exact isTwoTone_default w h _ _
  exact (useVerbose_eq_false p).2 ⟨hn2, htt⟩

theorem nodup_eraseDups {α : Type} [BEq α] [LawfulBEq α] (l : List α) : l.eraseDups.Nodup := by
  generalize hn : l.length = n
  induction n using Nat.strongRecOn generalizing l with
  | _ n ih =>
    cases l with
    | nil => simp
    | cons a l =>
      rw [List.eraseDups_cons, List.nodup_cons]
      refine ⟨?_, ih _ ?_ _ rfl⟩
      · intro h
        have := (List.mem_filter.1 (List.mem_eraseDups.1 h)).2
        simp at this
      · have : (List.filter (fun b => !b == a) l).length ≤ l.length := List.length_filter_le _ _
        simp at hn; omega

/-- the order of first occurrence is a possible iteration order of the set: `SetOrderOK` can be met; it is
    the order the `model` driver uses when the harness supplies none (`Model.PngDriver.setOrderOf`) -/
theorem setOrderOK_eraseDups : SetOrderOK (fun l => l.eraseDups) :=
  fun l => ⟨nodup_eraseDups l, fun _ => List.mem_eraseDups⟩

open Proofs.Raster in
theorem default_pixel_colour {α : Type} (p : PaletteInfo) (hcheap : useVerbose p = false) (M A : List (List Nat)) (w h s b x y : Nat)
    (D L c : α) (hx : x < (w + 2 * b) * s) (hy : y < (h + 2 * b) * s)
    (hc : cmGet (makeColormap w h D L {}) (pixelType p M A w h s b x y) = some c) :
    c = if ((grid M w h s b).getD y []).getD x 0 ≠ 0 then D else L := by
  have hg : ((grid M w h s b).getD y []).getD x 0 = pixelOf (cellL M) s b x y := by
    unfold grid
    rw [getD_map_range _ _ _ _ hy, getD_map_range _ _ _ _ hx]
  rw [hg]
  -- the cheap iterator: the dark finder type for a dark pixel, the quiet zone type for a light one
  rw [pixelType, hcheap, if_neg Bool.false_ne_true] at hc
  split at hc
  · next hp0 =>
    rw [Proofs.Colormap.colormap_finder_dark] at hc
    cases hc; rw [if_pos hp0]; rfl
  · next hp0 =>
    rw [Proofs.Colormap.colormap_quiet_zone] at hc
    cases hc; rw [if_neg hp0]; rfl

end Proofs.Png
