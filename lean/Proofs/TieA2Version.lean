/-
  Proofs.TieA2Version — `find_version` (translated, Gen/Funcs2.lean) against `Model.findVersion`, the latter as
  `Proofs.EncodeStages.findVersion_eq` reads it: the start of the search (`minV1R`), then the first version that fits (`fitsB`).
  The translation has two copies of the loop (`if error is None`); what stands around them is `fv_frame`.
  (Imports Props.TieA for `find_minimum_version_for_mode_tie`, the tie of the function `find_version` calls.)
-/
import Proofs.TieA2Boost
import Proofs.Except
import Props.TieA
import Proofs.EncodeStages


namespace Proofs.TieA2
open Gen.Py Proofs.TieA Model

/-- a search loop followed by `return the hit / raise DataOverflowError`: the body either returns the current element
    (when it satisfies `p`) or goes on with a new state; `I` is what the body needs to know about the state -/
theorem search_then {σ : Type} (hi : Int) (body : σ → Int → M (Step σ Int)) (k : Done σ Int → M Int)
    (nxt : σ → Int → σ) (p : Int → Bool) (I : σ → Int → Prop)
    (hbody : ∀ s x, I s x → x < hi → body s x = .ok (if p x then .ret x else .next (nxt s x)))
    (hI : ∀ s x, I s x → I (nxt s x) (x + 1))
    (hk : ∀ s', k (.fin s') = .error .dataOverflow) (hr : ∀ r, k (.ret r) = .ok r) :
    ∀ (n : Nat) (lo : Int) (s : σ), (hi - lo).toNat = n → I s lo →
      Gen.Py.bind (forM (range lo hi) s body) k
        = match (range lo hi).find? p with | some v => .ok v | none => .error .dataOverflow := by
  intro n
  induction n with
  | zero =>
    intro lo s hn _
    rw [range_empty (by omega)]
    exact hk s
  | succ n ih =>
    intro lo s hn hs
    have hlt : lo < hi := by omega
    rw [range_succ hlt, forM_cons, hbody s lo hs hlt, List.find?_cons]
    cases p lo with
    | true => exact hr lo
    | false => exact ih (lo + 1) (nxt s lo) (by omega) (hI s lo hs)

theorem intRange_eq (lo hi : Int) : Model.intRange lo hi = range lo (hi + 1) := rfl

theorem mapM_fmv (segs : List Segment) :
    Gen.Py.mapM (modesOf segs) (fun m => Gen.Funcs.find_minimum_version_for_mode m)
      = ofOption .valueError (segs.mapM (fun s => Model.findMinimumVersionForMode s.mode)) :=
  mapM_ofOption segs _ _ _ _ (fun s _ => Props.TieA.find_minimum_version_for_mode_tie s.mode)


/-- the test of `find_version`: the capacity of version v at level `lvl` suffices (a missing table entry = no) -/
def fitsM (segs : List Segment) (eci isSa : Bool) (lvl : Option Nat) (v : Int) : Bool :=
  match capacity v lvl, bitLengthWithOverhead segs v eci isSa with
  | some cap, some bl => decide (cap ≥ bl)
  | _, _ => false


set_option linter.unusedVariables false in
/-- the result of one iteration, whatever the state afterwards is -/
theorem fv_step {σ : Type} (segs : List Segment) (eci isSa : Bool) (e : Option Nat) (x : Int) (hx : x ≤ 40) (s : σ) :
    tryExcept
      (Gen.Py.bind (ofOption .keyError ((Model.capacity x e).map Int.ofNat)) fun c =>
          Gen.Py.bind (ofOption .keyError ((Model.bitLengthWithOverhead segs x eci isSa).map Int.ofNat)) fun b =>
            if decide (c ≥ b) = true then (Except.ok (Step.ret x) : M (Step Unit Int)) else Except.ok (Step.next ()))
      (fun st => match st with
        | Step.next _ => Except.ok (Step.next s)
        | Step.brk _ => Except.ok (Step.next s)
        | Step.ret r => Except.ok (Step.ret r))
      (fun ex => if (ex == PyExc.keyError) = true then Except.ok (Step.next s) else Except.error ex)
    = .ok (if fitsM segs eci isSa e x then Step.ret x else Step.next s) := by
  unfold fitsM
  cases capacity x e with
  | none => rfl
  | some c =>
    cases bitLengthWithOverhead segs x eci isSa with
    | none => rfl
    | some b =>
      have h : decide (Int.ofNat c ≥ Int.ofNat b) = decide (c ≥ b) := by simp
      simp only [Option.map_some, ofOption_some, bind_ok, h]
      by_cases hcb : c ≥ b <;> simp only [hcb, decide_true, decide_false, if_true, if_false, Bool.false_eq_true] <;> rfl

theorem fv_body {σ : Type} (segs : List Segment) (eci isSa : Bool) (e : Option Nat) (x : Int) (hx : x ≤ 40) (s : σ) :
    tryExcept
      (Gen.Py.bind (lookup Gen.Funcs2.T_consts_SYMBOL_CAPACITY x) fun t =>
        Gen.Py.bind (lookup t (e.map Int.ofNat)) fun c =>
          Gen.Py.bind (Gen.Funcs.bit_length_with_overhead x eci isSa (nEci segs) (modesOf segs) (bitLen segs)) fun b =>
            if decide (c ≥ b) = true then (Except.ok (Step.ret x) : M (Step Unit Int)) else Except.ok (Step.next ()))
      (fun st => match st with
        | Step.next _ => Except.ok (Step.next s)
        | Step.brk _ => Except.ok (Step.next s)
        | Step.ret r => Except.ok (Step.ret r))
      (fun ex => if (ex == PyExc.keyError) = true then Except.ok (Step.next s) else Except.error ex)
    = .ok (if fitsM segs eci isSa e x then Step.ret x else Step.next s) := by
  rw [cap_then, bit_length_with_overhead_eq segs x hx]
  exact fv_step segs eci isSa e x hx s

/-- every minimal version is a version constant -/
theorem fmv_known : ∀ m ∈ [1, 2, 4, 7, 8, 13], (findMinimumVersionForMode m).all (fun v => decide (-3 ≤ v)) = true := by decide

theorem fmv_ge (m : Nat) (v : Int) (h : findMinimumVersionForMode m = some v) : -3 ≤ v := by
  by_cases hk : m = 1 ∨ m = 2 ∨ m = 4 ∨ m = 7 ∨ m = 8 ∨ m = 13
  · have := fmv_known m (by simp; omega)
    rw [h] at this
    simpa using this
  · have hn : m ≠ 1 ∧ m ≠ 2 ∧ m ≠ 4 ∧ m ≠ 7 ∧ m ≠ 8 ∧ m ≠ 13 := by omega
    unfold findMinimumVersionForMode at h
    simp [isModeSupported_unknown m hn, Gen.MICRO_VERSIONS] at h

theorem foldl_max_ge (x : Int) (xs : List Int) : x ≤ xs.foldl max x := by
  induction xs generalizing x with
  | nil => exact Int.le_refl x
  | cons y t ih => exact Int.le_trans (Int.le_max_left x y) (ih (max x y))

theorem minV_ge (segs : List Segment) (x : Int) (xs : List Int)
    (h : segs.mapM (fun s => findMinimumVersionForMode s.mode) = some (x :: xs)) : -3 ≤ xs.foldl max x := by
  have hx : some x ∈ segs.map (fun s => findMinimumVersionForMode s.mode) := by
    rw [(Proofs.Except.mapM_some_iff _ _ _).mp h]
    exact List.mem_cons_self
  obtain ⟨s, _, hs⟩ := List.mem_map.mp hx
  exact Int.le_trans (fmv_ge _ _ hs) (foldl_max_ge x xs)

/-- `find_version` computes the start of the search (`max` of the minimal versions, or `min_version`) and then runs one
    of two textually equal copies of the loop: read it as one loop applied to the start -/
theorem fv_shape (F : Int → M Int) (c : Bool) (A : M (List Int)) (m : Int) :
    (if c then Gen.Py.bind A (fun t => Gen.Py.bind (maxOf t) F) else F m)
      = Gen.Py.bind (if c then Gen.Py.bind A maxOf else .ok m) F := by
  cases c
  · rfl
  · cases A <;> rfl

/-- what the two loops of `find_version` stand in: the assertion, and the start of the search (`Proofs.EncodeStages.minV1R`), which is a version
    number; `F` is the loop with what follows it -/
theorem fv_frame (segs : List Segment) (eci : Bool) (micro : Option Bool) (F : Int → M Int) (G : Int → R Int)
    (hF : ∀ lo, -3 ≤ lo → toR (F lo) = G lo) :
    toR (if (!(eci && (match micro with | none => false | some o => o))) = true then
        Gen.Py.bind
          (if decide ((if ((match micro with | none => false | some o => o) || micro.isNone) = true then (-3 : Int) else 1) < 1) = true then
            Gen.Py.bind (ofOption PyExc.valueError (List.mapM (fun s => findMinimumVersionForMode s.mode) segs)) maxOf
          else Except.ok (if ((match micro with | none => false | some o => o) || micro.isNone) = true then (-3 : Int) else 1)) F
      else Except.error PyExc.assertionError)
    = if (eci && micro == some true) = true then throw PyErr.assertionError else Proofs.EncodeStages.minV1R segs micro >>= G := by
  have key : toR (Gen.Py.bind (Gen.Py.bind (ofOption PyExc.valueError (List.mapM (fun s => findMinimumVersionForMode s.mode) segs)) maxOf) F)
      = (match segs.mapM (fun s => findMinimumVersionForMode s.mode) with
          | none => throw PyErr.valueError
          | some [] => throw PyErr.valueError
          | some (x :: xs) => pure (xs.foldl max x) : R Int) >>= G := by
    cases hm : List.mapM (fun s => findMinimumVersionForMode s.mode) segs with
    | none => rfl
    | some l =>
      cases l with
      | nil => rfl
      | cons x xs => exact hF _ (minV_ge segs x xs hm)
  rcases micro with _ | _ | _ <;> cases eci
  · exact key
  · exact key
  · exact hF 1 (by omega)
  · exact hF 1 (by omega)
  · exact key
  · rfl

theorem fv_none (segs : List Segment) (eci : Bool) (micro : Option Bool) (isSa : Bool) :
    toR (Gen.Funcs2.find_version (nEci segs) (modesOf segs) (bitLen segs) none eci micro isSa)
      = Model.findVersion segs none eci micro isSa := by
  rw [Proofs.EncodeStages.findVersion_eq]
  unfold Gen.Funcs2.find_version
  simp only [mapM_fmv]
  rw [fv_shape]
  refine fv_frame segs eci micro _ _ fun lo hlo => ?_
  -- the upper end of the search, `0 if micro else 40` in the source, is `maxV micro`
  generalize hmax : (if (match (generalizing := false) micro with | none => false | some o => o) = true then (0:Int) else 40) = maxv
  obtain rfl : Proofs.EncodeStages.maxV micro = maxv := by rw [← hmax]; rcases micro with _ | _ | _ <;> rfl
  have hm40 : Proofs.EncodeStages.maxV micro ≤ 40 := by unfold Proofs.EncodeStages.maxV; split <;> decide
  simp only [Option.isSome_none, Bool.false_and, Bool.false_eq_true, if_false, intRange_eq]
  -- the state is the level of the iteration before: `None` at the start, L from M2 on
  rw [search_then _ _ _ (fun _ x => (Proofs.ArgsLemmas.defaultLevel none x).map Int.ofNat) (Proofs.EncodeStages.fitsB segs none eci isSa)
    (fun s x => -3 ≤ x ∧ (s = none ∨ (s = some 1 ∧ -3 < x))) ?hbody ?hI ?hk (fun r => rfl) _ lo none rfl ⟨hlo, Or.inl rfl⟩]
  · cases List.find? (Proofs.EncodeStages.fitsB segs none eci isSa) _ <;> rfl
  · intro s x hs hx
    have he : (if (!x == -3) = true then some (1 : Int) else none) = (Proofs.ArgsLemmas.defaultLevel none x).map Int.ofNat := by
      unfold Proofs.ArgsLemmas.defaultLevel; by_cases h : x = -3 <;> simp [h, Gen.VERSION_M1, Gen.ERROR_LEVEL_L]
    obtain ⟨_, rfl | ⟨rfl, hgt⟩⟩ := hs
    · simp only [he]
      exact fv_body segs eci isSa (Proofs.ArgsLemmas.defaultLevel none x) x (by omega) _
    · have h1 : Proofs.ArgsLemmas.defaultLevel none x = some 1 := by
        unfold Proofs.ArgsLemmas.defaultLevel; simp [Gen.VERSION_M1, Gen.ERROR_LEVEL_L]; omega
      show _ = Except.ok (if fitsM segs eci isSa (Proofs.ArgsLemmas.defaultLevel none x) x = true then _ else _)
      rw [h1]
      exact fv_body segs eci isSa (some 1) x (by omega) _
  · intro s x hs
    refine ⟨by omega, ?_⟩
    by_cases hm1 : x = -3
    · left; simp [Proofs.ArgsLemmas.defaultLevel, Gen.VERSION_M1, hm1]
    · right; refine ⟨by simp [Proofs.ArgsLemmas.defaultLevel, Gen.VERSION_M1, Gen.ERROR_LEVEL_L, hm1], by omega⟩
  · intro s'; cases micro <;> rfl

theorem fv_some (segs : List Segment) (n : Nat) (eci : Bool) (micro : Option Bool) (isSa : Bool) :
    toR (Gen.Funcs2.find_version (nEci segs) (modesOf segs) (bitLen segs) (some (n : Int)) eci micro isSa)
      = Model.findVersion segs (some n) eci micro isSa := by
  rw [Proofs.EncodeStages.findVersion_eq]
  unfold Gen.Funcs2.find_version
  simp only [mapM_fmv]
  rw [fv_shape]
  refine fv_frame segs eci micro _ _ fun lo _ => ?_
  -- as in `fv_none`: the upper end of the search is `maxV micro`
  generalize hmax : (if (match (generalizing := false) micro with | none => false | some o => o) = true then (0:Int) else 40) = maxv
  obtain rfl : Proofs.EncodeStages.maxV micro = maxv := by rw [← hmax]; rcases micro with _ | _ | _ <;> rfl
  have hm40 : Proofs.EncodeStages.maxV micro ≤ 40 := by unfold Proofs.EncodeStages.maxV; split <;> decide
  generalize hma : ((match (generalizing := false) micro with | none => false | some o => o) || micro.isNone) = ma
  obtain rfl : (micro != some false) = ma := by rw [← hma]; rcases micro with _ | _ | _ <;> rfl
  simp only [Option.isSome_some, Bool.true_and, intRange_eq, Gen.VERSION_M2]
  -- the state (the level) never changes
  rw [search_then _ _ _ (fun s _ => s) (Proofs.EncodeStages.fitsB segs (some n) eci isSa) (fun s _ => s = (n : Int))
    ?hbody (fun _ _ hs => hs) ?hk (fun r => rfl) _ _ (n : Int) rfl rfl]
  · cases List.find? (Proofs.EncodeStages.fitsB segs (some n) eci isSa) _ <;> rfl
  · intro s x hs hx
    subst hs
    exact fv_body segs eci isSa (some n) x (by omega) _
  · intro s'; cases micro <;> rfl


end Proofs.TieA2
