/-
  Proofs.Placement2 — the placement layer behind Props/C01Placement.lean: `add_codewords` as a fold over the zig-zag
  walk and the round trip through masking and the reader, from the skeleton of the version (a hypothesis here, proved
  for every version in Proofs/Cells.lean) and per-version facts that the kernel evaluates in Proofs/Geometry*.lean
  (`countOK`: the number of data modules is the Table 9 number; `stripsOK`).
-/
import Spec.Decode
import Model.Encoder
import Proofs.Mask
import Proofs.Placement
import Proofs.PlacementSkeleton
import Proofs.PlacementZigzag
import Proofs.Stream

namespace Proofs.Placement2
open Proofs.Placement (get2_set2_sq)

/-- one step of the loop of `add_codewords` -/
def placeStep (acc : Model.Matrix × List Nat) (p : Nat × Nat) : Model.Matrix × List Nat :=
  match acc.2 with
  | [] => acc
  | b :: bs => if Model.get2 acc.1 p.1 p.2 == 2 then (Model.set2 acc.1 p.1 p.2 b, bs) else acc

theorem addCodewords_eq (m : Model.Matrix) (bits : List Nat) (v : Int) :
    Model.addCodewords m bits v =
      (let r := (Model.codewordCoords m.size v).foldl placeStep (m, bits)
       if r.2.isEmpty then pure r.1 else throw Model.PyErr.valueError) := by
  unfold Model.addCodewords
  have : (fun (acc : Model.Matrix × List Nat) (x : Nat × Nat) =>
      match x with
      | (i, j) =>
        match acc.2 with
        | [] => acc
        | b :: bs => if (Model.get2 acc.1 i j == 2) = true then (Model.set2 acc.1 i j b, bs) else acc) = placeStep := by
    funext acc x
    obtain ⟨i, j⟩ := x
    rfl
  rw [← this]
  rfl

theorem foldl_placeStep_nil (coords : List (Nat × Nat)) (m : Model.Matrix) :
    coords.foldl placeStep (m, []) = (m, []) := by
  induction coords with
  | nil => rfl
  | cons p t ih => simp [List.foldl_cons, placeStep, ih]

def is2 (m : Model.Matrix) (p : Nat × Nat) : Bool := Model.get2 m p.1 p.2 == 2

theorem place_spec (n : Nat) : ∀ (coords : List (Nat × Nat)) (m : Model.Matrix) (bits : List Nat),
    Placement.Sq m n → coords.Nodup → (∀ p ∈ coords, p.1 < n ∧ p.2 < n) →
    bits.length = (coords.filter (is2 m)).length →
    (coords.foldl placeStep (m, bits)).2 = [] ∧
    Placement.Sq (coords.foldl placeStep (m, bits)).1 n ∧
    (coords.filter (is2 m)).map (fun p => Model.get2 (coords.foldl placeStep (m, bits)).1 p.1 p.2) = bits ∧
    ∀ a b, (a, b) ∉ coords.filter (is2 m) →
      Model.get2 (coords.foldl placeStep (m, bits)).1 a b = Model.get2 m a b := by
  intro coords
  induction coords with
  | nil =>
    intro m bits hs _ _ hl
    simp at hl
    subst hl
    simp [hs]
  | cons p t ih =>
    intro m bits hs hnd hr hl
    obtain ⟨i, j⟩ := p
    have hnd' := List.nodup_cons.mp hnd
    have hr' : ∀ p ∈ t, p.1 < n ∧ p.2 < n := fun p hp => hr p (List.mem_cons_of_mem _ hp)
    have hij := hr (i, j) (List.mem_cons_self)
    cases bits with
    | nil =>
      have hf : (List.filter (is2 m) ((i, j) :: t)) = [] := by
        apply List.eq_nil_of_length_eq_zero; simpa using hl.symm
      rw [foldl_placeStep_nil, hf]
      simp [hs]
    | cons b bs =>
      by_cases h2 : Model.get2 m i j = 2
      · have hstep : placeStep (m, b :: bs) (i, j) = (Model.set2 m i j b, bs) := by
          simp [placeStep, h2]
        -- the walk visits no cell twice, so the write at (i, j) leaves the free cells of the rest of the walk free:
        -- the induction hypothesis at the written matrix speaks of the same cells as the claim
        have hsame : ∀ q ∈ t, is2 (Model.set2 m i j b) q = is2 m q := by
          intro q hq
          unfold is2
          rw [get2_set2_sq m n i j b q.1 q.2 hs, if_neg]
          intro hc
          have : q = (i, j) := Prod.ext hc.1 hc.2.1
          exact hnd'.1 (this ▸ hq)
        have hfilt : t.filter (is2 (Model.set2 m i j b)) = t.filter (is2 m) := List.filter_congr hsame
        have hhead : List.filter (is2 m) ((i, j) :: t) = (i, j) :: t.filter (is2 m) := by
          simp [is2, h2]
        rw [hhead] at hl ⊢
        have hl' : bs.length = (t.filter (is2 (Model.set2 m i j b))).length := by
          rw [hfilt]; simpa using hl
        obtain ⟨r1, r2, r3, r4⟩ := ih (Model.set2 m i j b) bs ((Placement.Sq_set2 m n i j b).2 hs) hnd'.2 hr' hl'
        rw [List.foldl_cons, hstep]
        rw [hfilt] at r3 r4
        have hnot : (i, j) ∉ t.filter (is2 m) := fun h => hnd'.1 (List.mem_filter.mp h).1
        have hb : Model.get2 (Model.set2 m i j b) i j = b := by
          rw [get2_set2_sq m n i j b i j hs, if_pos ⟨rfl, rfl, hij⟩]
        refine ⟨r1, r2, ?_, ?_⟩
        · rw [List.map_cons, r3, r4 i j hnot, hb]
        · intro a c hac
          have hac' : (a, c) ∉ t.filter (is2 m) := fun h => hac (List.mem_cons_of_mem _ h)
          rw [r4 a c hac', get2_set2_sq m n i j b a c hs, if_neg]
          intro hc
          exact hac (hc.1 ▸ hc.2.1 ▸ List.mem_cons_self)
      · have hstep : placeStep (m, b :: bs) (i, j) = (m, b :: bs) := by
          simp [placeStep, h2]
        have hhead : List.filter (is2 m) ((i, j) :: t) = t.filter (is2 m) := by
          simp [is2, h2]
        rw [hhead] at hl ⊢
        rw [List.foldl_cons, hstep]
        exact ih m (b :: bs) hs hnd'.2 hr' hl

theorem functionMatrix_rows (v : Int) (h : m0L (Spec.size v) = .ok (skelRows 0 v)) :
    (Model.functionMatrix (Spec.size v)).map toRows = .ok (skelRows 1 v) := by
  unfold m0L at h
  cases hm : Model.addAlignmentPatterns (Model.addFinderPatterns (Model.makeMatrix (Spec.size v)) (Spec.size v)) (Spec.size v) with
  | error e => rw [hm] at h; cases h
  | ok m =>
    rw [hm] at h
    have hr : toRows m = skelRows 0 v := Except.ok.inj h
    rw [Proofs.Mask.functionMatrix_of_ok _ m hm]
    refine congrArg Except.ok ?_
    by_cases hv : v < 1
    · rw [if_pos ((Size.size_lt_21_iff v).2 hv), skelRows_micro v hv 1, hr]
    · have := Size.le_size_qr v (by omega)
      rw [if_neg (by omega), toRows_dark v (by omega) m hr]

theorem pattern_table : ∀ b : Bool, ∀ p, p < (Model.maskPatterns b).length →
    (Model.maskPatterns b).getD p 0 = (if b then Spec.microMaskToQR p else p) ∧ (Model.maskPatterns b).getD p 0 < 8 := by
  decide

theorem maskFn_pattern (v : Int) (p i j : Nat) (hp : p < (Model.maskPatterns (decide (v < 1))).length) :
    (if Model.maskFn ((Model.maskPatterns (decide (v < 1))).getD p 0) i j then 1 else 0) = Spec.maskBit v p i j := by
  obtain ⟨e1, e2⟩ := pattern_table _ p hp
  unfold Spec.maskBit
  rw [Proofs.Mask.maskFn_eq_maskCond _ i j e2, e1]
  rfl

theorem maskBit_le (v : Int) (p i j : Nat) : Spec.maskBit v p i j ≤ 1 := by
  unfold Spec.maskBit
  generalize Spec.maskCond _ i j = c
  cases c <;> simp

theorem addCodewords_spec (v : Int) (bits : List Nat) (m0 m1 : Model.Matrix)
    (hr0 : toRows m0 = skelRows 0 v) (hord : orderOK v = true) (hcols : colsOK v = true)
    (hlen : bits.length = (Spec.dataCoords v).length)
    (hm1 : Model.addCodewords m0 bits v = .ok m1) :
    Placement.Sq m1 (Spec.size v) ∧ (Spec.dataCoords v).map (fun p => Model.get2 m1 p.1 p.2) = bits ∧
      ∀ a b, (a, b) ∉ Spec.dataCoords v → Model.get2 m1 a b = Model.get2 m0 a b := by
  have hsq0 := sq_of_toRows 0 v m0 hr0
  obtain ⟨hnd, hrange⟩ := zigzag_nodup_range v hcols
  -- the cells holding 2 are the data cells
  have hfilter : (zz (Spec.stripColumns v) (Spec.size v)).filter (is2 m0) = Spec.dataCoords v := by
    rw [dataCoords_eq]
    apply List.filter_congr
    intro p hp
    obtain ⟨h1, h2⟩ := hrange p hp
    unfold is2
    rw [cells_of_toRows 0 v m0 hr0 p.1 p.2 h1 h2, Bool.eq_iff_iff, beq_iff_eq]
    exact skelCell_eq_two_iff 0 (by decide) v p.1 p.2
  rw [addCodewords_eq, hsq0.1, order_of_ok v hord] at hm1
  obtain ⟨hnil, hsq1, hmap, hrest⟩ :=
    place_spec (Spec.size v) _ m0 bits hsq0 hnd hrange (by rw [hfilter]; exact hlen)
  simp only [hnil, List.isEmpty_nil, if_true, pure, Except.pure] at hm1
  rw [Except.ok.inj hm1] at hsq1 hmap hrest
  rw [hfilter] at hmap hrest
  exact ⟨hsq1, hmap, hrest⟩

theorem roundtrip_core (v : Int) (bits : List Nat) (fm m0 m1 : Model.Matrix) (mk : Nat)
    (hgeo : m0L (Spec.size v) = .ok (skelRows 0 v)) (hord : orderOK v = true) (hcols : colsOK v = true)
    (hb : ∀ b ∈ bits, b ≤ 1)
    (hlen : bits.length = (Spec.dataCoords v).length)
    (hfm : Model.functionMatrix (Spec.size v) = .ok fm)
    (hm0 : Model.addAlignmentPatterns (Model.addFinderPatterns (Model.makeMatrix (Spec.size v)) (Spec.size v)) (Spec.size v) = .ok m0)
    (hm1 : Model.addCodewords m0 bits v = .ok m1)
    (hmk : mk < (Model.maskPatterns (decide (v < 1))).length) :
    Spec.readDataBits v mk (Model.applyMask m1 fm ((Model.maskPatterns (decide (v < 1))).getD mk 0)) = bits := by
  have hr0 : toRows m0 = skelRows 0 v := by
    have := map_m0 (Spec.size v)
    rw [hm0, hgeo] at this
    exact Except.ok.inj this
  have hrf : toRows fm = skelRows 1 v := by
    have := functionMatrix_rows v hgeo
    rw [hfm] at this
    exact Except.ok.inj this
  obtain ⟨hsq1, hmap, _⟩ := addCodewords_spec v bits m0 m1 hr0 hord hcols hlen hm1
  obtain ⟨_, hrange⟩ := zigzag_nodup_range v hcols
  unfold Spec.readDataBits
  conv => rhs; rw [← hmap]
  apply List.map_congr_left
  intro p hp
  have hpz : p ∈ zz (Spec.stripColumns v) (Spec.size v) ∧ Spec.isData v p.1 p.2 = true := by
    rw [dataCoords_eq] at hp
    exact List.mem_filter.mp hp
  obtain ⟨h1, h2⟩ := hrange p hpz.1
  have hbit : Model.get2 m1 p.1 p.2 ≤ 1 := by
    apply hb
    rw [← hmap]
    exact List.mem_map_of_mem (f := fun p => Model.get2 m1 p.1 p.2) hp
  have hfmc : Model.get2 fm p.1 p.2 > 1 := by
    rw [cells_of_toRows 1 v fm hrf p.1 p.2 h1 h2, (skelCell_eq_two_iff 1 (by decide) v p.1 p.2).mpr hpz.2]
    decide
  have hcell : Spec.cell (Model.applyMask m1 fm ((Model.maskPatterns (decide (v < 1))).getD mk 0)) p.1 p.2
      = Model.get2 m1 p.1 p.2 ^^^ Spec.maskBit v mk p.1 p.2 := by
    show Model.get2 _ _ _ = _
    rw [Proofs.Placement.get2_applyMask_sq fm _ hsq1 h1 h2, if_pos hfmc, maskFn_pattern v mk _ _ hmk]
  rw [hcell]
  have hm := maskBit_le v mk p.1 p.2
  generalize Model.get2 m1 p.1 p.2 = b at hbit ⊢
  generalize Spec.maskBit v mk p.1 p.2 = c at hm ⊢
  have hb' : b = 0 ∨ b = 1 := by omega
  have hc' : c = 0 ∨ c = 1 := by omega
  rcases hb' with rfl | rfl <;> rcases hc' with rfl | rfl <;> rfl

/-- the per-version check (evaluated by the kernel in Proofs/Geometry*.lean): the ISO skeleton has as many data
    cells as EVERY row of Table 9 for the version has bits (so all levels of a version have the same number of
    codewords: they fill the same symbol) -/
def countOK (v : Int) : Bool :=
  Spec.eccTable.all (fun e => e.1 != v ||
    count2 (fastRows 0 v) + (if Spec.fourBitFinal v then 4 else 0)
      == 8 * (e.2.2.map (fun b => b.1 * b.2.1)).foldl (· + ·) 0 + Spec.remainderBits v)

theorem count_of_ok (v : Int) (h : countOK v = true) (hc : colsOK v = true) (lvl : Int)
    (ecc : List (Nat × Nat × Nat)) (hecc : Spec.eccOf v lvl = some ecc) :
    (Spec.dataCoords v).length + (if Spec.fourBitFinal v then 4 else 0)
      = 8 * (ecc.map (fun b => b.1 * b.2.1)).foldl (· + ·) 0 + Spec.remainderBits v := by
  unfold countOK at h
  rw [fastRows_eq, ← dataCoords_length v hc 0 (by decide)] at h
  have := List.all_eq_true.mp h _ (Proofs.Stream.find_key_mem Spec.eccTable v lvl ecc hecc)
  simpa using this

def allVersions : List Int := (List.range 44).map (fun k => Int.ofNat k - 3)

theorem mem_allVersions (v : Int) (h1 : -3 ≤ v) (h2 : v ≤ 40) : v ∈ allVersions := by
  unfold allVersions
  rw [List.mem_map]
  refine ⟨(v + 3).toNat, List.mem_range.mpr (by omega), ?_⟩
  simp only [Int.ofNat_eq_natCast]
  omega

theorem range_of_mem_allVersions (v : Int) (h : v ∈ allVersions) : -3 ≤ v ∧ v ≤ 40 := by
  unfold allVersions at h
  rw [List.mem_map] at h
  obtain ⟨k, hk, rfl⟩ := h
  have := List.mem_range.mp hk
  simp only [Int.ofNat_eq_natCast]
  omega

def stripsOK (v : Int) : Bool := orderOK v && colsOK v

end Proofs.Placement2
