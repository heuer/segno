/-
  Proofs.GeometryC — kernel-checked count of data modules (`countOK`), versions 21 .. 30; declares in `Proofs.Placement2`,
  beside `countOK`.
-/
import Proofs.Placement2

namespace Proofs.Placement2

def versionsC : List Int := [21, 22, 23, 24, 25, 26, 27, 28, 29, 30]

theorem countC : versionsC.all countOK = true := by decide +kernel

end Proofs.Placement2
