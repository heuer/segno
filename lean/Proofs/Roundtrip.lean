/-
  Proofs.Roundtrip — helper lemmas for C01: bit fields read back, and the reference reader
  `Spec.parseChars` inverts the per-mode bit packing of `Model.makeSegment`.
-/
import Proofs.Modes

namespace Proofs.Roundtrip
open Model Proofs.Modes

theorem appendBits_length (v w : Nat) : (appendBits v w).length = w := by
  simp [appendBits]

theorem appendBits_succ (v w : Nat) : appendBits v (w + 1) = appendBits (v / 2) w ++ [v % 2] := by
  unfold appendBits
  rw [List.range_succ, List.map_append]
  congr 1
  · apply List.map_congr_left
    intro k hk
    have hk' : k < w := List.mem_range.1 hk
    have e : w + 1 - 1 - k = 1 + (w - 1 - k) := by omega
    rw [e, Nat.shiftRight_add]; simp [Nat.shiftRight_eq_div_pow]
  · simp

theorem appendBits_append (a w1 : Nat) : ∀ (w2 b : Nat), b < 2 ^ w2 →
    appendBits a w1 ++ appendBits b w2 = appendBits (a * 2 ^ w2 + b) (w1 + w2)
  | 0, b, h => by
    have : b = 0 := by simpa using h
    subst this
    simp [appendBits]
  | w2 + 1, b, h => by
    have h2 : b / 2 < 2 ^ w2 := by rw [Nat.pow_succ] at h; omega
    rw [show w1 + (w2 + 1) = (w1 + w2) + 1 from rfl, appendBits_succ b w2,
      appendBits_succ (a * 2 ^ (w2 + 1) + b) (w1 + w2), ← List.append_assoc,
      appendBits_append a w1 w2 (b / 2) h2]
    have e0 : a * 2 ^ (w2 + 1) = (a * 2 ^ w2) * 2 := by rw [Nat.pow_succ, Nat.mul_assoc]
    have e1 : (a * 2 ^ (w2 + 1) + b) / 2 = a * 2 ^ w2 + b / 2 := by rw [e0]; omega
    have e2 : (a * 2 ^ (w2 + 1) + b) % 2 = b % 2 := by rw [e0]; omega
    rw [e1, e2]

theorem bitsToNat_append_one (l : List Nat) (b : Nat) : Spec.bitsToNat (l ++ [b]) = Spec.bitsToNat l * 2 + b := by
  simp [Spec.bitsToNat, List.foldl_append]

theorem bits_roundtrip : ∀ (w v : Nat), v < 2 ^ w → Spec.bitsToNat (appendBits v w) = v
  | 0, v, h => by
    have : v = 0 := by simpa using h
    subst this; rfl
  | w + 1, v, h => by
    have h2 : v / 2 < 2 ^ w := by rw [Nat.pow_succ] at h; omega
    rw [appendBits_succ, bitsToNat_append_one, bits_roundtrip w (v / 2) h2]
    omega

theorem takeBits_at (st pre post : List Nat) (v w pos : Nat) (hst : st = pre ++ appendBits v w ++ post)
    (hpos : pos = pre.length) (h : v < 2 ^ w) : Spec.takeBits st pos w = some (v, pos + w) := by
  subst hst; subst hpos
  unfold Spec.takeBits
  have hl : pre.length + w ≤ (pre ++ appendBits v w ++ post).length := by
    simp [appendBits_length]
  rw [if_pos hl, List.append_assoc, List.drop_left]
  have : List.take w (appendBits v w ++ post) = appendBits v w := by
    have := List.take_left (l₁ := appendBits v w) (l₂ := post)
    rwa [appendBits_length] at this
  rw [this, bits_roundtrip w v h]

theorem payloadBits_1 (n : Nat) : Spec.payloadBits 1 n = (10 * n + 2) / 3 := by
  simp only [Spec.payloadBits, beq_iff_eq]
  split
  · omega
  · split <;> omega

theorem payloadBits_mono (m a b : Nat) (h : a ≤ b) : Spec.payloadBits m a ≤ Spec.payloadBits m b := by
  by_cases h1 : m = 1
  · rw [h1, payloadBits_1, payloadBits_1]; omega
  · unfold Spec.payloadBits
    split
    · exact absurd rfl h1
    all_goals omega

theorem byteBits_cons (b : Nat) (rest : List Nat) : byteBits (b :: rest) = appendBits b 8 ++ byteBits rest := by
  simp [byteBits]

theorem parse_byte (st post : List Nat) : ∀ (data pre acc : List Nat) (pos : Nat),
    st = pre ++ byteBits data ++ post → pos = pre.length → (∀ b ∈ data, b < 256) →
    Spec.parseChars st 4 data.length pos acc = .ok (acc ++ data, pos + (byteBits data).length)
  | [], pre, acc, pos, _, _, _ => by
    rw [List.length_nil, Spec.parseChars]; simp [byteBits]
  | b :: rest, pre, acc, pos, hst, hpos, hd => by
    have hb : b < 2 ^ 8 := hd b (List.mem_cons_self ..)
    have ht := takeBits_at st pre (byteBits rest ++ post) b 8 pos
      (by rw [hst, byteBits_cons]; simp only [List.append_assoc]) hpos hb
    rw [List.length_cons, Spec.parseChars, ht]
    show Spec.parseChars st 4 rest.length (pos + 8) (acc ++ [b]) = _
    rw [parse_byte st post rest (pre ++ appendBits b 8) (acc ++ [b]) (pos + 8)
      (by rw [hst, byteBits_cons]; simp only [List.append_assoc])
      (by rw [List.length_append, appendBits_length, hpos])
      (fun x hx => hd x (List.mem_cons_of_mem _ hx))]
    rw [byteBits_cons, List.length_append, appendBits_length]
    simp only [List.append_assoc, List.singleton_append, Nat.add_assoc]

theorem shr8 (d : Nat) : d >>> 8 = d / 256 := by rw [Nat.shiftRight_eq_div_pow]
theorem and255 (d : Nat) : d &&& 255 = d % 256 := Nat.and_two_pow_sub_one_eq_mod d 8

/-- the way back from a 13-bit value to the Shift JIS code, as the kanji branch of `Spec.parseChars` has it -/
def kanjiCode (x : Nat) : Nat :=
  let t := (x / 0xC0) * 256 + x % 0xC0
  if t + 0x8140 ≤ 0x9ffc then t + 0x8140 else t + 0xc140

/-- the same for the hanzi branch and GB2312 -/
def hanziCode (x : Nat) : Nat :=
  let t := (x / 0x60) * 256 + x % 0x60
  if t + 0xa1a1 ≤ 0xaafe then t + 0xa1a1 else t + 0xa6a1

theorem kanji_arith (hi lo : Nat) (h : Spec.isKanjiPair hi lo = true) :
    kanjiVal hi lo < 2 ^ 13 ∧ lo < 256 ∧ kanjiCode (kanjiVal hi lo) = hi * 256 + lo := by
  simp only [Spec.isKanjiPair, Bool.and_eq_true, Bool.or_eq_true, decide_eq_true_eq, bne_iff_ne, ne_eq] at h
  unfold kanjiCode kanjiVal
  simp only [shr8, and255]
  split <;> split <;> omega

theorem hanzi_arith (hi lo : Nat) (h : Spec.isHanziPair hi lo = true) :
    hanziVal hi lo < 2 ^ 13 ∧ lo < 256 ∧ hanziCode (hanziVal hi lo) = hi * 256 + lo := by
  simp only [Spec.isHanziPair, Bool.and_eq_true, Bool.or_eq_true, decide_eq_true_eq] at h
  unfold hanziCode hanziVal
  simp only [shr8, and255]
  split <;> split <;> omega

theorem pairBits_cons (val : Nat → Nat → Nat) (a b : Nat) (rest : List Nat) :
    pairBits val (a :: b :: rest) = appendBits (val a b) 13 ++ pairBits val rest := by
  simp [pairBits, pairs]

/-- a reader in mode `m` that takes 13 bits `x` and appends the two bytes of `code x` reads `pairBits val data` back,
    when `code` inverts `val` on the pairs `P` admits: the kanji and the hanzi branch of `Spec.parseChars` -/
theorem parse_pairs (m : Nat) (P : Nat → Nat → Bool) (val : Nat → Nat → Nat) (code : Nat → Nat)
    (hstep : ∀ st n pos acc x p, Spec.takeBits st pos 13 = some (x, p) →
      Spec.parseChars st m (n + 1) pos acc = Spec.parseChars st m n p (acc ++ [code x / 256, code x % 256]))
    (hinv : ∀ hi lo, P hi lo = true → val hi lo < 2 ^ 13 ∧ lo < 256 ∧ code (val hi lo) = hi * 256 + lo)
    (st post : List Nat) : ∀ (data pre acc : List Nat) (pos : Nat),
    st = pre ++ pairBits val data ++ post → pos = pre.length → Spec.allPairs P data = true →
    Spec.parseChars st m (data.length / 2) pos acc = .ok (acc ++ data, pos + (pairBits val data).length)
  | [], pre, acc, pos, _, _, _ => by
    rw [List.length_nil, Spec.parseChars]; simp [pairBits, pairs]
  | [_], _, _, _, _, _, h => by simp [Spec.allPairs] at h
  | a :: b :: rest, pre, acc, pos, hst, hpos, hd => by
    rw [Spec.allPairs, Bool.and_eq_true] at hd
    obtain ⟨hv, hlo, hc⟩ := hinv a b hd.1
    have ht := takeBits_at st pre (pairBits val rest ++ post) (val a b) 13 pos
      (by rw [hst, pairBits_cons]; simp only [List.append_assoc]) hpos hv
    have hlen : (a :: b :: rest).length / 2 = rest.length / 2 + 1 := by
      simp only [List.length_cons]; omega
    rw [hlen, hstep _ _ _ _ _ _ ht, hc, show (a * 256 + b) / 256 = a by omega, show (a * 256 + b) % 256 = b by omega]
    rw [parse_pairs m P val code hstep hinv st post rest (pre ++ appendBits (val a b) 13) (acc ++ [a, b]) (pos + 13)
      (by rw [hst, pairBits_cons]; simp only [List.append_assoc])
      (by rw [List.length_append, appendBits_length, hpos]) hd.2]
    rw [pairBits_cons, List.length_append, appendBits_length]
    simp only [List.append_assoc, List.cons_append, List.nil_append, Nat.add_assoc]

theorem chunks_fuel (k : Nat) (hk : 0 < k) : ∀ (f1 f2 : Nat) (l : List Nat), l.length ≤ f1 → l.length ≤ f2 →
    chunks k f1 l = chunks k f2 l
  | 0, f2, l, h1, _ => by
    have : l = [] := List.eq_nil_of_length_eq_zero (by omega)
    subst this
    cases f2 <;> rfl
  | f1 + 1, 0, l, _, h2 => by
    have : l = [] := List.eq_nil_of_length_eq_zero (by omega)
    subst this; rfl
  | f1 + 1, f2 + 1, [], _, _ => rfl
  | f1 + 1, f2 + 1, x :: xs, h1, h2 => by
    simp only [chunks]
    congr 1
    apply chunks_fuel k hk
    · simp only [List.length_drop, List.length_cons] at h1 ⊢; omega
    · simp only [List.length_drop, List.length_cons] at h2 ⊢; omega

theorem isDigit_range (b : Nat) (h : Spec.isDigit b = true) : 48 ≤ b ∧ b ≤ 57 := by
  simpa [Spec.isDigit] using h

theorem digits3 (a b c : Nat) (ha : 48 ≤ a ∧ a ≤ 57) (hb : 48 ≤ b ∧ b ≤ 57) (hc : 48 ≤ c ∧ c ≤ 57) :
    digitsVal [a, b, c] < 1000 ∧ Spec.digits 3 (digitsVal [a, b, c]) = [a, b, c] := by
  simp [digitsVal, Spec.digits, List.range, List.range.loop]
  omega

theorem digits2 (a b : Nat) (ha : 48 ≤ a ∧ a ≤ 57) (hb : 48 ≤ b ∧ b ≤ 57) :
    digitsVal [a, b] < 100 ∧ Spec.digits 2 (digitsVal [a, b]) = [a, b] := by
  simp [digitsVal, Spec.digits, List.range, List.range.loop]
  omega

theorem digits1 (a : Nat) (ha : 48 ≤ a ∧ a ≤ 57) :
    digitsVal [a] < 10 ∧ Spec.digits 1 (digitsVal [a]) = [a] := by
  simp [digitsVal, Spec.digits, List.range, List.range.loop]
  omega

theorem numBits_nil : numBits [] = [] := rfl
theorem numBits_one (a : Nat) : numBits [a] = appendBits (digitsVal [a]) 4 := by
  simp [numBits, chunks]
theorem numBits_two (a b : Nat) : numBits [a, b] = appendBits (digitsVal [a, b]) 7 := by
  simp [numBits, chunks]
theorem numBits_cons3 (a b c : Nat) (rest : List Nat) :
    numBits (a :: b :: c :: rest) = appendBits (digitsVal [a, b, c]) 10 ++ numBits rest := by
  unfold numBits
  have : chunks 3 (rest.length + 2) rest = chunks 3 rest.length rest :=
    chunks_fuel 3 (by decide) _ _ rest (by omega) (by omega)
  simp [chunks, this]

/-- stated in the middle of a stream (`pre` read, `acc` collected, `post` to come) so that the recursion goes through; each case
    reads one group of 3, 2 or 1 digits with `takeBits_at` and decodes it with `digits3` / `digits2` / `digits1` -/
theorem parse_num (st post : List Nat) : ∀ (data pre acc : List Nat) (pos : Nat),
    st = pre ++ numBits data ++ post → pos = pre.length → (∀ b ∈ data, Spec.isDigit b = true) →
    Spec.parseChars st 1 data.length pos acc = .ok (acc ++ data, pos + (numBits data).length)
  | [], pre, acc, pos, _, _, _ => by
    rw [List.length_nil, Spec.parseChars]; simp [numBits_nil]
  | [a], pre, acc, pos, hst, hpos, hd => by
    obtain ⟨hv, hdg⟩ := digits1 a (isDigit_range a (hd a (by simp)))
    have ht := takeBits_at st pre post (digitsVal [a]) 4 pos (by rw [hst, numBits_one]) hpos (by omega)
    rw [show [a].length = 0 + 1 from rfl, Spec.parseChars, if_neg (by omega), if_neg (by decide), ht]
    dsimp only
    rw [if_pos hv, hdg, numBits_one, appendBits_length]
  | [a, b], pre, acc, pos, hst, hpos, hd => by
    obtain ⟨hv, hdg⟩ := digits2 a b (isDigit_range a (hd a (by simp))) (isDigit_range b (hd b (by simp)))
    have ht := takeBits_at st pre post (digitsVal [a, b]) 7 pos (by rw [hst, numBits_two]) hpos (by omega)
    rw [show [a, b].length = 1 + 1 from rfl, Spec.parseChars, if_neg (by omega), if_pos (by decide), ht]
    dsimp only
    rw [if_pos hv, hdg, numBits_two, appendBits_length]
  | a :: b :: c :: rest, pre, acc, pos, hst, hpos, hd => by
    obtain ⟨hv, hdg⟩ := digits3 a b c (isDigit_range a (hd a (by simp))) (isDigit_range b (hd b (by simp)))
      (isDigit_range c (hd c (by simp)))
    have ht := takeBits_at st pre (numBits rest ++ post) (digitsVal [a, b, c]) 10 pos
      (by rw [hst, numBits_cons3]; simp only [List.append_assoc]) hpos (by omega)
    rw [show (a :: b :: c :: rest).length = (rest.length + 2) + 1 from rfl, Spec.parseChars,
      if_pos (by omega), ht]
    dsimp only
    rw [if_pos hv, hdg]
    rw [parse_num st post rest (pre ++ appendBits (digitsVal [a, b, c]) 10) (acc ++ [a, b, c]) (pos + 10)
      (by rw [hst, numBits_cons3]; simp only [List.append_assoc])
      (by rw [List.length_append, appendBits_length, hpos])
      (fun x hx => hd x (by simp [hx]))]
    rw [numBits_cons3, List.length_append, appendBits_length]
    simp only [List.append_assoc, List.cons_append, List.nil_append, Nat.add_assoc]

theorem alnum_table_check : Gen.ALPHANUMERIC_CHARS.all (fun a =>
    decide (alnumIndex a < 45) && (Spec.alnumChars.getD (alnumIndex a) ' ').toNat == a) = true := by
  decide +kernel

theorem alnum_index (a : Nat) (h : Spec.isAlnum a = true) :
    alnumIndex a < 45 ∧ (Spec.alnumChars.getD (alnumIndex a) ' ').toNat = a := by
  rw [← isAlnumByte_eq] at h
  have hm : a ∈ Gen.ALPHANUMERIC_CHARS := by simpa [isAlnumByte] using h
  have := List.all_eq_true.1 alnum_table_check a hm
  simpa using this

theorem alnumBits_nil : alnumBits [] = [] := rfl
theorem alnumBits_one (a : Nat) : alnumBits [a] = appendBits (alnumIndex a) 6 := by
  simp [alnumBits, chunks]
theorem alnumBits_cons2 (a b : Nat) (rest : List Nat) :
    alnumBits (a :: b :: rest) = appendBits (alnumIndex a * 45 + alnumIndex b) 11 ++ alnumBits rest := by
  unfold alnumBits
  have : chunks 2 (rest.length + 1) rest = chunks 2 rest.length rest :=
    chunks_fuel 2 (by decide) _ _ rest (by omega) (by omega)
  simp [chunks, this]

theorem parse_alnum (st post : List Nat) : ∀ (data pre acc : List Nat) (pos : Nat),
    st = pre ++ alnumBits data ++ post → pos = pre.length → (∀ b ∈ data, Spec.isAlnum b = true) →
    Spec.parseChars st 2 data.length pos acc = .ok (acc ++ data, pos + (alnumBits data).length)
  | [], pre, acc, pos, _, _, _ => by
    rw [List.length_nil, Spec.parseChars]; simp [alnumBits_nil]
  | [a], pre, acc, pos, hst, hpos, hd => by
    obtain ⟨hv, hc⟩ := alnum_index a (hd a (by simp))
    have ht := takeBits_at st pre post (alnumIndex a) 6 pos (by rw [hst, alnumBits_one]) hpos (by omega)
    rw [show [a].length = 0 + 1 from rfl, Spec.parseChars, if_neg (by omega), ht]
    dsimp only
    rw [if_pos hv, hc, alnumBits_one, appendBits_length]
  | a :: b :: rest, pre, acc, pos, hst, hpos, hd => by
    obtain ⟨hva, hca⟩ := alnum_index a (hd a (by simp))
    obtain ⟨hvb, hcb⟩ := alnum_index b (hd b (by simp))
    have ht := takeBits_at st pre (alnumBits rest ++ post) (alnumIndex a * 45 + alnumIndex b) 11 pos
      (by rw [hst, alnumBits_cons2]; simp only [List.append_assoc]) hpos (by omega)
    rw [show (a :: b :: rest).length = (rest.length + 1) + 1 from rfl, Spec.parseChars,
      if_pos (by omega), ht]
    dsimp only
    rw [if_pos (by omega), show (alnumIndex a * 45 + alnumIndex b) / 45 = alnumIndex a by omega,
      show (alnumIndex a * 45 + alnumIndex b) % 45 = alnumIndex b by omega, hca, hcb]
    rw [parse_alnum st post rest (pre ++ appendBits (alnumIndex a * 45 + alnumIndex b) 11) (acc ++ [a, b]) (pos + 11)
      (by rw [hst, alnumBits_cons2]; simp only [List.append_assoc])
      (by rw [List.length_append, appendBits_length, hpos])
      (fun x hx => hd x (by simp [hx]))]
    rw [alnumBits_cons2, List.length_append, appendBits_length]
    simp only [List.append_assoc, List.cons_append, List.nil_append, Nat.add_assoc]

/-- outside byte mode the bytes are bounded by their validation (`hr`), hence `hd` for byte mode only -/
theorem pack_roundtrip (m : Nat) (data pre post : List Nat) (hm : m ∈ [1, 2, 4, 8, 13])
    (hr : Spec.representable m data = true) (hd : m = 4 → ∀ b ∈ data, b < 256) :
    Spec.parseChars (pre ++ packBits m data ++ post) m (Spec.charCount m data.length) pre.length []
      = .ok (data, pre.length + (packBits m data).length) := by
  simp only [List.mem_cons, List.mem_nil_iff, or_false] at hm
  rcases hm with rfl | rfl | rfl | rfl | rfl
  · exact parse_num _ post data pre [] pre.length rfl rfl (List.all_eq_true.1 (Bool.and_eq_true_iff.1 hr).2)
  · exact parse_alnum _ post data pre [] pre.length rfl rfl (List.all_eq_true.1 (Bool.and_eq_true_iff.1 hr).2)
  · exact parse_byte _ post data pre [] pre.length rfl rfl (hd rfl)
  · exact parse_pairs 8 _ kanjiVal kanjiCode (fun _ _ _ _ _ _ h => by rw [Spec.parseChars, h]; rfl) kanji_arith
      _ post data pre [] pre.length rfl rfl hr
  · exact parse_pairs 13 _ hanziVal hanziCode (fun _ _ _ _ _ _ h => by rw [Spec.parseChars, h]; rfl) hanzi_arith
      _ post data pre [] pre.length rfl rfl hr

theorem segment_roundtrip (data : List Nat) (mode : Option Nat) (enc : String) (s : Segment)
    (pre post : List Nat) (hd : ∀ b ∈ data, b < 256)
    (hm : mode ∈ [none, some 1, some 2, some 4, some 8, some 13])
    (h : makeSegment data mode enc = .ok s) :
    Spec.parseChars (pre ++ s.bits ++ post) s.mode s.charCount pre.length []
      = .ok (data, pre.length + s.bits.length) := by
  obtain ⟨m, hm, hr, rfl⟩ := makeSegment_ok_cases data mode enc s hm h
  exact pack_roundtrip m data pre post hm hr fun _ => hd

end Proofs.Roundtrip
