/-
  Proofs.Colormap — `_make_colormap` is a dict literal filtered by `unsupported`: `lacks` reads
  `unsupported` by region, the look-up goes through the filter, and the map is also written out.
  Which keys the size of a version keeps (`lacks_size`), and a module of each such region.
-/
import Model.Colormap
import Spec.Raster
import Proofs.Align
import Proofs.IterShape
import Proofs.PngPalette

namespace Proofs.Colormap

open Model Spec

/-- the keyword option that configures the modules of region `k` with value `val` -/
def optionFor {α : Type} (o : TypeOpts α) (k : Kind) (val : Nat) : Option α :=
  match k with
  | .finder => if val != 0 then o.finder_dark else o.finder_light
  | .separator => o.separator
  | .alignment => if val != 0 then o.alignment_dark else o.alignment_light
  | .timing => if val != 0 then o.timing_dark else o.timing_light
  | .format => if val != 0 then o.format_dark else o.format_light
  | .version => if val != 0 then o.version_dark else o.version_light
  | .darkmodule => o.dark_module
  | .data => if val != 0 then o.data_dark else o.data_light

/-- the size classes (matrix of `w` × `h` modules) whose key for region `k` is dropped:
    no version information below 45 modules (version 7), no dark module and no alignment pattern
    below 21 modules (Micro QR Codes); non-square matrices as the code treats them -/
def lacks (w h : Nat) (k : Kind) : Bool :=
  match k with
  | .version => w != h || w < 45
  | .darkmodule => w != h || w < 21
  | .alignment => if w != h then w < 43 else w < 21
  | _ => false

/-- type code and option depend on the module value only through "zero or not" -/
theorem val_bit (val : Nat) : ∃ b : Bool, ∀ k, typeCode k val = typeCode k b.toNat ∧
    ∀ {α : Type} (o : TypeOpts α), optionFor o k val = optionFor o k b.toNat := by
  cases val with
  | zero => exact ⟨false, fun _ => ⟨rfl, fun _ => rfl⟩⟩
  | succ n =>
    refine ⟨true, fun k => ⟨?_, fun o => ?_⟩⟩
    · simp only [typeCode]; rfl
    · simp only [optionFor]; rfl

theorem contains_unsupported (w h : Nat) (k : Kind) (val : Nat) :
    (unsupportedTypes w h).contains (typeCode k val) = lacks w h k := by
  obtain ⟨b, hb⟩ := val_bit val
  rw [(hb k).1]
  have h2145 : ¬ w < 45 → ¬ w < 21 := by omega
  unfold unsupportedTypes lacks
  cases w != h
  · by_cases h45 : w < 45
    · by_cases h21 : w < 21 <;>
        simp only [h45, h21, Bool.false_eq_true, if_false, if_true, decide_true, decide_false, Bool.false_or] <;>
        cases k <;> cases b <;> rfl
    · simp only [h45, h2145 h45, Bool.false_eq_true, if_false, decide_false, Bool.false_or]
      cases k <;> cases b <;> rfl
  · by_cases h43 : w < 43 <;> simp only [h43, if_false, if_true, decide_true, decide_false, Bool.true_or] <;>
      cases k <;> cases b <;> rfl

theorem cmGet_mt2color {α : Type} (dark light : α) (o : TypeOpts α) (k : Kind) (val : Nat) :
    cmGet (mt2color dark light o) (typeCode k val) =
      some ((optionFor o k val).getD (if isDarkType (typeCode k val) then dark else light)) := by
  obtain ⟨b, hb⟩ := val_bit val
  rw [(hb k).1, (hb k).2]
  cases k <;> cases b <;> rfl

theorem mt2color_keys {α : Type} (dark light : α) (o : TypeOpts α) :
    ∀ e ∈ mt2color dark light o, e.1 = typeQuietZone ∨ ∃ k val, e.1 = typeCode k val := by
  simp only [mt2color, List.forall_mem_cons]
  exact ⟨.inr ⟨.finder, 1, rfl⟩, .inr ⟨.finder, 0, rfl⟩, .inr ⟨.data, 1, rfl⟩, .inr ⟨.data, 0, rfl⟩,
    .inr ⟨.version, 1, rfl⟩, .inr ⟨.version, 0, rfl⟩, .inr ⟨.alignment, 1, rfl⟩, .inr ⟨.alignment, 0, rfl⟩,
    .inr ⟨.timing, 1, rfl⟩, .inr ⟨.timing, 0, rfl⟩, .inr ⟨.format, 1, rfl⟩, .inr ⟨.format, 0, rfl⟩,
    .inr ⟨.separator, 0, rfl⟩, .inr ⟨.darkmodule, 1, rfl⟩, .inl rfl, nofun⟩

theorem makeColormap_eq {α : Type} (w h : Nat) (dark light : α) (o : TypeOpts α) :
    makeColormap w h dark light o =
      [(typeCode .finder 1, o.finder_dark.getD dark), (typeCode .finder 0, o.finder_light.getD light),
       (typeCode .data 1, o.data_dark.getD dark), (typeCode .data 0, o.data_light.getD light)]
      ++ (if lacks w h .version then [] else
            [(typeCode .version 1, o.version_dark.getD dark), (typeCode .version 0, o.version_light.getD light)])
      ++ (if lacks w h .alignment then [] else
            [(typeCode .alignment 1, o.alignment_dark.getD dark), (typeCode .alignment 0, o.alignment_light.getD light)])
      ++ [(typeCode .timing 1, o.timing_dark.getD dark), (typeCode .timing 0, o.timing_light.getD light),
          (typeCode .format 1, o.format_dark.getD dark), (typeCode .format 0, o.format_light.getD light),
          (typeCode .separator 0, o.separator.getD light)]
      ++ (if lacks w h .darkmodule then [] else [(typeCode .darkmodule 1, o.dark_module.getD dark)])
      ++ [(typeQuietZone, o.quiet_zone.getD light)] := by
  have h2145 : ¬ w < 45 → ¬ w < 21 := by omega
  simp only [makeColormap, unsupportedTypes, lacks]
  rcases Bool.eq_false_or_eq_true (w != h) with hb | hb
  · by_cases h43 : w < 43 <;> simp only [hb, h43, if_false, if_true, decide_true, decide_false, Bool.true_or] <;> rfl
  · by_cases h45 : w < 45
    · by_cases h21 : w < 21 <;>
        simp only [hb, h45, h21, Bool.false_eq_true, if_false, if_true, decide_true, decide_false, Bool.false_or] <;>
        rfl
    · simp only [hb, h45, h2145 h45, Bool.false_eq_true, if_false, decide_false, Bool.false_or]
      rfl

theorem colormap_fallback {α : Type} (w h : Nat) (dark light : α) (o : TypeOpts α) (k : Kind) (val : Nat) :
    cmGet (makeColormap w h dark light o) (typeCode k val) =
      if lacks w h k then none
      else some ((optionFor o k val).getD (if isDarkType (typeCode k val) then dark else light)) := by
  rw [makeColormap, Proofs.Png.cmGet_filter _ (fun t => !(unsupportedTypes w h).contains t), contains_unsupported, cmGet_mt2color]
  cases lacks w h k <;> rfl

theorem quiet_supported (w h : Nat) : (unsupportedTypes w h).contains Gen.TYPE_QUIET_ZONE = false := by
  unfold unsupportedTypes
  split
  · split <;> rfl
  · split
    · split <;> rfl
    · rfl

theorem colormap_quiet_zone {α : Type} (w h : Nat) (dark light : α) (o : TypeOpts α) :
    cmGet (makeColormap w h dark light o) Gen.TYPE_QUIET_ZONE = some (o.quiet_zone.getD light) := by
  rw [makeColormap, Proofs.Png.cmGet_filter _ (fun t => !(unsupportedTypes w h).contains t), quiet_supported]
  rfl

theorem colormap_finder_dark {α : Type} (w h : Nat) (dark light : α) (o : TypeOpts α) :
    cmGet (makeColormap w h dark light o) Gen.TYPE_FINDER_PATTERN_DARK = some (o.finder_dark.getD dark) :=
  colormap_fallback w h dark light o .finder 1

theorem colormap_data_dark {α : Type} (w h : Nat) (dark light : α) (o : TypeOpts α) :
    cmGet (makeColormap w h dark light o) Gen.TYPE_DATA_DARK = some (o.data_dark.getD dark) :=
  colormap_fallback w h dark light o .data 1

theorem lacks_size (v : Int) (h1 : -3 ≤ v) :
    (lacks (size v) (size v) .version = false ↔ 7 ≤ v) ∧ (lacks (size v) (size v) .darkmodule = false ↔ 1 ≤ v)
    ∧ (lacks (size v) (size v) .alignment = false ↔ 1 ≤ v) := by
  unfold lacks
  rcases Size.size_cases v h1 with h | h <;> simp <;> omega

theorem version_witness (v : Int) (h7 : 7 ≤ v) : ∃ i j, i < size v ∧ j < size v ∧ kind v i j = .version := by
  have hn := Size.size_qr v (by omega)
  refine ⟨0, size v - 11, by omega, by omega, ?_⟩
  rw [IterShape.kind_eq_kindQR v (by omega), IterShape.kindQR]
  generalize size v = n at hn ⊢
  rw [if_neg, if_neg, if_neg, if_neg, if_pos]
  all_goals simp only [Bool.and_eq_true, Bool.or_eq_true, decide_eq_true_eq, beq_iff_eq]
  all_goals omega

theorem darkmodule_witness (v : Int) (h1 : 1 ≤ v) : ∃ i j, i < size v ∧ j < size v ∧ kind v i j = .darkmodule := by
  have hn := Size.size_qr v h1
  refine ⟨size v - 8, 8, by omega, by omega, ?_⟩
  rw [IterShape.kind_eq_kindQR v h1, IterShape.kindQR]
  generalize size v = n at hn ⊢
  rw [if_neg, if_neg, if_pos]
  all_goals simp only [Bool.and_eq_true, Bool.or_eq_true, decide_eq_true_eq, beq_iff_eq, and_true]
  all_goals omega

theorem alignment_witness (v : Int) (h2 : 2 ≤ v) (h40 : v ≤ 40) :
    ∃ i j, i < size v ∧ j < size v ∧ kind v i j = .alignment := by
  have hn := Size.size_qr v (by omega)
  have hc := (Align.centres_of_version v h2 h40).2
  exact ⟨size v - 7, size v - 7, by omega, by omega,
    Align.kind_alignment v h2 _ _ hc (Align.inAlignment_last hc (by omega))⟩

end Proofs.Colormap
