/-
  Proofs.HelpersEpc — the model of `_make_epc_qr_data` as the gates an accepted call passes
  (`epcData_eq_some_iff`), and the layout of its result: the text splits at LF into the ten or eleven lines of
  EPC069-12 version 002, in order.
-/
import Proofs.HelpersGeo

namespace Proofs.Helpers
open Spec.Helpers
open Model.Helpers (digitChar decDigits rstrip fmtAmount newlineJoin epcData truthy mapTruthy stripWs rstripWs roundHalfEven
  epcLines epcText epcReference epcBic epcName epcRefusedByLimits epcEncodingArg)

theorem rstripWs_sublist (s : Str) : (rstripWs s).Sublist s := rstripBy_sublist _ s

theorem stripWs_sublist (s : Str) : (stripWs s).Sublist s :=
  (rstripWs_sublist _).trans (List.dropWhile_sublist _)

theorem rstripWs_nil : rstripWs [] = [] := rfl
theorem stripWs_nil : stripWs [] = [] := rfl

theorem truthy_eq (o : Option Str) : truthy o = !(o.getD []).isEmpty := by
  cases o <;> rfl

theorem getD_mapTruthy (f : Str → Str) (hf : f [] = []) (o : Option Str) : (mapTruthy f o).getD [] = f (o.getD []) := by
  rcases o with _ | _ | _ <;> simp [mapTruthy, hf]

theorem truthy_mapTruthy (f : Str → Str) (hf : f [] = []) (o : Option Str) :
    truthy (mapTruthy f o) = !(f (o.getD [])).isEmpty := by
  rw [truthy_eq, getD_mapTruthy f hf]

theorem isNone_mapTruthy (f : Str → Str) (o : Option Str) : (mapTruthy f o).isNone = o.isNone := by
  rcases o with _ | _ | _ <;> simp [mapTruthy]

/-- the character set number the code settles on: the requested one, else the first codec of
    `encodings[1:]` (numbered from 2) that can represent the text, else 1 -/
def epcCharsetOf (canName : String → Bool) : Option Nat → Nat
  | some k => k
  | none => match ((Gen.EPC_ENCODINGS.drop 1).zipIdx 2).find? (fun p => canName p.1) with
    | some p => p.2
    | none => 1

def epcPayload (a : EpcArgs) (k : Nat) : Str :=
  newlineJoin (epcLines a k (roundHalfEven (100 * a.amount.num) a.amount.den))

/-- `len(data.encode(codec))` as the code computes it -/
def encodedLen (codec : String) (s : Str) : Nat := if codec == "utf-8" then Model.Helpers.utf8Len s else s.length

theorem epcData_eq (a : EpcArgs) (canName : String → Bool) :
    epcData a canName =
      match epcEncodingArg a.encoding with
      | none => none
      | some enc =>
        if epcRefusedByLimits a then none
        else
          let k := epcCharsetOf canName enc
          let codec := Gen.EPC_ENCODINGS.getD (k - 1) ""
          if !canName codec then none
          else if encodedLen codec (epcPayload a k) > Gen.EPC_MAX_BYTES then none else some (k, epcPayload a k) := by
  unfold epcData
  cases epcEncodingArg a.encoding with
  | none => rfl
  | some enc => cases enc <;> rfl

theorem epcData_eq_some_iff (a : EpcArgs) (canName : String → Bool) (k : Nat) (t : Str) :
    epcData a canName = some (k, t) ↔
      ∃ enc, epcEncodingArg a.encoding = some enc ∧ epcRefusedByLimits a = false ∧ k = epcCharsetOf canName enc
        ∧ canName (Gen.EPC_ENCODINGS.getD (k - 1) "") = true
        ∧ encodedLen (Gen.EPC_ENCODINGS.getD (k - 1) "") t ≤ Gen.EPC_MAX_BYTES ∧ t = epcPayload a k := by
  rw [epcData_eq]
  constructor
  · intro h
    split at h
    · cases h
    next enc henc =>
      simp only at h
      split at h
      · cases h
      next hl =>
        split at h
        · cases h
        next hc =>
          split at h
          · cases h
          next hs =>
            cases h
            exact ⟨enc, henc, by simpa using hl, rfl, by simpa using hc, by omega, rfl⟩
  · rintro ⟨enc, h1, h2, rfl, h4, h5, rfl⟩
    simp only [h1, h2, h4, Bool.false_eq_true, if_false, Bool.not_true, if_neg (Nat.not_lt.mpr h5)]

def NoLF (s : List Char) : Prop := ∀ c ∈ s, c ≠ '\n'

theorem splitPlain_newlineJoin (L : List Str) (hne : L ≠ []) (h : ∀ l ∈ L, NoLF l) :
    splitPlain '\n' (newlineJoin L) = L := by
  induction L with
  | nil => exact absurd rfl hne
  | cons x rest ih =>
    cases rest with
    | nil => simp [newlineJoin, splitPlain_none '\n' x (h x (by simp))]
    | cons y more =>
      have := ih (by simp) (fun l hl => h l (by simp [hl]))
      simp only [newlineJoin] at this ⊢
      rw [splitPlain_cons_delim '\n' x _ (h x (by simp)), this]

theorem NoLF.nil : NoLF [] := fun _ hc => absurd hc List.not_mem_nil

theorem NoLF.sublist {s t : List Char} (ht : NoLF t) (h : s.Sublist t) : NoLF s := fun c hc => ht c (h.subset hc)

theorem NoLF.ite {p : Prop} [Decidable p] {s : List Char} (h : NoLF s) : NoLF (if p then s else []) := by
  split
  · exact h
  · exact NoLF.nil

theorem NoLF.getD {o : Option Str} (h : ∀ s, o = some s → NoLF s) : NoLF (o.getD []) := by
  cases o with
  | none => exact NoLF.nil
  | some s => exact h s rfl

theorem NoLF.digits {s : List Char} (h : IsDigits s) : NoLF s := by
  intro c hc e
  have := h c hc
  rw [e] at this
  cases this

theorem mem_fmtAmount {cents : Nat} {c : Char} (h : c ∈ fmtAmount cents) : isDigit c = true ∨ c ∈ ['E', 'U', 'R', '.'] := by
  have h := mem_rstrip (mem_rstrip h)
  simp only [List.mem_append, List.mem_cons, List.not_mem_nil, or_false] at h
  rcases h with (h | h) | h | h | h
  · rcases h with rfl | rfl | rfl <;> exact .inr (by decide)
  · exact .inl (decDigits_isDigits _ c h)
  · right; simp [h]
  · exact .inl (h ▸ isDigit_digitChar _)
  · exact .inl (h ▸ isDigit_digitChar _)

theorem fmtAmount_noLF (cents : Nat) : NoLF (fmtAmount cents) := by
  intro c hc e
  subst e
  rcases mem_fmtAmount hc with h | h
  · cases h
  · revert h; decide

theorem epc_split (a : EpcArgs) (canName : String → Bool) (k : Nat) (t : Str) (h : epcData a canName = some (k, t))
    (hname : ∀ s, a.name = some s → NoLF s) (hiban : ∀ s, a.iban = some s → NoLF s) (htext : ∀ s, a.text = some s → NoLF s)
    (href : ∀ s, a.reference = some s → NoLF s) (hbic : ∀ s, a.bic = some s → NoLF s) (hpur : ∀ s, a.purpose = some s → NoLF s) :
    splitPlain '\n' t = epcLines a k (roundHalfEven (100 * a.amount.num) a.amount.den) := by
  obtain ⟨_, _, _, _, _, _, rfl⟩ := (epcData_eq_some_iff a canName k t).mp h
  apply splitPlain_newlineJoin
  · simp [epcLines]
  · -- stripping whitespace brings no line feed into a field
    have nb : NoLF ((epcBic a).getD []) := getD_mapTruthy _ stripWs_nil _ ▸ (NoLF.getD hbic).sublist (stripWs_sublist _)
    have nn : NoLF ((epcName a).getD []) := getD_mapTruthy _ stripWs_nil _ ▸ (NoLF.getD hname).sublist (stripWs_sublist _)
    have nr : NoLF ((epcReference a).getD []) := getD_mapTruthy _ rstripWs_nil _ ▸ (NoLF.getD href).sublist (rstripWs_sublist _)
    have nt : NoLF ((epcText a).getD []) := getD_mapTruthy _ rstripWs_nil _ ▸ (NoLF.getD htext).sublist (rstripWs_sublist _)
    simp only [epcLines, List.forall_mem_append, List.forall_mem_cons]
    have const : ∀ s : Str, (∀ c ∈ s, c ≠ '\n') → NoLF s := fun _ h => h
    refine ⟨⟨const _ (by decide), const _ (by decide), ?_, const _ (by decide), nb.ite, nn, NoLF.getD hiban,
      fmtAmount_noLF _, (NoLF.getD hpur).ite, nr.ite, ?_⟩, ?_⟩
    · split
      · exact NoLF.nil
      · exact NoLF.digits (decDigits_isDigits k)
    · intro l hl; cases hl
    · intro l hl
      split at hl
      · rw [List.mem_singleton.mp hl]; exact nt
      · cases hl

theorem epc_amount_accepted (a : EpcArgs) (hmin1 : 1 ≤ Gen.EPC_MIN_AMOUNT_CENTS) (hl : epcRefusedByLimits a = false) :
    a.amount.den ≠ 0 ∧ a.amount.neg = false
    ∧ Gen.EPC_MIN_AMOUNT_CENTS * a.amount.den ≤ 100 * a.amount.num ∧ 100 * a.amount.num ≤ Gen.EPC_MAX_AMOUNT_CENTS * a.amount.den := by
  unfold epcRefusedByLimits at hl
  simp only [Bool.or_eq_false_iff, decide_eq_false_iff_not, Nat.not_lt] at hl
  obtain ⟨⟨⟨⟨_, hden⟩, hneg⟩, hmin⟩, hmax⟩ := hl
  have hd : a.amount.den ≠ 0 := by simpa using hden
  refine ⟨hd, ?_, hmin, by omega⟩
  cases hn : a.amount.neg with
  | false => rfl
  | true =>
    rw [hn] at hneg
    have h0 : a.amount.num = 0 := by simpa using hneg
    rw [h0] at hmin
    have : 1 * a.amount.den ≤ Gen.EPC_MIN_AMOUNT_CENTS * a.amount.den := Nat.mul_le_mul_right _ hmin1
    omega

end Proofs.Helpers
