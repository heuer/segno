/-
  Proofs.TieA2Matrix — the matrix of the model (`Array (Array Nat)`, updated with `Model.set2`) against the matrix of
  translated code (`List (List Int)`, updated with `Py.setItem2` / `Py.setSlice2`, read with `Py.index`, Python indexes
  that may be negative); at the end the cell write and the row read as rules of `Yields` with the invariant `Sq · n`.
-/
import Proofs.TieA2
import Proofs.Placement
import Model.Encoder

namespace Proofs.TieA2
open Gen.Py Proofs.TieA Model

/-- the matrix of the model as translated code sees it -/
def mI (m : Matrix) : List (List Int) := m.toList.map (fun r => toI r.toList)

structure Sq (m : Matrix) (n : Nat) : Prop where
  size : m.size = n
  rows : ∀ i (h : i < m.size), m[i].size = n

theorem mI_length (m : Matrix) : (mI m).length = m.size := by simp [mI]

theorem getD_row (m : Matrix) (i : Nat) (h : i < m.size) : m.getD i #[] = m[i] := by
  simp [Array.getD, h]

theorem sq_iff {m : Matrix} {n : Nat} : Sq m n ↔ Proofs.Placement.Sq m n := by
  refine ⟨fun h => ⟨h.size, fun i hi => ?_⟩, fun h => ⟨h.1, fun i hi => ?_⟩⟩
  · have hlt : i < m.size := by rw [h.size]; exact hi
    rw [getD_row m i hlt]
    exact h.rows i hlt
  · rw [← getD_row m i hi]
    exact h.2 i (h.1 ▸ hi)

theorem sq_set2 {m : Matrix} {n : Nat} (h : Sq m n) (i j v : Nat) : Sq (set2 m i j v) n :=
  sq_iff.2 ((Proofs.Placement.Sq_set2 ..).2 (sq_iff.1 h))

theorem foldl_inv {τ α : Type} {P : τ → Prop} (f : τ → α → τ) (hf : ∀ t x, P t → P (f t x)) (l : List α) :
    ∀ t, P t → P (l.foldl f t) := by
  induction l with
  | nil => intro t h; exact h
  | cons x xs ih => intro t h; exact ih _ (hf t x h)

theorem sq_foldl {α : Type} {n : Nat} (f : Matrix → α → Matrix) (hf : ∀ t x, Sq t n → Sq (f t x) n) (l : List α) :
    ∀ t, Sq t n → Sq (l.foldl f t) n :=
  foldl_inv f hf l

theorem normIndex_nat (n i : Nat) (h : i < n) : normIndex n (i : Int) = some i := by
  unfold normIndex
  rw [if_pos ⟨by omega, by omega⟩]
  simp

theorem normIndex_neg (n k : Nat) (h1 : 1 ≤ k) (h2 : k ≤ n) : normIndex n (-(k : Int)) = some (n - k) := by
  unfold normIndex
  rw [if_neg (by omega), if_pos ⟨by omega, by omega⟩]
  congr 1
  omega

theorem normIndex_lt {n : Nat} {i : Int} {k : Nat} (h : normIndex n i = some k) : k < n := by
  unfold normIndex at h
  split_ifs at h <;> simp at h <;> omega

theorem index_eq_of_norm {α : Type} (xs : List α) (i : Int) (k : Nat) (h : normIndex xs.length i = some k) :
    index xs i = ofOption .indexError xs[k]? := by
  unfold normIndex at h
  unfold index
  split_ifs at h with h1 h2
  · simp at h; subst h
    rw [if_pos h1]
    cases xs[i.toNat]? <;> rfl
  · simp at h; subst h
    simp only []
    rw [if_neg h1, if_pos h2]
    cases xs[((xs.length : Int) + i).toNat]? <;> rfl

theorem index_getElem? {α : Type} (xs : List α) (k : Nat) (x : α) (h : xs[k]? = some x) : index xs (k : Int) = .ok x := by
  rw [index_nat, h]
  rfl

theorem index_head {α : Type} (xs : List α) (x : α) (h : xs.head? = some x) : index xs 0 = .ok x := by
  cases xs with
  | nil => cases h
  | cons y ys => cases h; exact index_getElem? _ 0 x rfl

theorem index_last {α : Type} (xs : List α) (x : α) (h : xs.getLast? = some x) : index xs (-1) = .ok x := by
  obtain ⟨ys, rfl⟩ := List.getLast?_eq_some_iff.1 h
  rw [index_eq_of_norm _ _ ys.length (by simpa using normIndex_neg (ys.length + 1) 1 (by omega) (by omega))]
  simp [ofOption]

theorem setItem_eq_of_norm {α : Type} (xs : List α) (i : Int) (k : Nat) (v : α) (h : normIndex xs.length i = some k) :
    setItem xs i v = .ok (xs.set k v) := by
  unfold setItem
  rw [h]

theorem popAt_last {α : Type} (init : List α) (x : α) : popAt (init ++ [x]) (-1 : Int) = .ok (x, init) := by
  unfold popAt
  rw [show (-1 : Int) = -((1 : Nat) : Int) from rfl, normIndex_neg _ 1 (by omega) (by simp)]
  have hlen : (init ++ [x]).length - 1 = init.length := by simp
  rw [hlen]
  dsimp only
  rw [List.getElem?_append_right (Nat.le_refl _), List.eraseIdx_append_of_length_le (Nat.le_refl _)]
  simp

theorem index_toI (l : List Nat) (j : Nat) (hj : j < l.length) : index (toI l) (j : Int) = .ok (Int.ofNat (l.getD j 0)) := by
  rw [index_eq_of_norm _ _ j (by rw [toI_length]; exact normIndex_nat _ _ hj)]
  simp [toI_getElem, hj]

theorem mI_getElem? (m : Matrix) (i : Nat) (h : i < m.size) : (mI m)[i]? = some (toI m[i].toList) := by
  simp [mI, h]

theorem index_row {m : Matrix} {n : Nat} (hs : Sq m n) (ii : Int) (i : Nat) (hi : normIndex n ii = some i) :
    index (mI m) ii = .ok (toI (m.getD i #[]).toList) := by
  have hlt : i < m.size := by rw [hs.size]; exact normIndex_lt hi
  rw [index_eq_of_norm _ ii i (by rw [mI_length, hs.size]; exact hi), mI_getElem? m i hlt, getD_row m i hlt]
  rfl

theorem index_cell {m : Matrix} {n : Nat} (hs : Sq m n) (ii jj : Int) (i j : Nat)
    (hi : normIndex n ii = some i) (hj : normIndex n jj = some j) :
    Gen.Py.bind (index (mI m) ii) (fun r => index r jj) = .ok (Int.ofNat (get2 m i j)) := by
  have hlt : i < m.size := by rw [hs.size]; exact normIndex_lt hi
  have hjl : j < n := normIndex_lt hj
  have hrow : m[i].size = n := hs.rows i hlt
  rw [index_row hs ii i hi, bind_ok, getD_row m i hlt]
  rw [index_eq_of_norm _ jj j (by rw [toI_length, Array.length_toList, hrow]; exact hj)]
  have hj2 : j < m[i].size := by omega
  unfold get2
  rw [getD_row m i hlt]
  simp [toI_getElem, hj2, Array.getD]

theorem setItem2_cell {m : Matrix} {n : Nat} (hs : Sq m n) (ii jj : Int) (i j v : Nat)
    (hi : normIndex n ii = some i) (hj : normIndex n jj = some j) :
    setItem2 (mI m) ii jj (Int.ofNat v) = .ok (mI (set2 m i j v)) := by
  have hlt : i < m.size := by rw [hs.size]; exact normIndex_lt hi
  have hjl : j < n := normIndex_lt hj
  have hrow : m[i].size = n := hs.rows i hlt
  unfold setItem2
  rw [index_row hs ii i hi, bind_ok, getD_row m i hlt]
  rw [setItem_eq_of_norm _ jj j _ (by rw [toI_length, Array.length_toList, hrow]; exact hj), bind_ok]
  rw [setItem_eq_of_norm _ ii i _ (by rw [mI_length, hs.size]; exact hi)]
  congr 1
  simp only [mI, set2]
  apply List.ext_getElem
  · simp
  · intro k h1 h2
    simp only [List.length_set, List.length_map, Array.length_toList] at h1
    simp only [List.getElem_set, List.getElem_map, Array.getElem_toList, Array.getElem_modify]
    by_cases hk : i = k
    · subst hk
      simp [toI, Array.toList_setIfInBounds]
    · simp [hk]

namespace Yields
variable {σ : Type} {n : Nat} {g : Matrix → σ} {m m' : Matrix}

theorem set (hs : Sq m n) {ii jj : Int} {i j v : Nat} (hi : normIndex n ii = some i) (hj : normIndex n jj = some j)
    {k : List (List Int) → M σ} (hk : Sq (set2 m i j v) n → Yields (Sq · n) (k (mI (set2 m i j v))) g m') :
    Yields (Sq · n) (Gen.Py.bind (setItem2 (mI m) ii jj (v : Int)) k) g m' := by
  rw [show (v : Int) = Int.ofNat v from rfl, setItem2_cell hs ii jj i j v hi hj]
  exact hk (sq_set2 hs i j v)

theorem set_last (hs : Sq m n) {ii jj : Int} {i j v : Nat} (hi : normIndex n ii = some i) (hj : normIndex n jj = some j) :
    Yields (Sq · n) (setItem2 (mI m) ii jj (v : Int)) mI (set2 m i j v) :=
  ⟨setItem2_cell hs ii jj i j v hi hj, sq_set2 hs i j v⟩

theorem row {τ : Type} {P : τ → Prop} {g : τ → σ} {t' : τ} (hs : Sq m n) {ii : Int} {i : Nat} (hi : normIndex n ii = some i)
    {k : List Int → M σ} (hk : Yields P (k (toI (m.getD i #[]).toList)) g t') : Yields P (Gen.Py.bind (index (mI m) ii) k) g t' := by
  rw [index_row hs ii i hi]
  exact hk

end Yields

end Proofs.TieA2
