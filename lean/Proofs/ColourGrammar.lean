/-
  The model of segno's colour parser (`Model.colorToRgba`, `Model.pngColor`, Model/Png.lean) against the colour grammar of the
  specification (Spec/Raster.lean).
-/
import Spec.Raster
import Model.Png
import Props.C09
import Proofs.Except
import Proofs.RasterDocsColour

namespace Proofs.ColourGrammar

open Model Spec

theorem hexVal_eq : Model.hexVal? = Spec.hexDigit? := rfl
theorem lower_eq : Model.lowerAscii = Spec.asciiLower := rfl

theorem nameToRgb_eq (s : String) : Model.nameToRgb s = Spec.css3Lookup (Spec.asciiLower s) := by
  unfold Model.nameToRgb Spec.css3Lookup
  rw [Props.C09.css3_table]; rfl

theorem rgba_beq (r g b a : Nat) : ((⟨r,g,b,a⟩ : Spec.RGBA) == ⟨r,g,b,a⟩) = true := by
  simp [BEq.beq, Spec.instBEqRGBA.beq]

theorem approx_accepts (r g b k : Nat) : ColExp.accepts (.approx r g b k) ⟨r,g,b,roundAlpha k⟩ = true := by
  have := Proofs.RasterDocs.roundAlpha_bound k
  simp only [ColExp.accepts, beq_self_eq_true, Bool.and_self, Bool.true_and, decide_eq_true_eq]
  split <;> omega

theorem exact_accepts (r g b a : Nat) : ColExp.accepts (.exact ⟨r,g,b,a⟩) ⟨r,g,b,a⟩ = true := by
  simp [ColExp.accepts, rgba_beq]


/-- the part of `hexToInts` after stripping '#' -/
def hexCs (cs : List Char) : R (List Nat) :=
  let cs := if 2 < cs.length ∧ cs.length < 5 then cs.flatMap (fun c => [c, c]) else cs
  if (cs.length == 6 || cs.length == 8) && cs.all (fun c => (hexVal? c).isSome) then pure (hexPairs cs)
  else throw .valueError

def stripHash (cs : List Char) : List Char := match cs with | '#' :: rest => rest | _ => cs

theorem stripHash_cons_ne (c : Char) (rest : List Char) (h : c ≠ '#') : stripHash (c :: rest) = c :: rest := by
  unfold stripHash
  split
  · rename_i heq; cases heq; exact absurd rfl h
  · rfl

theorem hexToInts_eq (s : String) : hexToInts s = hexCs (stripHash s.toList) := rfl

/-- the specification's reading of a digit list -/
def specCs (cs : List Char) : Option RGBA :=
  match cs.mapM hexDigit? with
  | some [r, g, b] => some ⟨r * 17, g * 17, b * 17, 255⟩
  | some [r, g, b, a] => some ⟨r * 17, g * 17, b * 17, a * 17⟩
  | some [r1, r2, g1, g2, b1, b2] => some ⟨r1 * 16 + r2, g1 * 16 + g2, b1 * 16 + b2, 255⟩
  | some [r1, r2, g1, g2, b1, b2, a1, a2] => some ⟨r1 * 16 + r2, g1 * 16 + g2, b1 * 16 + b2, a1 * 16 + a2⟩
  | _ => none

theorem parseHexColour_eq (s : String) : parseHexColour s = specCs (stripHash s.toList) := rfl

/-- what `_color_to_rgba` does with the result of `hexToInts` -/
def hexRgba (cs : List Char) : R (Nat × Nat × Nat × Nat) := do
  match ← hexCs cs with
  | [r, g, b] => pure (r, g, b, 255)
  | [r, g, b, a] => pure (r, g, b, a)
  | _ => throw .valueError

def pairVals : List Nat → List Nat
  | a :: b :: rest => (a * 16 + b) :: pairVals rest
  | _ => []

/-- three or four digits are doubled -/
def widen {α : Type} (l : List α) : List α := if 2 < l.length ∧ l.length < 5 then l.flatMap (fun x => [x, x]) else l

theorem digits_all : ∀ cs : List Char, cs.all (fun c => (hexDigit? c).isSome) = (cs.mapM hexDigit?).isSome
  | [] => rfl
  | c :: cs => by
    rw [List.all_cons, List.mapM_cons, digits_all cs]
    cases hexDigit? c <;> cases cs.mapM hexDigit? <;> rfl

theorem hexPairs_digits : ∀ (cs : List Char) (ds : List Nat), cs.map hexDigit? = ds.map some → hexPairs cs = pairVals ds
  | a :: b :: cs, x :: y :: ds, h => by
    simp only [List.map_cons, List.cons.injEq] at h
    rw [hexPairs, pairVals, hexVal_eq, h.1, h.2.1, hexPairs_digits cs ds h.2.2]
    rfl
  | [], [], _ | [_], [_], _ => rfl
  | [], _ :: _, h | [_], [], h | [_], _ :: _ :: _, h | _ :: _ :: _, [], h | _ :: _ :: _, [_], h => by simp at h

theorem mapM_double : ∀ cs : List Char,
    (cs.flatMap fun c => [c, c]).mapM hexDigit? = (cs.mapM hexDigit?).map (·.flatMap fun d => [d, d])
  | [] => rfl
  | c :: cs => by
    rw [List.flatMap_cons, List.cons_append, List.cons_append, List.nil_append, List.mapM_cons, List.mapM_cons, List.mapM_cons,
      mapM_double cs]
    cases hexDigit? c <;> cases cs.mapM hexDigit? <;> rfl

theorem widen_digits (cs : List Char) : (widen cs).mapM hexDigit? = (cs.mapM hexDigit?).map widen := by
  unfold widen
  cases h : cs.mapM hexDigit? with
  | none =>
    split
    · rw [mapM_double, h]; rfl
    · exact h
  | some ds =>
    -- as many digits as characters
    rw [show cs.length = ds.length by simpa using congrArg List.length ((Proofs.Except.mapM_some_iff _ _ _).1 h), Option.map_some]
    split
    · rw [mapM_double, h]; rfl
    · exact h

theorem hexCs_eq (cs : List Char) :
    hexCs cs = match (widen cs).mapM hexDigit? with
      | some ds => if (ds.length == 6 || ds.length == 8) then .ok (pairVals ds) else .error .valueError
      | none => .error .valueError := by
  show (if ((widen cs).length == 6 || (widen cs).length == 8) && (widen cs).all (fun c => (hexVal? c).isSome) then
    pure (hexPairs (widen cs)) else throw .valueError : R (List Nat)) = _
  generalize widen cs = cs
  rw [hexVal_eq, digits_all]
  cases h : cs.mapM hexDigit? with
  | none => rw [Option.isSome_none, Bool.and_false]; rfl
  | some ds =>
    have hm := (Proofs.Except.mapM_some_iff _ _ _).1 h
    rw [Option.isSome_some, Bool.and_true, hexPairs_digits cs ds hm, show cs.length = ds.length by simpa using congrArg List.length hm]
    rfl

/-- the model's `d * 16 + d` is the specification's `d * 17` by computation -/
theorem hex_agree (cs : List Char) :
    match specCs cs with
    | some c => hexRgba cs = .ok (c.r, c.g, c.b, c.a)
    | none => hexRgba cs = .error .valueError := by
  unfold specCs hexRgba
  rw [hexCs_eq, widen_digits]
  cases cs.mapM hexDigit? with
  | none => rfl
  | some ds =>
    match ds with
    | [] | [_] | [_, _] | [_, _, _] | [_, _, _, _] | [_, _, _, _, _] | [_, _, _, _, _, _] | [_, _, _, _, _, _, _]
    | [_, _, _, _, _, _, _, _] | _ :: _ :: _ :: _ :: _ :: _ :: _ :: _ :: _ :: _ => rfl

theorem str_agree (s : String) :
    match parseColourString s with
    | some c => colorToRgba (.str s) = .ok (c.r, c.g, c.b, c.a)
    | none => colorToRgba (.str s) = .error .valueError := by
  have hx := hex_agree (stripHash s.toList)
  rw [← parseHexColour_eq] at hx
  have hm : colorToRgba (.str s) = match nameToRgb s with
      | some (r, g, b) => pure (r, g, b, 255)
      | none => hexRgba (stripHash s.toList) := by
    simp only [colorToRgba, hexRgba, hexToInts_eq]
    cases nameToRgb s <;> rfl
  rw [hm, nameToRgb_eq]
  unfold parseColourString
  cases hl : css3Lookup (asciiLower s) with
  | some v => obtain ⟨r, g, b⟩ := v; rfl
  | none => exact hx

/-! The letter case of a colour string does not matter: names are looked up in lower case, and a hexadecimal digit has the same
  value in both cases. -/

/-- `str.lower()` on one character -/
def lowerChar (c : Char) : Char := if 'A' ≤ c && c ≤ 'Z' then Char.ofNat (c.toNat + 32) else c

theorem lowerAscii_toList (s : String) : (lowerAscii s).toList = s.toList.map lowerChar := by
  unfold lowerAscii; rw [String.toList_ofList]; rfl

theorem upperChar_facts : ∀ n < 26, hexDigit? (Char.ofNat ((Char.ofNat (n + 65)).toNat + 32)) = hexDigit? (Char.ofNat (n + 65))
    ∧ Char.ofNat ((Char.ofNat (n + 65)).toNat + 32) ≠ '#' ∧ Char.ofNat (n + 65) ≠ '#' := by decide

theorem upperChar_cases (c : Char) (h : ('A' ≤ c && c ≤ 'Z') = true) : ∃ n, n < 26 ∧ c = Char.ofNat (n + 65) := by
  simp only [Bool.and_eq_true, decide_eq_true_eq] at h
  have h1 : 'A'.toNat ≤ c.toNat := h.1
  have h2 : c.toNat ≤ 'Z'.toNat := h.2
  have e1 : 'A'.toNat = 65 := by decide
  have e2 : 'Z'.toNat = 90 := by decide
  refine ⟨c.toNat - 65, by omega, ?_⟩
  have : c.toNat - 65 + 65 = c.toNat := by omega
  rw [this, Char.ofNat_toNat]

theorem lowerChar_hex (c : Char) : hexDigit? (lowerChar c) = hexDigit? c := by
  unfold lowerChar
  by_cases h : ('A' ≤ c && c ≤ 'Z') = true
  · obtain ⟨n, hn, rfl⟩ := upperChar_cases c h
    rw [if_pos h]; exact (upperChar_facts n hn).1
  · rw [if_neg h]

theorem lowerChar_hash (c : Char) : lowerChar c = '#' ↔ c = '#' := by
  unfold lowerChar
  by_cases h : ('A' ≤ c && c ≤ 'Z') = true
  · obtain ⟨n, hn, rfl⟩ := upperChar_cases c h
    rw [if_pos h]
    have := upperChar_facts n hn
    exact ⟨fun e => absurd e this.2.1, fun e => absurd e this.2.2⟩
  · rw [if_neg h]

theorem stripHash_lowerChar (l : List Char) : stripHash (l.map lowerChar) = (stripHash l).map lowerChar := by
  cases l with
  | nil => rfl
  | cons c rest =>
    by_cases hc : c = '#'
    · subst hc; rfl
    · rw [List.map_cons, stripHash_cons_ne _ _ hc, stripHash_cons_ne _ _ fun e => hc ((lowerChar_hash c).1 e), List.map_cons]

theorem mapM_lowerChar (l : List Char) : (l.map lowerChar).mapM hexDigit? = l.mapM hexDigit? := by
  induction l with
  | nil => rfl
  | cons c rest ih => simp only [List.map_cons, List.mapM_cons, lowerChar_hex, ih]

theorem parseHex_lower (s : String) : parseHexColour (lowerAscii s) = parseHexColour s := by
  rw [parseHexColour_eq, parseHexColour_eq, lowerAscii_toList, stripHash_lowerChar]
  unfold specCs; rw [mapM_lowerChar]

theorem parseColourString_case (s t : String) (h : lowerAscii s = lowerAscii t) : parseColourString s = parseColourString t := by
  unfold parseColourString
  rw [← lower_eq, h, ← parseHex_lower s, h, parseHex_lower t]

theorem colorToRgba_case (s t : String) (h : lowerAscii s = lowerAscii t) : colorToRgba (.str s) = colorToRgba (.str t) := by
  have hs := str_agree s
  have ht := str_agree t
  rw [parseColourString_case s t h] at hs
  cases hp : parseColourString t <;> rw [hp] at hs ht <;> exact hs.trans ht.symm

/-- a copy of `Props.C14.specMeaning` -/
def meaning : Model.ColorArg → Option Spec.ColExp
  | .none => some .transparent
  | .str s => (Spec.parseColourString s).map .exact
  | .ints [r, g, b] => if r ≤ 255 ∧ g ≤ 255 ∧ b ≤ 255 then some (.exact ⟨r, g, b, 255⟩) else none
  | .ints [r, g, b, a] => if r ≤ 255 ∧ g ≤ 255 ∧ b ≤ 255 ∧ a ≤ 255 then some (.exact ⟨r, g, b, a⟩) else none
  | .ints _ => none
  | .floatAlpha r g b k => if r ≤ 255 ∧ g ≤ 255 ∧ b ≤ 255 ∧ k ≤ 1000 then some (.approx r g b k) else none

theorem grammar_core (c : Model.ColorArg) (hc : c ≠ .none) :
    match meaning c with
    | some e => ∃ r g b a, Model.colorToRgba c = .ok (r, g, b, a) ∧ e.accepts ⟨r, g, b, a⟩ = true
    | none => Model.colorToRgba c = .error Model.PyErr.valueError := by
  cases c with
  | none => exact absurd rfl hc
  | str s =>
    have h := str_agree s
    simp only [meaning]
    cases hp : parseColourString s with
    | none => rw [hp] at h; exact h
    | some v =>
      rw [hp] at h
      obtain ⟨r, g, b, a⟩ := v
      exact ⟨r, g, b, a, h, exact_accepts r g b a⟩
  | floatAlpha r g b k =>
    simp only [meaning, colorToRgba, alphaOfFloat]
    by_cases h : r ≤ 255 ∧ g ≤ 255 ∧ b ≤ 255 ∧ k ≤ 1000
    · simp only [h, if_true]
      exact ⟨r, g, b, roundAlpha k, rfl, approx_accepts r g b k⟩
    · -- the model tests the three channels first, then the alpha value
      simp only [h, if_false]
      split
      · split
        · rename_i h1 h2; exact absurd ⟨h1.1, h1.2.1, h1.2.2, h2⟩ h
        · rfl
      · rfl
  | ints l =>
    match l with
    | [] | [_] | [_, _] => simp only [meaning, colorToRgba]; rfl
    | [r, g, b] =>
      simp only [meaning, colorToRgba]
      by_cases h1 : r ≤ 255 ∧ g ≤ 255 ∧ b ≤ 255
      · simp only [h1, if_true, and_self]
        exact ⟨r, g, b, 255, rfl, exact_accepts r g b 255⟩
      · simp only [h1, if_false]; rfl
    | [r, g, b, a] =>
      simp only [meaning, colorToRgba, alphaOfInt]
      by_cases h : r ≤ 255 ∧ g ≤ 255 ∧ b ≤ 255 ∧ a ≤ 255
      · simp only [h, if_true]
        exact ⟨r, g, b, a, rfl, exact_accepts r g b a⟩
      · simp only [h, if_false]
        split
        · split
          · rename_i h1 h2; exact absurd ⟨h1.1, h1.2.1, h1.2.2, h2⟩ h
          · rfl
        · rfl
    | _ :: _ :: _ :: _ :: _ :: _ => simp only [meaning, colorToRgba]; rfl

theorem png_of_ok (c : ColorArg) (hc : c ≠ .none) (r g b a : Nat) (h : colorToRgba c = .ok (r, g, b, a)) :
    pngColor c = .ok (if a == 255 then .rgb r g b else .rgba r g b a) := by
  cases c with
  | none => exact absurd rfl hc
  | _ => simp only [pngColor, h, bind, Except.bind]; rfl

theorem png_of_err (c : ColorArg) (hc : c ≠ .none) (e : PyErr) (h : colorToRgba c = .error e) :
    pngColor c = .error e := by
  cases c with
  | none => exact absurd rfl hc
  | _ => simp only [pngColor, h, bind, Except.bind]

theorem png_core (c : Model.ColorArg) :
    match meaning c with
    | some e => ∃ p, Model.pngColor c = .ok p ∧
        (match p with
         | .transparent => c = .none
         | .rgb r g b => e.accepts ⟨r, g, b, 255⟩ = true
         | .rgba r g b a => a ≠ 255 ∧ e.accepts ⟨r, g, b, a⟩ = true)
    | none => Model.pngColor c = .error Model.PyErr.valueError := by
  by_cases hc : c = .none
  · subst hc
    exact ⟨.transparent, rfl, rfl⟩
  · have h := grammar_core c hc
    cases hm : meaning c with
    | none => rw [hm] at h; exact png_of_err c hc _ h
    | some e =>
      rw [hm] at h
      obtain ⟨r, g, b, a, hok, hacc⟩ := h
      refine ⟨_, png_of_ok c hc r g b a hok, ?_⟩
      by_cases ha : a = 255
      · subst ha; exact hacc
      · have : (a == 255) = false := by simp [ha]
        simp only [this]
        exact ⟨ha, hacc⟩

theorem nameToRgb_congr (s t : String) (h : Model.lowerAscii s = Model.lowerAscii t) :
    Model.nameToRgb s = Model.nameToRgb t := by
  unfold Model.nameToRgb; rw [h]

theorem str_of_name (s : String) (r g b : Nat) (h : nameToRgb s = some (r, g, b)) :
    colorToRgba (.str s) = .ok (r, g, b, 255) := by
  simp only [colorToRgba, h]; rfl

end Proofs.ColourGrammar
