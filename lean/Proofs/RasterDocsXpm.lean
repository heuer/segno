/-
  The list-level XPM reader (`Spec.L.readXpm`, Spec/RasterL.lean) applied to the whole text the
  model of `write_xpm` writes (`Model.RasterDocs.xpmDoc`): the reader returns the `Spec.grid` picture in the two
  configured colours (`None` = transparent).
-/
import Proofs.RasterDocsBase
import Proofs.RasterDocsTok
import Proofs.RasterDocsColour
import Proofs.Except

namespace Proofs.RasterDocs

open Model Model.RasterDocs Spec Spec.L Proofs.Raster

/-- what an XPM picture shows for a colour argument: the opaque RGB value `color_to_rgb_hex` prints, or
    nothing (alpha 0) for `None` -/
def XpmShows (c : ColorArg) (x : RGBA) : Prop :=
  match c with
  | .none => x.a = 0
  | c => ∃ r g b, colorToRgb c = .ok [r, g, b] ∧ x = ⟨r, g, b, 255⟩

theorem splitChars_go (sep : Char → Bool) (p : List Char) (hp : ∀ c ∈ p, sep c = false) (r : List Char) :
    ∀ cur, splitChars sep (p ++ r) cur = splitChars sep r (p.reverse ++ cur) :=
  Proofs.Scan.scan_clean (f := splitChars sep) (fun c r cur (h : sep c = false) => by simp [splitChars, h]) hp r

theorem splitChars_piece (sep : Char → Bool) (p : List Char) (hne : p ≠ []) (hp : ∀ c ∈ p, sep c = false) (t : Char) (ht : sep t = true)
    (r : List Char) : splitChars sep (p ++ t :: r) [] = p :: splitChars sep r [] := by
  rw [splitChars_go sep p hp, splitChars, ht]
  simp [hne]

theorem splitChars_last (sep : Char → Bool) (p : List Char) (hne : p ≠ []) (hp : ∀ c ∈ p, sep c = false) : splitChars sep p [] = [p] := by
  have h := splitChars_go sep p hp [] []
  rw [List.append_nil] at h
  rw [h, splitChars]
  simp [hne]

theorem splitChars_sep (sep : Char → Bool) (t : Char) (ht : sep t = true) (r : List Char) : splitChars sep (t :: r) [] = splitChars sep r [] := by
  rw [splitChars, ht]; rfl

theorem charsNat_dec (n : Nat) : charsNat? (dec n) = some n := by
  unfold charsNat?
  have h1 : (dec n).isEmpty = false := by
    cases h : dec n with
    | nil => exact absurd h (dec_ne n)
    | cons d ds => rfl
  have h2 : (dec n).all Char.isDigit = true := List.all_eq_true.2 (dec_digits n)
  simp [h1, h2, decVal_dec]

theorem digit_not_space (c : Char) (hc : c.isDigit = true) : (c == ' ') = false := by
  have := digit_ne c ' ' hc (by decide)
  simp [this]

theorem dec_plain (n : Nat) : ∀ c ∈ dec n, c ≠ '"' ∧ c ≠ '\\' :=
  fun c hc => ⟨digit_ne c '"' (dec_digits n c hc) (by decide), digit_ne c '\\' (dec_digits n c hc) (by decide)⟩

theorem values_line_read (W H : Nat) :
    (splitChars (fun c => c == ' ') (dec W ++ ' ' :: (dec H ++ [' ', '2', ' ', '1'])) []).map charsNat? = [some W, some H, some 2, some 1] := by
  rw [splitChars_piece _ (dec W) (dec_ne W) (fun c hc => digit_not_space c (dec_digits W c hc)) ' ' rfl,
    splitChars_piece _ (dec H) (dec_ne H) (fun c hc => digit_not_space c (dec_digits H c hc)) ' ' rfl]
  have : splitChars (fun c => c == ' ') ['2', ' ', '1'] [] = [['2'], ['1']] := by rfl
  rw [this]
  simp only [List.map_cons, List.map_nil, charsNat_dec]
  rfl

theorem css3_no_hash : ∀ e ∈ css3, e.1.toList.head? ≠ some '#' := by decide +kernel

theorem hexChar_facts : ∀ a, a < 16 → hexChar a ≠ ' ' ∧ hexChar a ≠ '\t' ∧ hexChar a ≠ '"' ∧ hexChar a ≠ '\\' := by decide +kernel

theorem hex2_chars (v : Nat) : ∀ c ∈ hex2 v, c ≠ ' ' ∧ c ≠ '\t' ∧ c ≠ '"' ∧ c ≠ '\\' := by
  intro c hc
  simp only [hex2, List.mem_cons, List.not_mem_nil, or_false] at hc
  rcases hc with rfl | rfl
  · exact hexChar_facts _ (Nat.mod_lt _ (by decide))
  · exact hexChar_facts _ (Nat.mod_lt _ (by decide))

theorem xpmColour_model (c : ColorArg) (s : List Char) (h : Model.RasterDocs.xpmColour c = .ok s) :
    (c = .none ∧ s = ['N', 'o', 'n', 'e'])
    ∨ (∃ r g b, r ≤ 255 ∧ g ≤ 255 ∧ b ≤ 255 ∧ XpmShows c ⟨r, g, b, 255⟩ ∧ s = '#' :: (hex2 r ++ (hex2 g ++ hex2 b))) := by
  cases c
  case none => cases h; exact Or.inl ⟨rfl, rfl⟩
  -- every other colour goes through `color_to_rgb_hex`
  all_goals
    right
    simp only [Model.RasterDocs.xpmColour, bind, Except.bind, pure, Except.pure] at h
    split at h
    · cases h
    · rename_i l hc
      obtain ⟨r, g, b, rfl, hr, hg, hb⟩ := colorToRgb_ok _ l hc
      cases h
      exact ⟨r, g, b, hr, hg, hb, ⟨r, g, b, hc, rfl⟩, rfl⟩

theorem lowerChars_cons (c : Char) (s : List Char) :
    lowerChars (c :: s) = (if 'A' ≤ c && c ≤ 'Z' then Char.ofNat (c.toNat + 32) else c) :: lowerChars s := rfl

theorem findC_value (cv : List Char) (hne : cv ≠ []) (hsep : ∀ c ∈ cv, (c == ' ' || c == '\t') = false) :
    findC (splitChars (fun c => c == ' ' || c == '\t') (' ' :: 'c' :: ' ' :: cv) []) = some cv := by
  rw [splitChars_sep _ ' ' rfl, show 'c' :: ' ' :: cv = ['c'] ++ ' ' :: cv from rfl,
    splitChars_piece _ ['c'] (by simp) (by decide) ' ' rfl, splitChars_last _ cv hne hsep]
  rfl

theorem parseColourChars_hash (ds : List Char) : parseColourChars ('#' :: ds) = L.parseHexColour ('#' :: ds) := by
  -- stated for a variable, so that checking it does not start to evaluate the table
  have other : ∀ s, css3.find? (fun e => e.1.toList == lowerChars s) = none → parseColourChars s = L.parseHexColour s := by
    intro s h
    rw [parseColourChars, h]
  apply other
  rw [List.find?_eq_none]
  intro e he heq
  rw [beq_iff_eq] at heq
  exact css3_no_hash e he (by rw [heq]; rfl)

theorem mapM_hex2 (v : Nat) (rest : List Char) :
    (hex2 v ++ rest).mapM hexDigit? = (rest.mapM hexDigit?).map (fun l => v / 16 % 16 :: v % 16 :: l) := by
  have h1 := hexDigit_hexChar (v / 16 % 16) (Nat.mod_lt _ (by decide))
  have h2 := hexDigit_hexChar (v % 16) (Nat.mod_lt _ (by decide))
  simp only [hex2, List.cons_append, List.nil_append, List.mapM_cons, h1, h2, bind, Option.bind, pure]
  cases rest.mapM hexDigit? <;> rfl

theorem xpmColour_hex (r g b : Nat) (hr : r ≤ 255) (hg : g ≤ 255) (hb : b ≤ 255) :
    Spec.L.xpmColour (' ' :: 'c' :: ' ' :: '#' :: (hex2 r ++ (hex2 g ++ hex2 b))) = .ok (some ⟨r, g, b, 255⟩) := by
  have hsep : ∀ c ∈ '#' :: (hex2 r ++ (hex2 g ++ hex2 b)), (c == ' ' || c == '\t') = false := by
    intro c hc
    simp only [List.mem_cons, List.mem_append] at hc
    rcases hc with rfl | hc | hc | hc
    · decide
    all_goals simp [(hex2_chars _ c hc).1, (hex2_chars _ c hc).2.1]
  have hhex : L.parseHexColour ('#' :: (hex2 r ++ (hex2 g ++ hex2 b))) = some ⟨r, g, b, 255⟩ := by
    have er : r / 16 % 16 * 16 + r % 16 = r := by omega
    have eg : g / 16 % 16 * 16 + g % 16 = g := by omega
    have eb : b / 16 % 16 * 16 + b % 16 = b := by omega
    have := mapM_hex2 b []
    rw [List.append_nil] at this
    simp only [L.parseHexColour, mapM_hex2, this, List.mapM_nil, pure, Option.map_some, er, eg, eb]
  have hnone : (lowerChars ('#' :: (hex2 r ++ (hex2 g ++ hex2 b))) == "none".toList) = false := rfl
  unfold Spec.L.xpmColour
  rw [findC_value _ (by simp) hsep]
  simp only [hnone, parseColourChars_hash, hhex]
  rfl

theorem xpmColour_read (c : ColorArg) (s : List Char) (h : Model.RasterDocs.xpmColour c = .ok s) :
    ∃ px, XpmShows c px ∧ Spec.L.xpmColour (' ' :: 'c' :: ' ' :: s) = .ok (some px) ∧ ∀ ch ∈ s, ch ≠ '"' ∧ ch ≠ '\\' := by
  rcases xpmColour_model c s h with ⟨rfl, rfl⟩ | ⟨r, g, b, hr, hg, hb, hshow, rfl⟩
  · exact ⟨⟨0, 0, 0, 0⟩, rfl, rfl, by decide⟩
  · refine ⟨⟨r, g, b, 255⟩, hshow, xpmColour_hex r g b hr hg hb, ?_⟩
    intro ch hch
    simp only [List.mem_cons, List.mem_append] at hch
    rcases hch with rfl | hch | hch | hch
    · decide
    all_goals exact (hex2_chars _ ch hch).2.2

/-- one string literal of the array: `"…",\n` (the last one without the comma) -/
def lit (s : List Char) (last : Bool) : List Char := '"' :: (s ++ (if last then ['"', '\n'] else ['"', ',', '\n']))

def pixChar (v : Nat) : Char := if v == 0 then ' ' else 'X'

theorem xpmRow_eq (row : List Nat) (last : Bool) : xpmRow row last = lit (row.map pixChar) last := rfl

theorem withLast_cons {α β : Type} (f : α → Bool → β) (a : α) (l : List α) (hl : l ≠ []) : withLast f (a :: l) = f a false :: withLast f l := by
  cases l with
  | nil => exact absurd rfl hl
  | cons x xs => rfl

theorem withLast_xpmRow : ∀ rows : List (List Nat), withLast xpmRow rows = withLast lit (rows.map (fun r => r.map pixChar))
  | [] => rfl
  | [_] => rfl
  | r :: x :: xs => by
    have ih := withLast_xpmRow (x :: xs)
    show xpmRow r false :: withLast xpmRow (x :: xs) = lit (r.map pixChar) false :: withLast lit ((x :: xs).map (fun r => r.map pixChar))
    rw [ih]; rfl

theorem lit_xpm1 : "/* XPM */\n".toList = "/* XPM */".toList ++ ['\n'] := rfl
theorem lit_xpm2 : "static char *".toList = "static".toList ++ ' ' :: ("char".toList ++ [' ', '*']) := rfl
theorem lit_xpm3 : "[] = {\n".toList = ['[', ']', ' ', '=', ' ', '{', '\n'] := rfl
theorem lit_xpm4 : " 2 1\",\n".toList = [' ', '2', ' ', '1', '"', ',', '\n'] := rfl
theorem lit_xpm5 : "\"  c ".toList = ['"', ' ', ' ', 'c', ' '] := rfl
theorem lit_xpm6 : "\",\n".toList = ['"', ',', '\n'] := rfl
theorem lit_xpm7 : "\"X c ".toList = ['"', 'X', ' ', 'c', ' '] := rfl

theorem xpmHeader_eq (name : List Char) (W H : Nat) (bg stroke : List Char) (rest : List Char) :
    xpmHeader name W H bg stroke ++ rest =
      "/* XPM */".toList ++ '\n' :: ("static".toList ++ ' ' :: ("char".toList ++ ' ' :: '*' :: (name ++ '[' :: ']' :: ' ' :: '=' :: ' ' :: '{' :: '\n' ::
        (lit (dec W ++ ' ' :: (dec H ++ [' ', '2', ' ', '1'])) false ++ (lit (' ' :: ' ' :: 'c' :: ' ' :: bg) false
          ++ (lit ('X' :: ' ' :: 'c' :: ' ' :: stroke) false ++ rest)))))) := by
  unfold xpmHeader lit
  simp only [lit_xpm1, lit_xpm2, lit_xpm3, lit_xpm4, lit_xpm5, lit_xpm6, lit_xpm7, List.append_assoc, List.cons_append, List.nil_append,
    Bool.false_eq_true, if_false]

/-- the strings of the array: the values line, the two colour lines, one string per row -/
def xpmStrs (W H : Nat) (bg stroke : List Char) (rows : List (List Nat)) : List (List Char) :=
  (dec W ++ ' ' :: (dec H ++ [' ', '2', ' ', '1'])) :: (' ' :: ' ' :: 'c' :: ' ' :: bg) :: ('X' :: ' ' :: 'c' :: ' ' :: stroke)
    :: rows.map (fun r => r.map pixChar)

theorem xpmText_eq (name : List Char) (W H : Nat) (bg stroke : List Char) (rows : List (List Nat)) (hrows : rows ≠ []) :
    xpmHeader name W H bg stroke ++ (withLast xpmRow rows).flatten ++ "};\n".toList =
      "/* XPM */".toList ++ '\n' :: ("static".toList ++ ' ' :: ("char".toList ++ ' ' :: '*' :: (name ++ '[' :: ']' :: ' ' :: '=' :: ' ' :: '{' :: '\n' ::
        ((withLast lit (xpmStrs W H bg stroke rows)).flatten ++ '}' :: [';', '\n'])))) := by
  have hne : rows.map (fun r => r.map pixChar) ≠ [] := by simpa using hrows
  unfold xpmStrs
  rw [List.append_assoc, xpmHeader_eq, withLast_xpmRow, withLast_cons _ _ _ (by simp), withLast_cons _ _ _ (by simp), withLast_cons _ _ _ hne]
  simp only [List.flatten_cons, List.append_assoc]
  rfl

def commaStrs : List (List Char) → List Tok
  | [] => []
  | [s] => [.str s]
  | s :: rest => .str s :: .punct ',' :: commaStrs rest

theorem commaStrs_cons (s t : List Char) (rest : List (List Char)) :
    commaStrs (s :: t :: rest) = .str s :: .punct ',' :: commaStrs (t :: rest) := rfl

theorem run_lits (r : List Char) : ∀ ss : List (List Char), ss ≠ [] → (∀ s ∈ ss, ∀ c ∈ s, c ≠ '"' ∧ c ≠ '\\') →
    run .idle ((withLast lit ss).flatten ++ r) = commaStrs ss ++ run .idle r
  | [], h, _ => absurd rfl h
  | [s], _, hs => by
    have e : (withLast lit [s]).flatten ++ r = '"' :: (s ++ '"' :: '\n' :: r) := by
      simp [withLast, lit]
    rw [e, run_str s _ (hs s (by simp)), run_ws '\n' _ (by simp)]
    rfl
  | s :: t :: rest, _, hs => by
    have ih := run_lits r (t :: rest) (by simp) (fun x hx => hs x (by simp [hx]))
    have e : (withLast lit (s :: t :: rest)).flatten ++ r
        = '"' :: (s ++ '"' :: ',' :: '\n' :: ((withLast lit (t :: rest)).flatten ++ r)) := by
      rw [withLast_cons _ _ _ (by simp)]
      simp [lit]
    rw [e, run_str s _ (hs s (by simp)), run_punct ',' _ rfl, run_ws '\n' _ (by simp), ih, commaStrs_cons]
    rfl

theorem commaStrs_mem : ∀ (ss : List (List Char)) (t : Tok), t ∈ commaStrs ss → (∃ s, t = .str s) ∨ t = .punct ','
  | [], t, h => by cases h
  | [s], t, h => by
    simp only [commaStrs, List.mem_singleton] at h
    exact Or.inl ⟨s, h⟩
  | s :: x :: rest, t, h => by
    rw [commaStrs_cons] at h
    simp only [List.mem_cons] at h
    rcases h with h | h | h
    · exact Or.inl ⟨s, h⟩
    · exact Or.inr h
    · exact commaStrs_mem (x :: rest) t h

theorem xpmStrings_comma : ∀ ss : List (List Char), ss ≠ [] → xpmStrings (commaStrs ss ++ [.punct '}', .punct ';']) = .ok ss
  | [], h => absurd rfl h
  | [s], _ => by
    show xpmStrings [.str s, .punct '}', .punct ';'] = .ok [s]
    simp [xpmStrings]
  | s :: t :: rest, _ => by
    have ih := xpmStrings_comma (t :: rest) (by simp)
    rw [commaStrs_cons]
    show xpmStrings (.str s :: .punct ',' :: (commaStrs (t :: rest) ++ [.punct '}', .punct ';'])) = _
    rw [xpmStrings]
    simp only [beq_self_eq_true, if_true, ih]

/-- the tokens behind the magic comment: the declaration, the strings, `};` -/
def xpmRest (name : List Char) (ss : List (List Char)) : List Tok :=
  .ident "static".toList :: .ident "char".toList :: .punct '*' :: .ident name
    :: .punct '[' :: .punct ']' :: .punct '=' :: .punct '{' :: (commaStrs ss ++ [.punct '}', .punct ';'])

theorem cTokens_xpm (name : List Char) (hname : IsCIdent name) (ss : List (List Char)) (hne : ss ≠ [])
    (hss : ∀ s ∈ ss, ∀ c ∈ s, c ≠ '"' ∧ c ≠ '\\') :
    L.cTokens ("/* XPM */".toList ++ '\n' :: ("static".toList ++ ' ' :: ("char".toList ++ ' ' :: '*' :: (name ++ '[' :: ']' :: ' ' :: '=' :: ' ' :: '{' :: '\n' ::
        ((withLast lit ss).flatten ++ '}' :: [';', '\n'])))))
      = .comment " XPM ".toList :: xpmRest name ss := by
  have hstatic : IsCIdent "static".toList := ⟨'s', ['t', 'a', 't', 'i', 'c'], rfl, by decide, by decide⟩
  have hchar : IsCIdent "char".toList := ⟨'c', ['h', 'a', 'r'], rfl, by decide, by decide⟩
  unfold L.cTokens xpmRest
  rw [run_xpm_comment, run_ws '\n' _ (by simp), run_ident0 _ hstatic ' ' _ (by decide), run_ws ' ' _ (by simp),
    run_ident0 _ hchar ' ' _ (by decide), run_ws ' ' _ (by simp), run_punct '*' _ rfl, run_ident0 name hname '[' _ (by decide),
    run_punct '[' _ rfl, run_punct ']' _ rfl, run_ws ' ' _ (by simp), run_punct '=' _ rfl, run_ws ' ' _ (by simp), run_punct '{' _ rfl,
    run_ws '\n' _ (by simp), run_lits _ ss hne hss, run_punct '}' _ rfl, run_punct ';' _ rfl, run_ws '\n' _ (by simp)]
  rfl

theorem xpmRest_clean (name : List Char) (ss : List (List Char)) : ∀ t ∈ xpmRest name ss, t.isComment = false ∧ t.isBad = false := by
  intro t ht
  simp only [xpmRest, List.mem_cons, List.mem_append, List.not_mem_nil, or_false] at ht
  rcases ht with rfl | rfl | rfl | rfl | rfl | rfl | rfl | rfl | h | rfl | rfl
  all_goals first | exact ⟨rfl, rfl⟩ | skip
  rcases commaStrs_mem ss t h with ⟨s, rfl⟩ | rfl <;> exact ⟨rfl, rfl⟩

theorem commaStrs_filter (ss : List (List Char)) (tl : List Tok) (htl : ∀ t ∈ tl, t.isComment = false) :
    (commaStrs ss ++ tl).filter (fun t => !t.isComment) = commaStrs ss ++ tl := by
  rw [List.filter_eq_self]
  intro t ht
  rcases List.mem_append.1 ht with h | h
  · rcases commaStrs_mem ss t h with ⟨s, rfl⟩ | rfl <;> rfl
  · simp [htl t h]

theorem xpmDecl_ok (name : List Char) (ss : List (List Char)) :
    xpmDecl name (xpmRest name ss) = .ok (commaStrs ss ++ [.punct '}', .punct ';']) := by
  simp [xpmDecl, xpmRest]

theorem pixChar_plain (v : Nat) : pixChar v ≠ '"' ∧ pixChar v ≠ '\\' := by
  unfold pixChar
  split <;> decide

theorem xpmRowPixels_row (lPx dPx : RGBA) : ∀ row : List Nat,
    xpmRowPixels [([' '], some lPx), (['X'], some dPx)] (row.map (fun v => [pixChar v]))
      = .ok (row.map (fun v => some (if v ≠ 0 then dPx else lPx)))
  | [] => rfl
  | v :: row => by
    rw [List.map_cons, xpmRowPixels, xpmRowPixels_row lPx dPx row]
    by_cases hv : v = 0
    · subst hv; rfl
    · have hp : pixChar v = 'X' := by simp [pixChar, hv]
      rw [hp]
      simp [hv]

theorem xpmRows_rows (lPx dPx : RGBA) (W : Nat) : ∀ rows : List (List Nat), (∀ r ∈ rows, r.length = W) →
    xpmRows [([' '], some lPx), (['X'], some dPx)] W 1 (rows.map (fun r => r.map pixChar))
      = .ok (rows.map (fun row => row.map (fun v => some (if v ≠ 0 then dPx else lPx))))
  | [], _ => rfl
  | r :: rows, h => by
    have hr : r.length = W := h r (by simp)
    have ih := xpmRows_rows lPx dPx W rows (fun x hx => h x (by simp [hx]))
    subst hr
    rw [List.map_cons, xpmRows]
    have hlen : ((r.map pixChar).length != r.length * 1) = false := by simp
    -- one character per pixel: the pieces of length 1
    have hch : L.chunks 1 r.length (r.map pixChar) = r.map (fun v => [pixChar v]) := by
      have := chunks_flatMap (fun v => [pixChar v]) 1 r (fun _ _ => rfl)
      rwa [← List.map_eq_flatMap] at this
    rw [hlen, hch, xpmRowPixels_row, ih]
    rfl

theorem xpmTable_two (bg stroke : List Char) (lPx dPx : RGBA)
    (hbg : Spec.L.xpmColour (' ' :: 'c' :: ' ' :: bg) = .ok (some lPx)) (hst : Spec.L.xpmColour (' ' :: 'c' :: ' ' :: stroke) = .ok (some dPx)) :
    xpmTable 1 [' ' :: ' ' :: 'c' :: ' ' :: bg, 'X' :: ' ' :: 'c' :: ' ' :: stroke] [] = .ok [([' '], some lPx), (['X'], some dPx)] := by
  simp [xpmTable, hbg, hst]

theorem xpmDoc_eq {w h : Nat} {scale : Num} {border : Option Num} {b : Nat} (a : Admitted w h scale border b)
    (M : List (List Nat)) (hM : WellFormed M w h) (dark light : Option ColorArg) (name : List Char) (doc : List Char)
    (hdoc : xpmDoc M w h scale border dark light name = .ok doc) :
    ∃ stroke bg, Model.RasterDocs.xpmColour (dark.getD (.str "#000")) = .ok stroke ∧ Model.RasterDocs.xpmColour (light.getD (.str "#fff")) = .ok bg
      ∧ doc = xpmHeader name ((w + 2 * b) * scale.toInt.toNat) ((h + 2 * b) * scale.toInt.toNat) bg stroke
                ++ (withLast xpmRow (grid M w h scale.toInt.toNat b)).flatten ++ "};\n".toList := by
  unfold xpmDoc at hdoc
  obtain ⟨_, _, hdoc⟩ := Proofs.Except.bind_ok.1 hdoc
  obtain ⟨stroke, hs, hdoc⟩ := Proofs.Except.bind_ok.1 hdoc
  obtain ⟨bg, hb, hdoc⟩ := Proofs.Except.bind_ok.1 hdoc
  simp only [matrixIter_ok a M hM, a.okRange, bind, Except.bind, pure, Except.pure, Except.ok.injEq] at hdoc
  exact ⟨stroke, bg, hs, hb, hdoc.symm⟩

theorem readXpm_rows (name : List Char) (hname : IsCIdent name) (rows : List (List Nat)) (W H : Nat) (g : Rect rows W H)
    (bg stroke : List Char) (lPx dPx : RGBA)
    (hlRead : Spec.L.xpmColour (' ' :: 'c' :: ' ' :: bg) = .ok (some lPx)) (hlChars : ∀ ch ∈ bg, ch ≠ '"' ∧ ch ≠ '\\')
    (hdRead : Spec.L.xpmColour (' ' :: 'c' :: ' ' :: stroke) = .ok (some dPx)) (hdChars : ∀ ch ∈ stroke, ch ≠ '"' ∧ ch ≠ '\\') :
    L.readXpm (xpmHeader name W H bg stroke ++ (withLast xpmRow rows).flatten ++ "};\n".toList) name
      = .ok { w := W, h := H, px := rows.map (fun row => row.map (fun v => some (if v ≠ 0 then dPx else lPx))) } := by
  rw [xpmText_eq name W H bg stroke rows g.ne_nil]
  have hvalues : ∀ c ∈ dec W ++ ' ' :: (dec H ++ [' ', '2', ' ', '1']), c ≠ '"' ∧ c ≠ '\\' :=
    List.forall_mem_append.2 ⟨dec_plain W, List.forall_mem_cons.2 ⟨by decide, List.forall_mem_append.2 ⟨dec_plain H, by decide⟩⟩⟩
  have hchars : ∀ s ∈ xpmStrs W H bg stroke rows, ∀ c ∈ s, c ≠ '"' ∧ c ≠ '\\' := by
    refine List.forall_mem_cons.2 ⟨hvalues, List.forall_mem_cons.2 ⟨?_, List.forall_mem_cons.2 ⟨?_, ?_⟩⟩⟩
    · exact (List.forall_mem_append (l₁ := [' ', ' ', 'c', ' '])).2 ⟨by decide, hlChars⟩
    · exact (List.forall_mem_append (l₁ := ['X', ' ', 'c', ' '])).2 ⟨by decide, hdChars⟩
    · intro t ht c hc
      obtain ⟨r, _, rfl⟩ := List.mem_map.1 ht
      obtain ⟨v, _, rfl⟩ := List.mem_map.1 hc
      exact pixChar_plain v
  obtain ⟨hfilter, hbad⟩ := clean_tokens _ (xpmRest_clean name (xpmStrs W H bg stroke rows))
  -- `cTokens_xpm` is the tokenizer on the whole text (no string closes or escapes early: `hchars`); from there on the reader
  -- works on tokens: the declaration, the strings between the commas, the values line, the table of two colours, the rows
  unfold L.readXpm
  simp only [cTokens_xpm name hname _ (by simp [xpmStrs]) hchars, List.any_cons, hbad, hfilter, xpmDecl_ok]
  have hcom : (Tok.comment " XPM ".toList).isBad = false := rfl
  have htrim : (trimWs " XPM ".toList != "XPM".toList) = false := by rfl
  rw [xpmStrings_comma _ (by simp [xpmStrs])]
  unfold xpmStrs
  have hcount : (((' ' :: ' ' :: 'c' :: ' ' :: bg) :: ('X' :: ' ' :: 'c' :: ' ' :: stroke) :: rows.map (fun r => r.map pixChar)).length != 2 + H) = false := by
    simp [g.len]; omega
  simp only [hcom, Bool.or_self, Bool.false_eq_true, if_false, htrim, values_line_read, g.w0, g.h0, hcount]
  have hz : (false || 2 == 0 || 1 == 0) = false := by decide
  rw [hz]
  simp only [Bool.false_eq_true, if_false, List.take_succ_cons, List.take_zero, List.drop_succ_cons, List.drop_zero,
    xpmTable_two bg stroke lPx dPx hlRead hdRead, xpmRows_rows lPx dPx W rows g.rowLen]

theorem xpm_doc {w h : Nat} {scale : Num} {border : Option Num} {b : Nat} (a : Admitted w h scale border b)
    (M : List (List Nat)) (hM : WellFormed M w h) (hw : 0 < w) (hh : 0 < h)
    (dark light : Option ColorArg) (name : List Char) (hname : IsCIdent name) (doc : List Char)
    (hdoc : xpmDoc M w h scale border dark light name = .ok doc) :
    ∃ dPx lPx, XpmShows (dark.getD (.str "#000")) dPx ∧ XpmShows (light.getD (.str "#fff")) lPx
      ∧ L.readXpm doc name = .ok { w := (w + 2 * b) * scale.toInt.toNat, h := (h + 2 * b) * scale.toInt.toNat,
                                   px := (grid M w h scale.toInt.toNat b).map (fun row => row.map (fun v => some (if v ≠ 0 then dPx else lPx))) } := by
  obtain ⟨stroke, bg, hstroke, hbg, hd⟩ := xpmDoc_eq a M hM dark light name doc hdoc
  obtain ⟨dPx, hdShow, hdRead, hdChars⟩ := xpmColour_read _ stroke hstroke
  obtain ⟨lPx, hlShow, hlRead, hlChars⟩ := xpmColour_read _ bg hbg
  rw [hd]
  exact ⟨dPx, lPx, hdShow, hlShow,
    readXpm_rows name hname _ _ _ (grid_rect M b hw hh a.pos) bg stroke lPx dPx hlRead hlChars hdRead hdChars⟩

end Proofs.RasterDocs
