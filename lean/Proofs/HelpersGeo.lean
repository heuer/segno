/-
  Proofs.HelpersGeo — `make_geo_data`: the text `f'{x:.8f}'.rstrip('0').rstrip('.')` of the model is read
  back by the specification's decimal parser as the sign of `x` and the value `x` rounded to 8 decimals,
  in canonical form (no trailing zero); the two numbers are separated by the only comma of the payload.
-/
import Proofs.HelpersNum

namespace Proofs.Helpers
open Spec.Helpers
open Model.Helpers (digitChar decDigits rstrip roundHalfEven padZeros fixed floatToStr geoData)

theorem digitVal_of_isDigit {c : Char} (h : isDigit c = true) : digitVal c = some (c.toNat - 48) := by
  simp [digitVal, h]

theorem decDigits_length (k n : Nat) (hk : 1 ≤ k) (h : n < 10 ^ k) : (decDigits n).length ≤ k :=
  decDigits_eq n ▸ (Nat.length_toDigits_le_iff (by decide) hk).mpr h

theorem padZeros_facts (k f : Nat) (hk : 1 ≤ k) (hf : f < 10 ^ k) :
    IsDigits (padZeros k (decDigits f)) ∧ (padZeros k (decDigits f)).length = k
    ∧ parseDigitsAux 0 (padZeros k (decDigits f)) = some f := by
  have hlen := decDigits_length k f hk hf
  refine ⟨?_, ?_, ?_⟩
  · refine IsDigits.append ?_ (decDigits_isDigits f)
    intro c hc
    rw [(List.mem_replicate.mp hc).2]; decide
  · simp [padZeros]; omega
  · rw [padZeros, parseDigitsAux_append, parseDigitsAux_zeros, Option.bind_some, parseDigitsAux_decDigits]
    simp

theorem parseFixed_strip (k : Nat) (hk : 1 ≤ k) (sgn : Bool) (q f : Nat) (hf : f < 10 ^ k) :
    parseFixed k (rstrip '.' (rstrip '0' ((if sgn then ['-'] else []) ++ decDigits q ++ '.' :: padZeros k (decDigits f))))
      = some (sgn, q * 10 ^ k + f, true) := by
  obtain ⟨hZd, hZl, hZv⟩ := padZeros_facts k f hk hf
  obtain ⟨v, hv, hfv⟩ := parse_rstrip_zeros _ f hZv
  have hlen := (rstrip_sublist '0' (padZeros k (decDigits f))).length_le
  rw [hZl] at hlen hfv
  rw [rstrip_zeros_point _ _ _ (decDigits_ne_nil q) (decDigits_ne_dot q) (fun c hc => (isDigit_ne (hZd c hc)).1),
    parseFixed_canonical k sgn q _ v hv hlen (rstrip_getLast_ne _ _), ← hfv]

theorem parseFixed_fixed (k : Nat) (hk : 1 ≤ k) (x : Rat') :
    parseFixed k (rstrip '.' (rstrip '0' (fixed k x))) = some (x.neg, roundHalfEven (x.num * 10 ^ k) x.den, true) := by
  unfold fixed
  have h := parseFixed_strip k hk x.neg (roundHalfEven (x.num * 10 ^ k) x.den / 10 ^ k)
    (roundHalfEven (x.num * 10 ^ k) x.den % 10 ^ k) (Nat.mod_lt _ (Nat.pow_pos (by omega)))
  rw [Nat.div_add_mod'] at h
  exact h

theorem floatToStr_parse (x : Rat') :
    parseFixed 8 (floatToStr x) = some (x.neg, roundHalfEven (x.num * 10 ^ 8) x.den, true) :=
  parseFixed_fixed 8 (by omega) x

theorem floatToStr_no_comma (x : Rat') : ∀ c ∈ floatToStr x, c ≠ ',' := by
  intro c hc
  have hc := mem_rstrip (mem_rstrip hc)
  unfold fixed at hc
  obtain ⟨hZd, _, _⟩ := padZeros_facts 8 (roundHalfEven (x.num * 10 ^ 8) x.den % 10 ^ 8) (by omega) (Nat.mod_lt _ (by decide))
  simp only [List.mem_append, List.mem_cons] at hc
  rcases hc with (hc | hc) | hc | hc
  · split at hc
    · simp at hc; subst hc; decide
    · simp at hc
  · exact (isDigit_ne (decDigits_isDigits _ c hc)).2.2
  · subst hc; decide
  · exact (isDigit_ne (hZd c hc)).2.2

end Proofs.Helpers
