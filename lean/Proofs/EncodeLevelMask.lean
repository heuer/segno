/-
  Proofs.EncodeLevelMask — the automatic mask of the symbol `Model.encode` returns is the first optimum of the ISO
  evaluation, every candidate being rebuilt from the FINAL matrix (`Spec.candidate`): cell by cell, un-masking with
  the chosen pattern and masking with the candidate gives the matrix the model scored.
-/
import Spec.Penalty
import Model.Encoder
import Proofs.EndToEnd

namespace Proofs.EncodeLevel
open Model Proofs.EndToEnd Proofs.Placement2

def candCell (v : Int) (k p i j x : Nat) : Nat :=
  match Spec.kind v i j with
  | .data => (x + Spec.maskBit v k i j + Spec.maskBit v p i j) % 2
  | .format => 0
  | .version => 0
  | .darkmodule => 0
  | _ => x

theorem candidate_eq (v : Int) (m : Matrix) (k p : Nat) :
    Spec.candidate v m k p = m.mapIdx (fun i row => row.mapIdx (fun j x => candCell v k p i j x)) := rfl

theorem size_candidate (v : Int) (m : Matrix) (k p : Nat) : (Spec.candidate v m k p).size = m.size := by
  simp [Spec.candidate]

theorem rowsize_candidate (v : Int) (m : Matrix) (k p i : Nat) :
    ((Spec.candidate v m k p).getD i #[]).size = (m.getD i #[]).size := by
  rw [candidate_eq]
  simp only [Array.getD_eq_getD_getElem?, Array.getElem?_mapIdx]
  by_cases hi : i < m.size <;> simp [hi]

theorem get2_candidate (v : Int) (m : Matrix) (k p i j : Nat) (hi : i < m.size) (hj : j < (m.getD i #[]).size) :
    get2 (Spec.candidate v m k p) i j = candCell v k p i j (get2 m i j) := by
  rw [candidate_eq]
  simp only [Array.getD_eq_getD_getElem?, Array.getElem?_eq_getElem hi, Option.getD_some] at hj
  simp only [get2, Array.getD_eq_getD_getElem?, Array.getElem?_mapIdx, Array.getElem?_eq_getElem hi,
    Option.map_some, Option.getD_some, Array.getElem?_eq_getElem hj]

theorem remask_bit (b x y : Nat) (hb : b ≤ 1) (hx : x ≤ 1) (hy : y ≤ 1) : ((b ^^^ x) + x + y) % 2 = b ^^^ y := by
  have : ∀ b, b < 2 → ∀ x, x < 2 → ∀ y, y < 2 → ((b ^^^ x) + x + y) % 2 = b ^^^ y := by decide
  exact this b (by omega) x (by omega) y (by omega)

theorem list_eq_map_getD (l : List Nat) : l = (List.range l.length).map (fun p => l.getD p 0) := by
  apply List.ext_getElem
  · simp
  · intro i h1 h2
    simp [List.getD_eq_getElem?_getD, List.getElem?_eq_getElem h1]

theorem candidate_is_model (v : Int) (e : Option Nat) (mk : Nat) (bits : List Nat) (m4 : Matrix)
    (ch : Chain v e none mk bits m4) (h1 : -3 ≤ v) (h2 : v ≤ 40) (hb : ∀ b ∈ bits, b ≤ 1)
    (hlen : bits.length = (Spec.dataCoords v).length) (fm : Matrix) (hfm : functionMatrix (Spec.size v) = .ok fm)
    (p : Nat) (hp : p < (maskPatterns (decide (v < 1))).length) :
    Spec.candidate v m4 mk p = applyMask ch.m1 fm ((maskPatterns (decide (v < 1))).getD p 0) := by
  obtain ⟨fm', hfm', st⟩ := chain_basic v e none mk bits m4 ch h1 h2 hb hlen
  rw [hfm] at hfm'
  cases hfm'
  have P1 := st.placed1
  have PP := placed_mask v ch.m1 fm ((maskPatterns (decide (v < 1))).getD p 0) h1 h2 hfm P1
  have hsqc : Proofs.Placement.Sq (Spec.candidate v m4 mk p) (Spec.size v) := by
    refine ⟨by rw [size_candidate]; exact st.sq4.1, fun i hi => ?_⟩
    rw [rowsize_candidate]; exact st.sq4.2 i hi
  apply Proofs.Placement.Sq_ext hsqc PP.sq
  intro i j hi hj
  rw [get2_candidate v m4 mk p i j (by rw [st.sq4.1]; exact hi) (by rw [st.sq4.2 i hi]; exact hj)]
  -- what the final matrix holds outside format / version / dark-module cells
  have hm4 : Spec.kind v i j ≠ .format → Spec.kind v i j ≠ .version → Spec.kind v i j ≠ .darkmodule →
      get2 m4 i j = get2 ch.m2 i j := by
    intro n1 n2 n3
    rw [st.keep i j n2]
    exact Props.C02.format_info_touches_only_format_cells ch.m2 ch.m3 v e mk i j h1 h2 st.sq2 ch.hm3 ⟨n1, n3⟩
  -- a data cell holds the placed bit masked with `mk`, and un-masking it and masking with `p` is `remask_bit`; elsewhere the
  -- model scored the skeleton, which has 0 on the cells written after masking, as `candCell` puts there
  cases hd : Spec.isData v i j with
  | true =>
    have hk : Spec.kind v i j = .data := by
      unfold Spec.isData at hd
      exact eq_of_beq hd
    have hfmc : get2 fm i j > 1 := by
      rw [fm_cells v fm h1 h2 hfm i j hi hj]
      have := (skelCell_eq_two_iff 1 (by decide) v i j).2 hd
      omega
    have hin : i < ch.m1.size ∧ j < (ch.m1.getD i #[]).size := by
      rw [P1.sq.1, P1.sq.2 i hi]; exact ⟨hi, hj⟩
    rw [hm4 (by rw [hk]; decide) (by rw [hk]; decide) (by rw [hk]; decide), st.m2_eq,
      Proofs.Mask.get2_applyMask, if_pos hin, if_pos hfmc,
      Proofs.Mask.get2_applyMask, if_pos hin, if_pos hfmc,
      maskFn_pattern v mk i j st.mk_lt, maskFn_pattern v p i j hp]
    unfold candCell
    simp only [hk]
    exact remask_bit _ _ _ (P1.data i j hi hj hd) (maskBit_le _ _ _ _) (maskBit_le _ _ _ _)
  | false =>
    rw [PP.other i j hi hj hd]
    unfold candCell
    cases hk : Spec.kind v i j
    case data =>
      unfold Spec.isData at hd
      rw [hk] at hd
      cases hd
    case format => simp only [skelCell, hk]
    case version => simp only [skelCell, hk]
    case darkmodule => simp only [skelCell, hk]
    all_goals
      simp only
      rw [hm4 (by rw [hk]; decide) (by rw [hk]; decide) (by rw [hk]; decide)]
      exact st.placed.other i j hi hj hd

theorem bestMask_snd (v : Int) (m : Matrix) (k : Nat) :
    (Spec.bestMask v m k).2 = (List.range (if Spec.isMicro v then 4 else 8)).map (fun p =>
      if Spec.isMicro v then Spec.scoreMicro (Spec.candidate v m k p) else Spec.penaltyQR (Spec.candidate v m k p)) := rfl

theorem bestMask_fst (v : Int) (m : Matrix) (k : Nat) :
    (Spec.bestMask v m k).1 = (Spec.bestMask v m k).2.idxOf
      (if Spec.isMicro v then (Spec.bestMask v m k).2.foldl max 0
       else (Spec.bestMask v m k).2.foldl min ((Spec.bestMask v m k).2.headD 0)) := rfl

theorem auto_mask_chain (v : Int) (e : Option Nat) (mk : Nat) (bits : List Nat) (m4 : Matrix)
    (ch : Chain v e none mk bits m4) (h1 : -3 ≤ v) (h2 : v ≤ 40) (hb : ∀ b ∈ bits, b ≤ 1)
    (hlen : bits.length = (Spec.dataCoords v).length) :
    (Spec.bestMask v m4 mk).1 = mk := by
  obtain ⟨fm, hfm, st⟩ := chain_basic v e none mk bits m4 ch h1 h2 hb hlen
  have P1 := st.placed1
  have hsz1 : ch.m1.size = Spec.size v := P1.sq.1
  obtain ⟨-, hk, -⟩ := Proofs.Mask.auto_first_best ch.m1 fm mk ch.m2 (by rw [hsz1]; exact hfm) ch.hm2
  rw [hsz1, decide_eq_decide.2 (Proofs.Size.size_lt_21_iff v)] at hk
  -- the model's scores are the specification's
  have hscores : ((maskPatterns (decide (v < 1))).map (fun pat => applyMask ch.m1 fm pat)).map
        (fun c => if decide (v < 1) = true then evaluateMicroMask c else evaluateMask c)
      = (Spec.bestMask v m4 mk).2 := by
    rw [bestMask_snd, List.map_map]
    conv => lhs; rw [list_eq_map_getD (maskPatterns (decide (v < 1)))]
    rw [List.map_map, Proofs.EncodeStages.maskPatterns_length]
    apply List.map_congr_left
    intro p hpm
    have hp : p < (maskPatterns (decide (v < 1))).length := by
      rw [Proofs.EncodeStages.maskPatterns_length]; exact List.mem_range.1 hpm
    simp only [Function.comp]
    rw [candidate_is_model v e mk bits m4 ch h1 h2 hb hlen fm hfm p hp]
    have PP := placed_mask v ch.m1 fm ((maskPatterns (decide (v < 1))).getD p 0) h1 h2 hfm P1
    have hsq : ∀ i, i < (applyMask ch.m1 fm ((maskPatterns (decide (v < 1))).getD p 0)).size →
        ((applyMask ch.m1 fm ((maskPatterns (decide (v < 1))).getD p 0)).getD i #[]).size
          = (applyMask ch.m1 fm ((maskPatterns (decide (v < 1))).getD p 0)).size := by
      intro i hi
      rw [PP.sq.1] at hi ⊢
      exact PP.sq.2 i hi
    rw [Proofs.Mask.score_eq _ hsq, Proofs.Mask.micro_score]
    rfl
  rw [hscores] at hk
  rw [bestMask_fst]
  exact hk.symm

end Proofs.EncodeLevel
