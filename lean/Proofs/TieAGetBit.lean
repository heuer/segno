/-
  Proofs.TieAGetBit — `get_bit` (inner function of `utils.matrix_iter_verbose`): the translated decision chain and
  `Model.getBitBranch` test the same Boolean conditions in the same order, so they are compared `if` by `if`
  (`ite_branch`); no arithmetic on the coordinates is needed.
-/
import Proofs.TieA

namespace Proofs.TieA
open Model

theorem ite_branch {α β : Type} (f : α → β) (c : Bool) {x y : β} {p q : α} (hx : x = f p) (hy : y = f q) :
    (if c then x else y) = f (if c then p else q) := by
  cases c <;> assumption

/-- Python nests `if c: if d: x` where the model tests `c && d` -/
theorem ite_ite_and {β : Type} (c d : Bool) (x y : β) :
    (if c then (if d then x else y) else y) = if c && d then x else y := by
  cases c <;> cases d <;> rfl

theorem get_bit_outside (w h i j : Int) (sq mi : Bool) (a val : Int) (hout : ¬ ((0 ≤ i ∧ i < h) ∧ (0 ≤ j ∧ j < w))) :
    Gen.Funcs.get_bit w h sq mi i j val a = .ok (Int.ofNat Gen.TYPE_QUIET_ZONE) := by
  have hin : ¬ (((decide ((0 : Int) ≤ i)) && (decide (i < h))) && ((decide ((0 : Int) ≤ j)) && (decide (j < w)))) = true := by
    simpa using hout
  unfold Gen.Funcs.get_bit
  rw [if_neg hin]
  rfl

end Proofs.TieA
