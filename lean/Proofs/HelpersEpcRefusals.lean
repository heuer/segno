/-
  Proofs.HelpersEpcRefusals — the refusals of the model of `_make_epc_qr_data` against the judge's checks
  (`Spec.Helpers.epcChecks`).  The code strips name and BIC on both sides, text and reference on the right, IBAN and
  purpose not at all; the judge wants a limit violated both as given and stripped on both sides.  So each limit of the
  model is set against the check for one of the two readings, and the payload size lies between the two counts.
-/
import Proofs.HelpersEpc

namespace Proofs.Helpers
open Spec.Helpers
open Model.Helpers (digitChar decDigits rstrip fmtAmount newlineJoin epcData truthy mapTruthy stripWs rstripWs roundHalfEven
  epcLines epcText epcReference epcBic epcName epcRefusedByLimits epcEncodingArg)

theorem pyIsSpace_eq : Model.Helpers.pyIsSpace = Spec.Helpers.pyIsSpace := by
  funext c
  simp only [Model.Helpers.pyIsSpace, Spec.Helpers.pyIsSpace, Bool.beq_eq_decide_eq]

theorem stripWs_eq (s : Str) : stripWs s = trim s := by
  unfold stripWs rstripWs trim; rw [pyIsSpace_eq]

theorem trim_nil : trim [] = [] := rfl

theorem rstripWs_append (w m : Str) : rstripWs (w ++ m) = if rstripWs m = [] then rstripWs w else w ++ rstripWs m :=
  rstripBy_append _ w m

theorem rstripWs_of_all {s : Str} (h : ∀ c ∈ s, Model.Helpers.pyIsSpace c = true) : rstripWs s = [] := by
  unfold rstripWs
  rw [List.reverse_eq_nil_iff]
  simpa using List.dropWhile_append_of_pos (l₁ := s.reverse) (l₂ := []) (by simpa using h)

theorem rstripWs_eq_trim (s : Str) :
    rstripWs s = if trim s = [] then [] else s.takeWhile Model.Helpers.pyIsSpace ++ trim s := by
  have h := rstripWs_append (s.takeWhile Model.Helpers.pyIsSpace) (s.dropWhile Model.Helpers.pyIsSpace)
  rw [List.takeWhile_append_dropWhile, ← stripWs, stripWs_eq] at h
  rw [h]
  split
  · exact rstripWs_of_all (List.all_eq_true.mp List.all_takeWhile)
  · rfl

theorem trim_sublist_rstripWs (s : Str) : (trim s).Sublist (rstripWs s) := by
  rw [rstripWs_eq_trim]
  split
  next h => rw [h]; exact List.nil_sublist _
  · exact List.sublist_append_right _ _

theorem trim_sublist (s : Str) : (trim s).Sublist s := stripWs_eq s ▸ stripWs_sublist s

theorem trim_isEmpty (s : Str) : (trim s).isEmpty = (rstripWs s).isEmpty := by
  rw [rstripWs_eq_trim]
  cases trim s with
  | nil => rfl
  | cons x xs => simp

theorem trim_eq_nil_iff (s : Str) : trim s = [] ↔ ∀ c ∈ s, Spec.Helpers.pyIsSpace c = true := by
  rw [← List.isEmpty_iff, trim_isEmpty, List.isEmpty_iff, ← pyIsSpace_eq]
  refine ⟨fun h => ?_, rstripWs_of_all⟩
  -- nothing is left of the reversed text, so all of it is the run of whitespace at its head
  have h' : s.reverse.dropWhile Model.Helpers.pyIsSpace = [] := List.reverse_eq_nil_iff.mp h
  have hs := List.takeWhile_append_dropWhile (p := Model.Helpers.pyIsSpace) (l := s.reverse)
  rw [h', List.append_nil] at hs
  intro c hc
  exact List.all_eq_true.mp List.all_takeWhile c (hs ▸ List.mem_reverse.mpr hc)

theorem isEmpty_of_trim_not (s : Str) (h : (trim s).isEmpty = false) : s.isEmpty = false := by
  cases s with
  | nil => simp [trim_nil] at h
  | cons _ _ => rfl

theorem epcText_truthy (a : EpcArgs) : truthy (epcText a) = !(rstripWs (a.text.getD [])).isEmpty :=
  truthy_mapTruthy _ rstripWs_nil _
theorem epcText_getD (a : EpcArgs) : (epcText a).getD [] = rstripWs (a.text.getD []) :=
  getD_mapTruthy _ rstripWs_nil _
theorem epcReference_truthy (a : EpcArgs) : truthy (epcReference a) = !(rstripWs (a.reference.getD [])).isEmpty :=
  truthy_mapTruthy _ rstripWs_nil _
theorem epcReference_getD (a : EpcArgs) : (epcReference a).getD [] = rstripWs (a.reference.getD []) :=
  getD_mapTruthy _ rstripWs_nil _
theorem epcBic_truthy (a : EpcArgs) : truthy (epcBic a) = !(trim (a.bic.getD [])).isEmpty := by
  rw [epcBic, truthy_mapTruthy _ stripWs_nil, stripWs_eq]
theorem epcBic_getD (a : EpcArgs) : (epcBic a).getD [] = trim (a.bic.getD []) := by
  rw [epcBic, getD_mapTruthy _ stripWs_nil, stripWs_eq]
theorem epcName_getD (a : EpcArgs) : (epcName a).getD [] = trim (a.name.getD []) := by
  rw [epcName, getD_mapTruthy _ stripWs_nil, stripWs_eq]
theorem epcName_isNone (a : EpcArgs) : (epcName a).isNone = a.name.isNone := isNone_mapTruthy _ _

/-- "the codec of this name can represent the text", read from `EpcArgs.can` -/
def canNameOf (a : EpcArgs) : String → Bool :=
  fun (n : String) => match epcEncodings.idxOf? n with | some i => a.can.getD i false | none => false

theorem encodings_eq : Gen.EPC_ENCODINGS = epcEncodings := rfl

theorem epcEncodingArg_eq (e : EpcEnc) :
    epcEncodingArg e = (match epcRequested e with | .ok r => some r | .error _ => none) := by
  cases e with
  | none => rfl
  | num n =>
    have hl : ((Gen.EPC_ENCODINGS.length : Nat) : Int) = 8 := rfl
    simp only [epcEncodingArg, epcRequested, hl]
    by_cases h1 : 1 ≤ n <;> by_cases h2 : n ≤ 8 <;> simp [h1, h2]
  | name s =>
    have hl : Gen.EPC_ENCODINGS.length = 8 := rfl
    have hm : Model.Helpers.lowerAscii = Spec.Helpers.lowerAscii := rfl
    simp only [epcEncodingArg, epcRequested, hm, encodings_eq]
    rw [← encodings_eq, hl]
    split <;> rfl

theorem epcEncodingArg_eq_some_iff (e : EpcEnc) (r : Option Nat) : epcEncodingArg e = some r ↔ epcRequested e = .ok r := by
  rw [epcEncodingArg_eq]
  cases epcRequested e with
  | ok r' => simp
  | error _ => simp

theorem epcRequested_range (e : EpcEnc) (k : Nat) (h : epcRequested e = .ok (some k)) : 1 ≤ k ∧ k ≤ 8 := by
  cases e with
  | none => simp [epcRequested] at h
  | num n =>
    simp only [epcRequested] at h
    split at h
    next hn =>
      simp only [Bool.and_eq_true, decide_eq_true_eq] at hn
      injection h with h; injection h with h
      omega
    · cases h
  | name s =>
    simp only [epcRequested] at h
    split at h
    next hn =>
      injection h with h; injection h with h
      omega
    · cases h

theorem epcCharset_none_range (can : List Bool) : 1 ≤ epcCharset none can ∧ epcCharset none can ≤ 8 := by
  unfold epcCharset
  simp only
  split
  next j hj =>
    have := List.mem_of_find?_eq_some hj
    simp only [List.mem_range] at this
    omega
  · omega

theorem epcCharset_range (e : EpcEnc) (req : Option Nat) (h : epcRequested e = .ok req) (can : List Bool) :
    1 ≤ epcCharset req can ∧ epcCharset req can ≤ 8 := by
  cases req with
  | none => exact epcCharset_none_range can
  | some k => exact epcRequested_range e k h

theorem idxOf_encodings : ∀ i < 8, epcEncodings.idxOf? (Gen.EPC_ENCODINGS.getD i "") = some i
    ∧ (Gen.EPC_ENCODINGS.getD i "" == "utf-8") = (i == 0) := by decide

theorem canNameOf_codec (a : EpcArgs) (k : Nat) (h1 : 1 ≤ k) (h8 : k ≤ 8) :
    canNameOf a (Gen.EPC_ENCODINGS.getD (k - 1) "") = a.can.getD (k - 1) false := by
  simp only [canNameOf, (idxOf_encodings (k - 1) (by omega)).1]

theorem find?_congr {α : Type} {p q : α → Bool} {l : List α} (h : ∀ x ∈ l, p x = q x) : l.find? p = l.find? q := by
  rw [← List.head?_filter, ← List.head?_filter, List.filter_congr h]

theorem epc_charset_search (a : EpcArgs) {canName : String → Bool}
    (hcn : ∀ k, 1 ≤ k → k ≤ 8 → canName (Gen.EPC_ENCODINGS.getD (k - 1) "") = a.can.getD (k - 1) false) (req : Option Nat) :
    epcCharsetOf canName req = epcCharset req a.can := by
  cases req with
  | some k => rfl
  | none =>
    have hlist : (Gen.EPC_ENCODINGS.drop 1).zipIdx 2 = (List.range 7).map (fun j => (Gen.EPC_ENCODINGS.getD (j + 1) "", j + 2)) := by
      decide
    have hcan : ∀ j ∈ List.range 7, ((fun p : String × Nat => canName p.1) ∘ fun j => (Gen.EPC_ENCODINGS.getD (j + 1) "", j + 2)) j
        = a.can.getD (j + 1) false :=
      fun j hj => hcn (j + 2) (by omega) (by have := List.mem_range.mp hj; omega)
    unfold epcCharsetOf epcCharset
    rw [hlist, List.find?_map, find?_congr hcan]
    cases (List.range 7).find? (fun j => a.can.getD (j + 1) false) <;> rfl

/-- number of bytes of the text in character set `k` (single-byte sets for `k ≠ 1`) -/
def byteLen (k : Nat) (s : Str) : Nat := if k = 1 then Spec.Helpers.utf8Len s else s.length

theorem encodedLen_codec (k : Nat) (h1 : 1 ≤ k) (h8 : k ≤ 8) (s : Str) :
    encodedLen (Gen.EPC_ENCODINGS.getD (k - 1) "") s = byteLen k s := by
  unfold encodedLen byteLen
  rw [(idxOf_encodings (k - 1) (by omega)).2]
  by_cases hk : k = 1
  · subst hk; rfl
  · have : k - 1 ≠ 0 := by omega
    simp [hk, this]

theorem utf8Len_nil : Spec.Helpers.utf8Len [] = 0 := rfl

theorem utf8Len_append (s t : Str) : Spec.Helpers.utf8Len (s ++ t) = Spec.Helpers.utf8Len s + Spec.Helpers.utf8Len t := by
  simp [Spec.Helpers.utf8Len, Spec.Helpers.utf8, List.flatMap_append]

theorem utf8Len_cons (c : Char) (t : Str) :
    Spec.Helpers.utf8Len (c :: t) = (Spec.Helpers.utf8Char c).length + Spec.Helpers.utf8Len t := by
  simp [Spec.Helpers.utf8Len, Spec.Helpers.utf8, List.flatMap_cons]

theorem utf8Len_sublist {s t : Str} (h : s.Sublist t) : Spec.Helpers.utf8Len s ≤ Spec.Helpers.utf8Len t := by
  induction h with
  | slnil => exact Nat.le_refl _
  | cons a _ ih => rw [utf8Len_cons]; omega
  | cons_cons a _ ih => rw [utf8Len_cons, utf8Len_cons]; omega

theorem utf8Len_ascii (s : Str) (h : ∀ c ∈ s, c.toNat < 128) : Spec.Helpers.utf8Len s = s.length := by
  induction s with
  | nil => rfl
  | cons c t ih =>
    rw [utf8Len_cons, ih (fun x hx => h x (by simp [hx]))]
    have hc : c.toNat < 128 := h c (by simp)
    simp [Spec.Helpers.utf8Char, hc]
    omega

theorem byteLen_nil (k : Nat) : byteLen k [] = 0 := by unfold byteLen; split <;> rfl

theorem byteLen_append (k : Nat) (s t : Str) : byteLen k (s ++ t) = byteLen k s + byteLen k t := by
  unfold byteLen; split
  · exact utf8Len_append s t
  · exact List.length_append

theorem byteLen_sublist (k : Nat) {s t : Str} (h : s.Sublist t) : byteLen k s ≤ byteLen k t := by
  unfold byteLen; split
  · exact utf8Len_sublist h
  · exact h.length_le

theorem byteLen_ascii (k : Nat) (s : Str) (h : ∀ c ∈ s, c.toNat < 128) : byteLen k s = s.length := by
  unfold byteLen; split
  · exact utf8Len_ascii s h
  · rfl

/-- bytes that the optional last line (the unstructured text) adds: nothing if empty, else a line feed and the text -/
def lastLineLen (k : Nat) (s : Str) : Nat := if s.isEmpty then 0 else 1 + byteLen k s

theorem lastLineLen_sublist (k : Nat) {s t : Str} (h : s.Sublist t) : lastLineLen k s ≤ lastLineLen k t := by
  have := byteLen_sublist k h
  unfold lastLineLen
  cases s with
  | nil => exact Nat.zero_le _
  | cons c s =>
    cases t with
    | nil => cases h
    | cons d t => simp only [List.isEmpty_cons, Bool.false_eq_true, if_false]; omega

theorem byteLen_lf_cons (k : Nat) (t : Str) : byteLen k ('\n' :: t) = 1 + byteLen k t := by
  have := byteLen_append k ['\n'] t
  rw [byteLen_ascii k ['\n'] (by intro c hc; simp at hc; subst hc; decide)] at this
  simpa using this

theorem byteLen_newlineJoin (k : Nat) (L : List Str) :
    byteLen k (newlineJoin L) = (L.map (byteLen k)).sum + (L.length - 1) := by
  induction L with
  | nil => simp [newlineJoin, byteLen_nil]
  | cons x rest ih =>
    cases rest with
    | nil => simp [newlineJoin]
    | cons y more =>
      simp only [newlineJoin] at ih ⊢
      rw [byteLen_append, byteLen_lf_cons, ih]
      simp only [List.map_cons, List.sum_cons, List.length_cons]
      omega

theorem isDigit_toNat_lt {c : Char} (h : isDigit c = true) : c.toNat < 128 := by
  simp only [isDigit, Bool.and_eq_true, decide_eq_true_eq] at h
  have h2 : c.val ≤ '9'.val := h.2
  have : c.toNat = c.val.toNat := rfl
  have h9 : ('9' : Char).val.toNat = 57 := rfl
  have := UInt32.le_iff_toNat_le.mp h2
  omega

theorem decDigits_ascii (n : Nat) : ∀ c ∈ decDigits n, c.toNat < 128 :=
  fun c hc => isDigit_toNat_lt (decDigits_isDigits n c hc)

theorem toString_length_eq (n : Nat) : (toString n).length = (decDigits n).length := by
  rw [Nat.toString_eq_ofList_toDigits, String.length_ofList, decDigits_eq]

theorem fmtAmount_length (cents : Nat) : (fmtAmount cents).length = amountText cents := by
  rw [fmtAmount_shape]
  unfold amountText
  simp only [toString_length_eq, List.length_append, List.length_cons, List.length_nil, beq_iff_eq]
  by_cases h0 : cents % 10 = 0
  · by_cases h1 : cents % 100 / 10 % 10 = 0
    · have h2 : cents % 100 = 0 := by omega
      simp [h0, h2]
    · have h2 : ¬ cents % 100 = 0 := by omega
      simp [h0, h1, h2]
  · have h2 : ¬ cents % 100 = 0 := by omega
    simp [h0, h2]

theorem fmtAmount_ascii (cents : Nat) : ∀ c ∈ fmtAmount cents, c.toNat < 128 := by
  intro c hc
  rcases mem_fmtAmount hc with h | h
  · exact isDigit_toNat_lt h
  · exact (by decide : ∀ c ∈ ['E', 'U', 'R', '.'], c.toNat < 128) c h

theorem ite_not_isEmpty (s : Str) : (if (!s.isEmpty) = true then s else []) = s := by
  cases s <;> rfl

theorem ite_not_isEmpty_singleton (s : Str) : (if (!s.isEmpty) = true then [s] else []) = (if s.isEmpty = true then [] else [s]) := by
  cases s <;> rfl

theorem epcLines_eq (a : EpcArgs) (k cents : Nat) (hk : k ≠ 0) :
    epcLines a k cents =
      [['B', 'C', 'D'], ['0', '0', '2'], decDigits k, ['S', 'C', 'T'], trim (a.bic.getD []), trim (a.name.getD []), a.iban.getD [],
       fmtAmount cents, a.purpose.getD [], rstripWs (a.reference.getD [])]
      ++ (if (rstripWs (a.text.getD [])).isEmpty = true then [] else [rstripWs (a.text.getD [])]) := by
  unfold epcLines
  simp only [epcBic_truthy, epcBic_getD, epcName_getD, epcReference_truthy, epcReference_getD, epcText_truthy, epcText_getD,
    truthy_eq a.purpose, if_neg hk, ite_not_isEmpty, ite_not_isEmpty_singleton]

/-- 19 = the ten bytes of `BCD`, `002`, the character set digit and `SCT`, and the nine line feeds between the ten
    lines; the text, if there is one, brings one more line feed. -/
theorem epc_payload_byteLen (a : EpcArgs) (k : Nat) (h1 : 1 ≤ k) (h8 : k ≤ 8) :
    byteLen k (epcPayload a k) =
      19 + amountText (roundHalfEven (100 * a.amount.num) a.amount.den)
      + byteLen k (trim (a.bic.getD [])) + byteLen k (trim (a.name.getD [])) + byteLen k (a.iban.getD [])
      + byteLen k (a.purpose.getD []) + byteLen k (rstripWs (a.reference.getD [])) + lastLineLen k (rstripWs (a.text.getD [])) := by
  unfold epcPayload lastLineLen
  rw [byteLen_newlineJoin, epcLines_eq a k _ (by omega)]
  have e1 : byteLen k ['B', 'C', 'D'] = 3 := byteLen_ascii k _ (by decide)
  have e2 : byteLen k ['0', '0', '2'] = 3 := byteLen_ascii k _ (by decide)
  have e3 : byteLen k ['S', 'C', 'T'] = 3 := byteLen_ascii k _ (by decide)
  have e4 : byteLen k (decDigits k) = 1 := by
    rw [byteLen_ascii k _ (decDigits_ascii k), decDigits_lt k (by omega)]; rfl
  have e5 : ∀ c, byteLen k (fmtAmount c) = amountText c := fun c => by
    rw [byteLen_ascii k _ (fmtAmount_ascii c), fmtAmount_length]
  cases (rstripWs (a.text.getD [])).isEmpty with
  | true =>
    simp only [if_true, List.append_nil, List.map_cons, List.map_nil, List.sum_cons, List.sum_nil, List.length_cons,
      List.length_nil, e1, e2, e3, e4, e5]
    omega
  | false =>
    simp only [Bool.false_eq_true, if_false, List.cons_append, List.nil_append, List.map_cons, List.map_nil, List.sum_cons,
      List.sum_nil, List.length_cons, List.length_nil, e1, e2, e3, e4, e5]
    omega

/-- a field as the judge looks at it: as given, or trimmed -/
def fld (tr : Bool) (o : Option Str) : Str := if tr then trim (o.getD []) else o.getD []

/-- the character set number the judge expects (1 when the request is invalid) -/
def specK (a : EpcArgs) : Nat := match epcRequested a.encoding with | .ok r => epcCharset r a.can | .error _ => 1

def specFields (tr : Bool) (a : EpcArgs) : List Str :=
  [fld tr a.bic, fld tr a.name, fld tr a.iban, fld tr a.purpose, fld tr a.reference]
  ++ (if (fld tr a.text).isEmpty then [] else [fld tr a.text])

/-- the judge's cents: nearest cent, ties to even -/
def specCents (a : EpcArgs) : Nat :=
  if a.amount.den == 0 then 0 else
    let q := 100 * a.amount.num / a.amount.den
    let r := 100 * a.amount.num % a.amount.den
    if 2 * r > a.amount.den then q + 1 else if 2 * r < a.amount.den then q else (if q % 2 == 0 then q else q + 1)

def specTotal (tr : Bool) (a : EpcArgs) : Nat :=
  3 + 3 + 1 + 3 + amountText (specCents a)
  + ((specFields tr a).map (fun s => if specK a == 1 then Spec.Helpers.utf8Len s else s.length)).sum + (4 + (specFields tr a).length)

def chkName (tr : Bool) (a : EpcArgs) : Bool := a.name.isNone || (fld tr a.name).length < 1 || (fld tr a.name).length > 70
def chkIban (tr : Bool) (a : EpcArgs) : Bool := a.iban.isNone || (fld tr a.iban).length < 5 || (fld tr a.iban).length > 34
def chkXor (tr : Bool) (a : EpcArgs) : Bool := (fld tr a.text).isEmpty == (fld tr a.reference).isEmpty
def chkText (tr : Bool) (a : EpcArgs) : Bool := (fld tr a.text).length > 140
def chkRef (tr : Bool) (a : EpcArgs) : Bool := (fld tr a.reference).length > 35
def chkBic (tr : Bool) (a : EpcArgs) : Bool := !(fld tr a.bic).isEmpty && (fld tr a.bic).length != 8 && (fld tr a.bic).length != 11
def chkPurpose (tr : Bool) (a : EpcArgs) : Bool := !(fld tr a.purpose).isEmpty && (fld tr a.purpose).length != 4
def chkNaN (a : EpcArgs) : Bool := a.amount.den == 0
def chkMin (a : EpcArgs) : Bool := (a.amount.neg && a.amount.num != 0) || 100 * a.amount.num < epcMinCents * a.amount.den
def chkMax (a : EpcArgs) : Bool := 100 * a.amount.num > epcMaxCents * a.amount.den
def chkEnc (a : EpcArgs) : Bool := match epcRequested a.encoding with | .ok _ => false | .error _ => true
def chkCan (a : EpcArgs) : Bool := !(a.can.getD (specK a - 1) false)
def chkSize (tr : Bool) (a : EpcArgs) : Bool := specTotal tr a > epcMaxBytes

theorem epcChecks_eq (tr : Bool) (a : EpcArgs) :
    epcChecks tr a =
      [("name-length", chkName tr a), ("iban-length", chkIban tr a), ("text-xor-reference", chkXor tr a),
       ("text-length", chkText tr a), ("reference-length", chkRef tr a), ("bic-length", chkBic tr a),
       ("purpose-length", chkPurpose tr a), ("amount-not-a-number", chkNaN a), ("amount-below-minimum", chkMin a),
       ("amount-above-maximum", chkMax a), ("encoding-request", chkEnc a),
       ("not-representable-in-the-character-set", chkCan a), ("payload-exceeds-331-bytes", chkSize tr a)] := rfl

theorem mustRefuse_none (a : EpcArgs)
    (h1 : chkName false a = false ∨ chkName true a = false) (h2 : chkIban false a = false ∨ chkIban true a = false)
    (h3 : chkXor false a = false ∨ chkXor true a = false) (h4 : chkText false a = false ∨ chkText true a = false)
    (h5 : chkRef false a = false ∨ chkRef true a = false) (h6 : chkBic false a = false ∨ chkBic true a = false)
    (h7 : chkPurpose false a = false ∨ chkPurpose true a = false) (h8 : chkNaN a = false) (h9 : chkMin a = false)
    (h10 : chkMax a = false) (h11 : chkEnc a = false) (h12 : chkCan a = false)
    (h13 : chkSize false a = false ∨ chkSize true a = false) : epcMustRefuse a = none := by
  unfold epcMustRefuse
  rw [epcChecks_eq, epcChecks_eq]
  simp only [List.zip_cons_cons, List.zip_nil_right, List.find?_cons, List.find?_nil, Bool.and_eq_false_iff.mpr h1,
    Bool.and_eq_false_iff.mpr h2, Bool.and_eq_false_iff.mpr h3, Bool.and_eq_false_iff.mpr h4, Bool.and_eq_false_iff.mpr h5,
    Bool.and_eq_false_iff.mpr h6, Bool.and_eq_false_iff.mpr h7, h8, h9, h10, h11, h12, Bool.and_eq_false_iff.mpr h13,
    Bool.and_self, Option.map_none]

theorem mustAccept_checks (a : EpcArgs) (h : epcMustAccept a = true) (tr : Bool) :
    chkName tr a = false ∧ chkIban tr a = false ∧ chkXor tr a = false ∧ chkText tr a = false ∧ chkRef tr a = false
    ∧ chkBic tr a = false ∧ chkPurpose tr a = false ∧ chkNaN a = false ∧ chkMin a = false ∧ chkMax a = false
    ∧ chkEnc a = false ∧ chkCan a = false ∧ chkSize tr a = false := by
  unfold epcMustAccept at h
  rw [epcChecks_eq, epcChecks_eq] at h
  simp only [List.all_cons, List.all_nil, Bool.and_eq_true, Bool.not_eq_true', Bool.and_true] at h
  cases tr
  · exact h.1
  · exact h.2

theorem fld_true (o : Option Str) : fld true o = trim (o.getD []) := rfl
theorem fld_false (o : Option Str) : fld false o = o.getD [] := rfl

theorem minCents_eq : Gen.EPC_MIN_AMOUNT_CENTS = epcMinCents := rfl
theorem maxCents_eq : Gen.EPC_MAX_AMOUNT_CENTS = epcMaxCents := rfl

theorem bool_iff_eq_beq (x y : Bool) : ((x && y) || (!x && !y)) = (x == y) := by cases x <;> cases y <;> rfl

theorem not_within (lo hi n : Nat) : (!(decide (lo < n) && decide (n ≤ hi))) = (decide (n < lo + 1) || decide (n > hi)) := by
  simp only [Bool.not_and, ← decide_not, Nat.not_lt, Nat.not_le, Nat.lt_succ_iff, gt_iff_lt]

theorem epcRefusedByLimits_eq (a : EpcArgs) :
    epcRefusedByLimits a =
      (chkXor true a
      || !decide ((rstripWs (a.text.getD [])).length ≤ 140) || !decide ((rstripWs (a.reference.getD [])).length ≤ 35)
      || chkName true a || chkIban false a || chkBic true a || chkPurpose false a || chkNaN a || chkMin a || chkMax a) := by
  -- the code measures the text only if there is one, and the reference only if there is one and no text: that makes no
  -- difference, since an empty text is within its bound and text together with reference is refused anyway
  have absorb : ∀ (t r : Str) (n m : Nat) (R : Bool),
      (decide (t.isEmpty = r.isEmpty) || (!t.isEmpty && !decide (t.length ≤ n) || (t.isEmpty && !r.isEmpty && !decide (r.length ≤ m) || R)))
        = (decide (t.isEmpty = r.isEmpty) || (!decide (t.length ≤ n) || (!decide (r.length ≤ m) || R))) := by
    intro t r n m R
    cases t <;> cases r <;> simp
  unfold epcRefusedByLimits chkXor chkName chkIban chkBic chkPurpose chkNaN chkMin chkMax
  simp only [epcBic_truthy, epcBic_getD, epcName_getD, epcName_isNone, epcReference_truthy, epcReference_getD, epcText_truthy,
    epcText_getD, truthy_eq a.purpose, Bool.not_not,
    fld_true, fld_false, trim_isEmpty, bool_iff_eq_beq, not_within, minCents_eq, maxCents_eq, Bool.or_assoc, Bool.beq_eq_decide_eq,
    Nat.reduceAdd]
  exact absorb _ _ 140 35 _  -- the rest of the two sides differs in `Decidable` instances only

theorem epc_checks_of_limits (a : EpcArgs) (h : epcRefusedByLimits a = false) :
    chkName true a = false ∧ chkIban false a = false ∧ chkXor true a = false ∧ chkText true a = false
    ∧ chkRef true a = false ∧ chkBic true a = false ∧ chkPurpose false a = false ∧ chkNaN a = false
    ∧ chkMin a = false ∧ chkMax a = false := by
  rw [epcRefusedByLimits_eq] at h
  simp only [Bool.or_eq_false_iff, Bool.not_eq_false', decide_eq_true_eq] at h
  obtain ⟨⟨⟨⟨⟨⟨⟨⟨⟨hx, ht⟩, hr⟩, hn⟩, hi⟩, hb⟩, hp⟩, hnan⟩, hmin⟩, hmax⟩ := h
  have lt := (trim_sublist_rstripWs (a.text.getD [])).length_le
  have lr := (trim_sublist_rstripWs (a.reference.getD [])).length_le
  exact ⟨hn, hi, hx, decide_eq_false (by rw [fld_true]; omega), decide_eq_false (by rw [fld_true]; omega), hb, hp, hnan, hmin, hmax⟩

theorem epc_limits_of_checks (a : EpcArgs)
    (h1 : chkName true a = false) (h2 : chkIban false a = false) (h3 : chkXor true a = false) (h4 : chkText false a = false)
    (h5 : chkRef false a = false) (h6 : chkBic true a = false) (h7 : chkPurpose false a = false) (h8 : chkNaN a = false)
    (h9 : chkMin a = false) (h10 : chkMax a = false) : epcRefusedByLimits a = false := by
  have lt := (rstripWs_sublist (a.text.getD [])).length_le
  have lr := (rstripWs_sublist (a.reference.getD [])).length_le
  have h4 : (a.text.getD []).length ≤ 140 := by simpa [chkText, fld_false] using h4
  have h5 : (a.reference.getD []).length ≤ 35 := by simpa [chkRef, fld_false] using h5
  have e4 : decide ((rstripWs (a.text.getD [])).length ≤ 140) = true := decide_eq_true (by omega)
  have e5 : decide ((rstripWs (a.reference.getD [])).length ≤ 35) = true := decide_eq_true (by omega)
  rw [epcRefusedByLimits_eq, h1, h2, h3, h6, h7, h8, h9, h10, e4, e5]
  simp

theorem specK_of_ok (a : EpcArgs) (req : Option Nat) (h : epcRequested a.encoding = .ok req) :
    specK a = epcCharset req a.can := by
  unfold specK; rw [h]

theorem specK_range (a : EpcArgs) : 1 ≤ specK a ∧ specK a ≤ 8 := by
  unfold specK
  cases h : epcRequested a.encoding with
  | ok req => exact epcCharset_range a.encoding req h a.can
  | error _ => exact ⟨Nat.le_refl 1, Nat.le_add_left 1 7⟩

theorem byteLen_fun (k : Nat) : (fun s => if k == 1 then Spec.Helpers.utf8Len s else s.length) = byteLen k := by
  funext s
  unfold byteLen
  by_cases h : k = 1 <;> simp [h]

theorem specTotal_eq (tr : Bool) (a : EpcArgs) :
    specTotal tr a =
      19 + amountText (specCents a)
      + byteLen (specK a) (fld tr a.bic) + byteLen (specK a) (fld tr a.name) + byteLen (specK a) (fld tr a.iban)
      + byteLen (specK a) (fld tr a.purpose) + byteLen (specK a) (fld tr a.reference) + lastLineLen (specK a) (fld tr a.text) := by
  unfold specTotal specFields lastLineLen
  rw [byteLen_fun]
  cases (fld tr a.text).isEmpty with
  | true =>
    simp only [if_true, List.append_nil, List.map_cons, List.map_nil, List.sum_cons, List.sum_nil, List.length_cons,
      List.length_nil]
    omega
  | false =>
    simp only [Bool.false_eq_true, if_false, List.cons_append, List.nil_append, List.map_cons, List.map_nil, List.sum_cons,
      List.sum_nil, List.length_cons, List.length_nil]
    omega

theorem specCents_eq (a : EpcArgs) (hn : chkNaN a = false) :
    specCents a = roundHalfEven (100 * a.amount.num) a.amount.den := by
  have hd : a.amount.den ≠ 0 := by simpa [chkNaN] using hn
  unfold specCents roundHalfEven
  simp only [beq_iff_eq, hd, if_false]
  generalize 100 * a.amount.num / a.amount.den = q
  generalize 100 * a.amount.num % a.amount.den = r
  by_cases h1 : 2 * r > a.amount.den
  · have h2 : ¬ 2 * r < a.amount.den := by omega
    simp only [h1, h2, if_true, if_false]
  · by_cases h2 : 2 * r < a.amount.den
    · simp only [h1, h2, if_true, if_false]
    · simp only [h1, h2, if_false]

theorem payload_le_raw (a : EpcArgs) (hn : chkNaN a = false) :
    byteLen (specK a) (epcPayload a (specK a)) ≤ specTotal false a := by
  rw [epc_payload_byteLen a _ (specK_range a).1 (specK_range a).2, specTotal_eq, specCents_eq a hn]
  simp only [fld_false]
  have hb := byteLen_sublist (specK a) (trim_sublist (a.bic.getD []))
  have hn := byteLen_sublist (specK a) (trim_sublist (a.name.getD []))
  have hr := byteLen_sublist (specK a) (rstripWs_sublist (a.reference.getD []))
  have ht := lastLineLen_sublist (specK a) (rstripWs_sublist (a.text.getD []))
  omega

theorem trimmed_le_payload (a : EpcArgs) (hn : chkNaN a = false) :
    specTotal true a ≤ byteLen (specK a) (epcPayload a (specK a)) := by
  rw [epc_payload_byteLen a _ (specK_range a).1 (specK_range a).2, specTotal_eq, specCents_eq a hn]
  simp only [fld_true]
  have hi := byteLen_sublist (specK a) (trim_sublist (a.iban.getD []))
  have hp := byteLen_sublist (specK a) (trim_sublist (a.purpose.getD []))
  have hr := byteLen_sublist (specK a) (trim_sublist_rstripWs (a.reference.getD []))
  have ht := lastLineLen_sublist (specK a) (trim_sublist_rstripWs (a.text.getD []))
  omega

theorem epc_accept_iff (a : EpcArgs) {canName : String → Bool}
    (hcn : ∀ k, 1 ≤ k → k ≤ 8 → canName (Gen.EPC_ENCODINGS.getD (k - 1) "") = a.can.getD (k - 1) false) (k : Nat) (t : Str) :
    epcData a canName = some (k, t) ↔
      ∃ req, epcRequested a.encoding = .ok req ∧ epcRefusedByLimits a = false ∧ k = epcCharset req a.can
        ∧ a.can.getD (k - 1) false = true ∧ byteLen k t ≤ 331 ∧ t = epcPayload a k := by
  rw [epcData_eq_some_iff]
  refine exists_congr fun req => ?_
  rw [epcEncodingArg_eq_some_iff, epc_charset_search a hcn]
  refine and_congr_right fun hreq => and_congr_right fun _ => and_congr_right fun hk => ?_
  obtain ⟨k1, k8⟩ := epcCharset_range a.encoding req hreq a.can
  rw [← hk] at k1 k8
  rw [hcn k k1 k8, encodedLen_codec k k1 k8]
  rfl

theorem chkSize_eq (tr : Bool) (a : EpcArgs) : chkSize tr a = decide (specTotal tr a > 331) := rfl

section
variable (a : EpcArgs) {canName : String → Bool}
  (hcn : ∀ k, 1 ≤ k → k ≤ 8 → canName (Gen.EPC_ENCODINGS.getD (k - 1) "") = a.can.getD (k - 1) false)
include hcn

theorem accept_no_limit_violated (k : Nat) (t : Str) (h : epcData a canName = some (k, t)) : epcMustRefuse a = none := by
  obtain ⟨req, hreq, hlim, hk, hcan, hsz, ht⟩ := (epc_accept_iff a hcn k t).mp h
  obtain ⟨c1, c2, c3, c4, c5, c6, c7, c8, c9, c10⟩ := epc_checks_of_limits a hlim
  have hK : specK a = k := by rw [specK_of_ok a req hreq, hk]
  have c11 : chkEnc a = false := by unfold chkEnc; rw [hreq]
  have c12 : chkCan a = false := by unfold chkCan; rw [hK, hcan]; rfl
  have c13 : chkSize true a = false := by
    rw [chkSize_eq]
    apply decide_eq_false
    have := trimmed_le_payload a c8
    rw [hK, ← ht] at this
    omega
  exact mustRefuse_none a (.inr c1) (.inl c2) (.inr c3) (.inr c4) (.inr c5) (.inr c6) (.inl c7) c8 c9 c10 c11 c12 (.inr c13)

theorem refuse_not_must_accept (h : epcData a canName = none) : epcMustAccept a = false := by
  cases hma : epcMustAccept a with
  | false => rfl
  | true =>
    exfalso
    -- `f`: the check on the values as given, `t`: stripped on both sides — `t` for name and BIC, which the code strips on both
    -- sides, and for the text / reference alternative (a value is empty after stripping either way), `f` for the others
    obtain ⟨_, f2, _, f4, f5, _, f7, f8, f9, f10, f11, f12, f13⟩ := mustAccept_checks a hma false
    obtain ⟨t1, _, t3, _, _, t6, _⟩ := mustAccept_checks a hma true
    cases hreq : epcRequested a.encoding with
    | error e => unfold chkEnc at f11; rw [hreq] at f11; cases f11
    | ok req =>
      have hK := specK_of_ok a req hreq
      have hs := payload_le_raw a f8
      rw [chkSize_eq] at f13
      have hs' := of_decide_eq_false f13
      rw [hK] at hs
      have hsome : epcData a canName = some (epcCharset req a.can, epcPayload a (epcCharset req a.can)) :=
        (epc_accept_iff a hcn _ _).mpr ⟨req, hreq, epc_limits_of_checks a t1 f2 t3 f4 f5 t6 f7 f8 f9 f10, rfl,
          by simpa [chkCan, hK] using f12, by omega, rfl⟩
      cases hsome.symm.trans h

end

end Proofs.Helpers
