/-
  Proofs.TieAOverhead — the sums of `Segments.bit_length_with_overhead` (the segment list enters through the three reads
  `self.modes`, `self.bit_length` and the number of ECI indicators) against the sums of `Model.bitLengthWithOverhead`.
-/
import Proofs.TieA
import Proofs.TieABits
import Proofs.Mask

namespace Proofs.TieA
open Gen.Py Model

theorem sumNat_cons (x : Nat) (l : List Nat) : sumNat (x :: l) = x + sumNat l := Proofs.Mask.sumL_cons x l

/-- `sum(f(x) for x in xs)` when every `f(x)` is an `Option` of the model (`none` = the exception `e`): the sum over `List.mapM` -/
theorem sumM_mapM {α : Type} (l : List α) (φ : α → Int) (f : Int → M Int) (g : α → Option Nat) (e : PyExc)
    (h : ∀ a ∈ l, f (φ a) = ofOption e ((g a).map Int.ofNat)) :
    sumM (l.map φ) f = ofOption e ((l.mapM g).map (fun r => Int.ofNat (sumNat r))) := by
  -- the fold of `sumM`, from an arbitrary accumulator
  have fold : ∀ acc : Int,
      List.foldl (fun acc x => Gen.Py.bind acc (fun s => Gen.Py.bind (f x) (fun v => .ok (s + v)))) (.ok acc) (l.map φ)
        = ofOption e ((l.mapM g).map (fun r => acc + Int.ofNat (sumNat r))) := by
    induction l with
    | nil => intro acc; simp [sumNat]
    | cons a t ih =>
      intro acc
      have ih := ih (fun b hb => h b (List.mem_cons_of_mem _ hb))
      simp only [List.map_cons, List.foldl_cons, Gen.Py.bind_ok, h a List.mem_cons_self, List.mapM_cons]
      cases g a with
      | none =>
        -- once the accumulator is an exception it stays one
        have : ∀ l : List Int, List.foldl (fun acc x => Gen.Py.bind acc (fun s => Gen.Py.bind (f x) (fun v => .ok (s + v))))
            (.error e : M Int) l = .error e := by
          intro l; induction l with
          | nil => rfl
          | cons y t ih => simpa using ih
        simp only [Option.map_none, ofOption_none, Gen.Py.bind_error]
        rw [this]; rfl
      | some c =>
        simp only [Option.map_some, ofOption_some, Gen.Py.bind_ok]
        rw [ih]
        cases List.mapM g t with
        | none => rfl
        | some r =>
          simp [sumNat_cons]
          omega
  simpa only [sumM, Int.zero_add] using fold 0

theorem sumM_cci (segs : List Segment) (vr : Int) :
    sumM (segs.map (fun s => (s.mode : Int)))
        (fun x => Gen.Py.bind (lookup Gen.Funcs.T_consts_CHAR_COUNT_INDICATOR_LENGTH x) (fun t => lookup t vr))
      = ofOption .keyError ((segs.mapM (fun s => cciLen s.mode vr)).map (fun l => Int.ofNat (sumNat l))) :=
  sumM_mapM segs _ _ _ _ (fun s _ => cci_lookup s.mode vr)

theorem sum_hanzi (segs : List Segment) :
    Gen.Py.sum ((segs.map (fun s => (s.mode : Int))).filter (fun m => m == (13 : Int))) (fun _ => (4 : Int))
      = 4 * Int.ofNat (segs.filter (fun s => s.mode == Gen.MODE_HANZI)).length := by
  unfold Gen.Py.sum
  have : ∀ (l : List Int) (a : Int), List.foldl (fun acc _ => acc + 4) a l = a + 4 * Int.ofNat l.length := by
    intro l; induction l with
    | nil => intro a; simp
    | cons y t ih => intro a; simp only [List.foldl_cons, ih, List.length_cons, Int.ofNat_eq_natCast]; push_cast; omega
  rw [this]
  have h2 : ((segs.map (fun s => (s.mode : Int))).filter (fun m => m == (13 : Int))).length
      = (segs.filter (fun s => s.mode == Gen.MODE_HANZI)).length := by
    induction segs with
    | nil => rfl
    | cons s t ih =>
      simp only [List.map_cons, List.filter_cons, Gen.MODE_HANZI] at ih ⊢
      by_cases h : s.mode = 13
      · simp [h, ih]
      · have : ¬ ((s.mode : Int) = 13) := by omega
        simp [h, this, ih]
  rw [h2]; omega

theorem version_range_ok (v : Int) (h1 : 0 < v) (h2 : v ≤ 40) : Gen.Funcs.version_range v = .ok (Gen.version_range v) := by
  unfold Gen.Funcs.version_range Gen.version_range
  split_ifs <;> simp_all <;> omega

end Proofs.TieA
