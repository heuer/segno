/-
  The eight data mask conditions `get_data_mask_functions.fn0 … fn7` of Gen/Funcs3.lean (on Python integers) against those of
  Gen/Arith.lean (on naturals, `Model.maskFn`), and the tuple `get_data_mask_functions(is_micro)` against `Model.maskPatterns`.
-/
import Gen.Funcs3
import Proofs.TieA2
import Model.Encoder

namespace Proofs.TieA3
open Gen.Py Model

/-- the casts move outwards through `+`, `*`, `/`, `%`, `&` -/
theorem mask_conditions_nat (i j : Nat) :
    Gen.Funcs3.fn0 i j = Gen.fn0 i j ∧ Gen.Funcs3.fn1 i j = Gen.fn1 i j ∧ Gen.Funcs3.fn2 i j = Gen.fn2 i j
    ∧ Gen.Funcs3.fn3 i j = Gen.fn3 i j ∧ Gen.Funcs3.fn4 i j = Gen.fn4 i j ∧ Gen.Funcs3.fn5 i j = Gen.fn5 i j
    ∧ Gen.Funcs3.fn6 i j = Gen.fn6 i j ∧ Gen.Funcs3.fn7 i j = Gen.fn7 i j := by
  have band1 : ∀ x : Nat, band (x : Int) 1 = ((x &&& 1 : Nat) : Int) := fun x => Proofs.TieA2.band_nat x 1
  have mod3 : ∀ x : Nat, (x : Int) % 3 = ((x % 3 : Nat) : Int) := fun x => (Int.natCast_emod x 3).symm
  have div2 : ∀ x : Nat, (x : Int) / 2 = ((x / 2 : Nat) : Int) := fun x => (Int.natCast_ediv x 2).symm
  have div3 : ∀ x : Nat, (x : Int) / 3 = ((x / 3 : Nat) : Int) := fun x => (Int.natCast_ediv x 3).symm
  have beq0 : ∀ x : Nat, ((x : Int) == 0) = (x == 0) := fun x => Proofs.TieA2.beq_cast x 0
  simp only [Gen.Funcs3.fn0, Gen.Funcs3.fn1, Gen.Funcs3.fn2, Gen.Funcs3.fn3, Gen.Funcs3.fn4, Gen.Funcs3.fn5, Gen.Funcs3.fn6,
    Gen.Funcs3.fn7, Gen.fn0, Gen.fn1, Gen.fn2, Gen.fn3, Gen.fn4, Gen.fn5, Gen.fn6, Gen.fn7, ← Int.natCast_add, ← Int.natCast_mul,
    band1, mod3, div2, div3, beq0, and_self]
/-- a callable agrees with mask condition k on the coordinates of a matrix -/
def IsMask (f : Int → Int → Bool) (k : Nat) : Prop := ∀ (i j : Nat), f (i : Int) (j : Int) = maskFn k i j

inductive Rel2 {α β : Type} (R : α → β → Prop) : List α → List β → Prop
  | nil : Rel2 R [] []
  | cons {a : α} {b : β} {l1 : List α} {l2 : List β} : R a b → Rel2 R l1 l2 → Rel2 R (a :: l1) (b :: l2)

theorem mask_functions (mic : Bool) : Rel2 IsMask (Gen.Funcs3.get_data_mask_functions mic) (maskPatterns mic) := by
  have h0 : IsMask Gen.Funcs3.fn0 0 := fun i j => (mask_conditions_nat i j).1
  have h1 : IsMask Gen.Funcs3.fn1 1 := fun i j => (mask_conditions_nat i j).2.1
  have h2 : IsMask Gen.Funcs3.fn2 2 := fun i j => (mask_conditions_nat i j).2.2.1
  have h3 : IsMask Gen.Funcs3.fn3 3 := fun i j => (mask_conditions_nat i j).2.2.2.1
  have h4 : IsMask Gen.Funcs3.fn4 4 := fun i j => (mask_conditions_nat i j).2.2.2.2.1
  have h5 : IsMask Gen.Funcs3.fn5 5 := fun i j => (mask_conditions_nat i j).2.2.2.2.2.1
  have h6 : IsMask Gen.Funcs3.fn6 6 := fun i j => (mask_conditions_nat i j).2.2.2.2.2.2.1
  have h7 : IsMask Gen.Funcs3.fn7 7 := fun i j => (mask_conditions_nat i j).2.2.2.2.2.2.2
  cases mic
  · exact .cons h0 (.cons h1 (.cons h2 (.cons h3 (.cons h4 (.cons h5 (.cons h6 (.cons h7 .nil)))))))
  · exact .cons h1 (.cons h4 (.cons h6 (.cons h7 .nil)))

end Proofs.TieA3
