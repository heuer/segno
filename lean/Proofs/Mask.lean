/-
  Proofs.Mask — data masking (C06): the mask conditions are ISO Table 10, `apply_mask` cell by cell, the choice of
  the best pattern as a fold that keeps the first best, `find_and_apply_best_mask` as one equation (`fabm_eq`: the function
  matrix, then the requested pattern or the candidate loop `autoStep`) and in closed form (`fabm_ok_iff`: the mask returned
  is the requested one or `bestIdx`, the matrix that pattern applied), and the model's scores N1–N4
  against `Spec.Penalty`.
-/
import Spec.Penalty
import Model.Encoder
import Proofs.Except

namespace Proofs.Mask

theorem maskFn_eq_maskCond (p i j : Nat) (hp : p < 8) : Model.maskFn p i j = Spec.maskCond p i j := by
  have h8 : p = 0 ∨ p = 1 ∨ p = 2 ∨ p = 3 ∨ p = 4 ∨ p = 5 ∨ p = 6 ∨ p = 7 := by omega
  rcases h8 with h | h | h | h | h | h | h | h <;> subst h <;>
    simp [Model.maskFn, Spec.maskCond, Gen.fn0, Gen.fn1, Gen.fn2, Gen.fn3, Gen.fn4, Gen.fn5, Gen.fn6, Gen.fn7,
      Nat.and_one_is_mod]

theorem mask_order : Gen.maskOrderMicro = [1, 4, 6, 7] ∧ Gen.maskOrderQR = [0, 1, 2, 3, 4, 5, 6, 7] := by
  decide

theorem get2_applyMask (m fm : Model.Matrix) (p i j : Nat) :
    Model.get2 (Model.applyMask m fm p) i j =
      if i < m.size ∧ j < (m.getD i #[]).size then
        (if Model.get2 fm i j > 1 then Model.get2 m i j ^^^ (if Model.maskFn p i j then 1 else 0) else Model.get2 m i j)
      else 0 := by
  unfold Model.applyMask
  simp only [Model.get2, Array.getD_eq_getD_getElem?, Array.getElem?_mapIdx]
  by_cases hi : i < m.size
  · simp [hi]
    by_cases hj : j < m[i].size
    · simp [hj]
    · simp [hj]
  · simp [hi]

theorem size_applyMask (m fm : Model.Matrix) (p : Nat) : (Model.applyMask m fm p).size = m.size := by
  simp [Model.applyMask]

theorem rowsize_applyMask (m fm : Model.Matrix) (p i : Nat) :
    ((Model.applyMask m fm p).getD i #[]).size = (m.getD i #[]).size := by
  unfold Model.applyMask
  simp only [Array.getD_eq_getD_getElem?, Array.getElem?_mapIdx]
  by_cases hi : i < m.size <;> simp [hi]

theorem get2_oob (m : Model.Matrix) (i j : Nat) (h : ¬ (i < m.size ∧ j < (m.getD i #[]).size)) :
    Model.get2 m i j = 0 := by
  unfold Model.get2
  by_cases hi : i < m.size
  · have hj : ¬ j < (m.getD i #[]).size := fun hj => h ⟨hi, hj⟩
    simp only [Array.getD_eq_getD_getElem?] at hj ⊢
    simp [hi] at hj ⊢
    simp [hj]
  · simp [Array.getD_eq_getD_getElem?, hi]

theorem xor_bit_le (b : Nat) (c : Bool) (hb : b ≤ 1) : b ^^^ (if c then 1 else 0) ≤ 1 := by
  have hb' : b = 0 ∨ b = 1 := by omega
  rcases hb' with rfl | rfl <;> cases c <;> decide

theorem applyMask_leaves (m fm : Model.Matrix) (p i j : Nat) (h : Model.get2 fm i j ≤ 1) :
    Model.get2 (Model.applyMask m fm p) i j = Model.get2 m i j := by
  rw [get2_applyMask]
  by_cases h' : i < m.size ∧ j < (m.getD i #[]).size
  · have : ¬ Model.get2 fm i j > 1 := by omega
    simp only [h', and_self, if_true, this, if_false]
  · rw [if_neg h', get2_oob m i j h']

theorem applyMask_twice (m fm : Model.Matrix) (p i j : Nat) :
    Model.get2 (Model.applyMask (Model.applyMask m fm p) fm p) i j = Model.get2 m i j := by
  rw [get2_applyMask, size_applyMask, rowsize_applyMask, get2_applyMask]
  by_cases h : i < m.size ∧ j < (m.getD i #[]).size
  · simp only [h, and_self, if_true]
    by_cases hf : Model.get2 fm i j > 1
    · simp only [hf, if_true, Nat.xor_assoc, Nat.xor_self, Nat.xor_zero]
    · simp only [hf, if_false]
  · rw [if_neg h, get2_oob m i j h]

section Best
variable {α β : Type}

/-- the candidate loop step: replace the best so far only when strictly better -/
def stepBest (better : Nat → Nat → Prop) [DecidableRel better] (sc : α → Nat) (g : α → β)
    (best : Option (Nat × Nat × β)) (x : α × Nat) : Option (Nat × Nat × β) :=
  match best with
  | none => some (sc x.1, x.2, g x.1)
  | some (bs, bk, bm) => if better (sc x.1) bs then some (sc x.1, x.2, g x.1) else some (bs, bk, bm)

theorem fold_best (better : Nat → Nat → Prop) [DecidableRel better] (sc : α → Nat) (g : α → β)
    (htr : ∀ x b s, ¬ better x b → better s b → ¬ better x s) (hirr : ∀ x, ¬ better x x)
    (suf : List α) : ∀ (pre : List α) (b k : Nat) (bm : β),
    b ∈ pre.map sc → (∀ x ∈ pre.map sc, ¬ better x b) → k = (pre.map sc).idxOf b → (pre.map g)[k]? = some bm →
    ∃ b' k' bm', List.foldl (stepBest better sc g) (some (b, k, bm)) (suf.zipIdx pre.length) = some (b', k', bm')
      ∧ b' ∈ (pre ++ suf).map sc ∧ (∀ x ∈ (pre ++ suf).map sc, ¬ better x b')
      ∧ k' = ((pre ++ suf).map sc).idxOf b' ∧ ((pre ++ suf).map g)[k']? = some bm' := by
  induction suf with
  | nil => intro pre b k bm h1 h2 h3 h4; exact ⟨b, k, bm, by simp, by simpa using h1, by simpa using h2, by simpa using h3, by simpa using h4⟩
  | cons s suf ih =>
    intro pre b k bm h1 h2 h3 h4
    have hlen : pre.length + 1 = (pre ++ [s]).length := by simp
    have happ : pre ++ s :: suf = (pre ++ [s]) ++ suf := by simp
    rw [List.zipIdx_cons, List.foldl_cons, hlen, happ]
    by_cases hb : better (sc s) b
    · have hstep : stepBest better sc g (some (b, k, bm)) (s, pre.length) = some (sc s, pre.length, g s) := by
        simp [stepBest, hb]
      rw [hstep]
      have hnot : sc s ∉ pre.map sc := fun hm => h2 _ hm hb
      apply ih (pre ++ [s]) (sc s) pre.length (g s)
      · simp
      · intro x hx
        simp only [List.map_append, List.map_cons, List.map_nil, List.mem_append, List.mem_singleton] at hx
        rcases hx with hx | hx
        · exact htr x b (sc s) (h2 x hx) hb
        · subst hx; exact hirr _
      · simp only [List.map_append, List.map_cons, List.map_nil]
        rw [List.idxOf_append, if_neg hnot]; simp
      · simp
    · have hstep : stepBest better sc g (some (b, k, bm)) (s, pre.length) = some (b, k, bm) := by
        simp [stepBest, hb]
      rw [hstep]
      apply ih (pre ++ [s]) b k bm
      · simp only [List.map_append, List.mem_append]; exact Or.inl h1
      · intro x hx
        simp only [List.map_append, List.map_cons, List.map_nil, List.mem_append, List.mem_singleton] at hx
        rcases hx with hx | hx
        · exact h2 x hx
        · subst hx; exact hb
      · simp only [List.map_append, List.map_cons, List.map_nil]
        rw [List.idxOf_append, if_pos h1]; exact h3
      · have hk : k < (pre.map g).length := by
          rw [h3]; simpa using List.idxOf_lt_length_of_mem h1
        simp only [List.map_append]
        rw [List.getElem?_append_left hk]; exact h4

theorem fold_best_none (better : Nat → Nat → Prop) [DecidableRel better] (sc : α → Nat) (g : α → β)
    (htr : ∀ x b s, ¬ better x b → better s b → ¬ better x s) (hirr : ∀ x, ¬ better x x)
    (l : List α) (hl : l ≠ []) :
    ∃ b' k' bm', List.foldl (stepBest better sc g) none l.zipIdx = some (b', k', bm')
      ∧ b' ∈ l.map sc ∧ (∀ x ∈ l.map sc, ¬ better x b')
      ∧ k' = (l.map sc).idxOf b' ∧ (l.map g)[k']? = some bm' := by
  cases l with
  | nil => exact absurd rfl hl
  | cons a suf =>
    have := fold_best better sc g htr hirr suf [a] (sc a) 0 (g a) (by simp) (by simpa using hirr _) (by simp) (by simp)
    simpa [List.zipIdx_cons, stepBest] using this
end Best

theorem foldl_min_spec (l : List Nat) (b : Nat) (hb : b ∈ l) (hmin : ∀ x ∈ l, ¬ x < b) :
    l.foldl min (l.headD 0) = b := by
  cases l with
  | nil => cases hb
  | cons a t =>
    have h : (a :: t).min? = some b :=
      List.min?_eq_some_iff.2 ⟨hb, fun x hx => Nat.le_of_not_lt (hmin x hx)⟩
    rw [List.headD_cons, List.foldl_cons, Nat.min_self]
    exact Option.some.inj h

theorem foldl_max_spec (l : List Nat) (b : Nat) (hb : b ∈ l) (hmax : ∀ x ∈ l, ¬ x > b) :
    l.foldl max 0 = b := by
  have h : (0 :: l).max? = some b :=
    List.max?_eq_some_iff.2 ⟨List.mem_cons_of_mem _ hb, fun x hx => by
      rcases List.mem_cons.1 hx with rfl | hx
      · exact Nat.zero_le _
      · exact Nat.le_of_not_lt (hmax x hx)⟩
  exact Option.some.inj h

theorem best_spec (P : Prop) [Decidable P] (l : List Nat) (b : Nat) (hb : b ∈ l)
    (hbest : ∀ x ∈ l, ¬ (if P then x > b else x < b)) :
    (if P then l.foldl max 0 else l.foldl min (l.headD 0)) = b := by
  by_cases hP : P
  · simp only [hP, if_true] at hbest ⊢
    exact foldl_max_spec l b hb hbest
  · simp only [hP, if_false] at hbest ⊢
    exact foldl_min_spec l b hb hbest

theorem foldl_congr_fun {α β : Type} (f f' : β → α → β) (h : ∀ b x, f b x = f' b x) (a : β) (l : List α) :
    List.foldl f a l = List.foldl f' a l := by
  induction l generalizing a with
  | nil => rfl
  | cons x l ih => rw [List.foldl_cons, List.foldl_cons, h, ih]

/-- the pattern index the automatic choice ends at: the first optimum of the scores -/
def bestIdx (m fm : Model.Matrix) : Nat :=
  let isMicro := decide (m.size < 21)
  let cands := (Model.maskPatterns isMicro).map (fun pat => Model.applyMask m fm pat)
  let scores := cands.map (fun c => if isMicro then Model.evaluateMicroMask c else Model.evaluateMask c)
  scores.idxOf (if isMicro then scores.foldl max 0 else scores.foldl min (scores.headD 0))

/-- the step of the automatic choice: `stepBest` with "greater" on the scores of Micro QR symbols, "less" on those of QR symbols -/
def autoStep (m fm : Model.Matrix) : Option (Nat × Nat × Model.Matrix) → Nat × Nat → Option (Nat × Nat × Model.Matrix) :=
  stepBest (fun a c => if m.size < 21 then a > c else a < c)
    (fun pat => if m.size < 21 then Model.evaluateMicroMask (Model.applyMask m fm pat)
      else Model.evaluateMask (Model.applyMask m fm pat))
    (fun pat => Model.applyMask m fm pat)

/-- what `Model.findAndApplyBestMask` does once the function matrix `fm` is there: the requested pattern, or the candidate
    loop over all patterns -/
def chosen (m fm : Model.Matrix) : Option Nat → Model.R (Nat × Model.Matrix)
  | some p =>
    match (Model.maskPatterns (decide (m.size < 21)))[p]? with
    | some pat => .ok (p, Model.applyMask m fm pat)
    | none => .error .indexError
  | none =>
    match (Model.maskPatterns (decide (m.size < 21))).zipIdx.foldl (autoStep m fm) none with
    | some (_, k, bm) => .ok (k, bm)
    | none => .error .typeError

theorem functionMatrix_of_ok (n : Nat) (m0 : Model.Matrix)
    (h : Model.addAlignmentPatterns (Model.addFinderPatterns (Model.makeMatrix n) n) n = .ok m0) :
    Model.functionMatrix n = .ok (if n < 21 then m0 else Model.set2 m0 (n - 8) 8 1) := by
  unfold Model.functionMatrix
  rw [h]
  rfl

theorem fabm_eq (m : Model.Matrix) (mask : Option Nat) :
    Model.findAndApplyBestMask m mask = Model.functionMatrix m.size >>= fun fm => chosen m fm mask := by
  unfold Model.findAndApplyBestMask chosen
  simp only [bind, Except.bind]
  cases Model.functionMatrix m.size with
  | error e => rfl
  | ok fm =>
    cases mask with
    | some p =>
      simp only []
      cases (Model.maskPatterns (decide (m.size < 21)))[p]? <;> rfl
    | none =>
      simp only []
      rw [foldl_congr_fun _ (autoStep m fm) (by intro best x; rcases best with _ | ⟨bs, bk, bm⟩ <;> rfl)]
      rfl

theorem fabm_none (m fm : Model.Matrix) (hfm : Model.functionMatrix m.size = .ok fm) :
    bestIdx m fm < (Model.maskPatterns (decide (m.size < 21))).length
      ∧ Model.findAndApplyBestMask m none
        = .ok (bestIdx m fm, Model.applyMask m fm ((Model.maskPatterns (decide (m.size < 21))).getD (bestIdx m fm) 0)) := by
  rw [fabm_eq, hfm]
  have hne : ∀ μ, Model.maskPatterns μ ≠ [] := by intro μ; cases μ <;> decide
  obtain ⟨b', k', bm', hf, hmem, hbest, hk, hc⟩ :=
    fold_best_none (fun a c => if m.size < 21 then a > c else a < c)
      (fun pat => if m.size < 21 then Model.evaluateMicroMask (Model.applyMask m fm pat)
        else Model.evaluateMask (Model.applyMask m fm pat))
      (fun pat => Model.applyMask m fm pat)
      (by intro x b s; by_cases hμ : m.size < 21 <;> simp only [hμ, if_true, if_false] <;> omega)
      (by intro x; by_cases hμ : m.size < 21 <;> simp only [hμ, if_true, if_false] <;> omega)
      (Model.maskPatterns (decide (m.size < 21))) (hne _)
  simp only [bind, Except.bind, chosen, autoStep, hf]
  have hk' : k' = bestIdx m fm := by
    rw [hk]
    simp only [bestIdx, List.map_map, decide_eq_true_eq]
    exact congrArg (List.idxOf · _) (best_spec _ _ b' hmem hbest).symm
  subst hk'
  rw [List.getElem?_map, Option.map_eq_some_iff] at hc
  obtain ⟨pat, hpat, rfl⟩ := hc
  refine ⟨(List.getElem?_eq_some_iff.1 hpat).1, ?_⟩
  rw [List.getD_eq_getElem?_getD, hpat]
  rfl

theorem auto_first_best (m : Model.Matrix) (fm : Model.Matrix) (k : Nat) (bm : Model.Matrix)
    (hfm : Model.functionMatrix m.size = .ok fm)
    (h : Model.findAndApplyBestMask m none = .ok (k, bm)) :
    let isMicro := decide (m.size < 21)
    let cands := (Model.maskPatterns isMicro).map (fun pat => Model.applyMask m fm pat)
    let scores := cands.map (fun c => if isMicro then Model.evaluateMicroMask c else Model.evaluateMask c)
    scores ≠ [] ∧ k = scores.idxOf (if isMicro then scores.foldl max 0 else scores.foldl min (scores.headD 0))
      ∧ cands[k]? = some bm := by
  obtain ⟨hlt, he⟩ := fabm_none m fm hfm
  rw [he] at h
  cases h
  intro isMicro cands scores
  refine ⟨List.ne_nil_of_length_pos (by simpa [scores, cands] using Nat.zero_lt_of_lt hlt), rfl, ?_⟩
  rw [List.getElem?_map, List.getD_eq_getElem?_getD, List.getElem?_eq_getElem hlt]
  rfl

theorem micro_score (m : Model.Matrix) : Model.evaluateMicroMask m = Spec.scoreMicro m := rfl

theorem requested (m fm : Model.Matrix) (p : Nat)
    (hfm : Model.functionMatrix m.size = .ok fm) (hp : p < (Model.maskPatterns (decide (m.size < 21))).length) :
    Model.findAndApplyBestMask m (some p)
      = .ok (p, Model.applyMask m fm ((Model.maskPatterns (decide (m.size < 21))).getD p 0)) := by
  rw [fabm_eq, hfm]
  simp [bind, Except.bind, chosen, hp]

theorem fabm_ok_iff (m : Model.Matrix) (mask : Option Nat) (k : Nat) (m2 : Model.Matrix) :
    Model.findAndApplyBestMask m mask = .ok (k, m2) ↔
      ∃ fm, Model.functionMatrix m.size = .ok fm ∧ k = mask.getD (bestIdx m fm)
        ∧ k < (Model.maskPatterns (decide (m.size < 21))).length
        ∧ m2 = Model.applyMask m fm ((Model.maskPatterns (decide (m.size < 21))).getD k 0) := by
  constructor
  · intro h
    have h' := h
    rw [fabm_eq] at h'
    obtain ⟨fm, hfm, h'⟩ := Proofs.Except.bind_ok.1 h'
    refine ⟨fm, hfm, ?_⟩
    cases mask with
    | none =>
      obtain ⟨hlt, he⟩ := fabm_none m fm hfm
      rw [he] at h
      cases h
      exact ⟨rfl, hlt, rfl⟩
    | some p =>
      simp only [chosen] at h'
      split at h'
      · rename_i pat hp
        cases h'
        refine ⟨rfl, (List.getElem?_eq_some_iff.1 hp).1, ?_⟩
        rw [List.getD_eq_getElem?_getD, hp]
        rfl
      · cases h'
  · rintro ⟨fm, hfm, rfl, hlt, rfl⟩
    cases mask with
    | none => exact (fabm_none m fm hfm).2
    | some p => exact requested m fm p hfm hlt

theorem sumL_cons (x : Nat) (l : List Nat) : Spec.sumL (x :: l) = x + Spec.sumL l := by
  simp only [Spec.sumL, ← List.sum_eq_foldl, List.sum_cons]

theorem sumL_nil : Spec.sumL [] = 0 := rfl

theorem sumNat_eq_sumL (l : List Nat) : Model.sumNat l = Spec.sumL l := rfl

/-- the N1 run scorer of the specification -/
def n1f (r : Nat) : Nat := if r ≥ 5 then 3 + (r - 5) else 0

/-- the loop body of the model's `n1Line` -/
def n1Step (acc : Nat × Nat × Nat) (b : Nat) : Nat × Nat × Nat :=
  if b == acc.2.1 then (acc.1, acc.2.1, acc.2.2 + 1)
  else ((if acc.2.2 ≥ 5 then acc.1 + (acc.2.2 - 2) else acc.1), b, 1)

def n1Fin (acc : Nat × Nat × Nat) : Nat := if acc.2.2 ≥ 5 then acc.1 + (acc.2.2 - 2) else acc.1

theorem n1Line_eq_foldl (l : List Nat) : Model.n1Line l = n1Fin (l.foldl n1Step (0, 2, 0)) := by
  unfold Model.n1Line
  have : (fun (acc : Nat × Nat × Nat) b =>
    match acc with
    | (score, prev, cnt) => if (b == prev) = true then (score, prev, cnt + 1)
      else ((if cnt ≥ 5 then score + (cnt - 2) else score), b, 1)) = n1Step := by
    funext acc b; rcases acc with ⟨s, p, c⟩; rfl
  rw [this]
  rcases List.foldl n1Step (0, 2, 0) l with ⟨s, p, c⟩
  rfl

theorem n1_go (l : List Nat) : ∀ s prev cnt,
    n1Fin (l.foldl n1Step (s, prev, cnt)) = s + Spec.sumL ((Spec.runLengths.go prev cnt l).map n1f) := by
  induction l with
  | nil =>
    intro s prev cnt
    simp only [List.foldl_nil, Spec.runLengths.go, List.map_cons, List.map_nil, sumL_cons, sumL_nil, n1Fin, n1f]
    by_cases h5 : cnt ≥ 5
    · simp only [h5, if_true]; omega
    · simp only [h5, if_false]; omega
  | cons y ys ih =>
    intro s prev cnt
    simp only [List.foldl_cons, Spec.runLengths.go]
    by_cases h : (y == prev) = true
    · have : n1Step (s, prev, cnt) y = (s, prev, cnt + 1) := by simp [n1Step, h]
      rw [this, ih, if_pos h]
    · have : n1Step (s, prev, cnt) y = ((if cnt ≥ 5 then s + (cnt - 2) else s), y, 1) := by simp [n1Step, h]
      rw [this, ih, if_neg h, List.map_cons, sumL_cons]
      simp only [n1f]
      by_cases h5 : cnt ≥ 5
      · rw [if_pos h5, if_pos h5]; omega
      · rw [if_neg h5, if_neg h5]; omega

theorem n1Line_eq (l : List Nat) : Model.n1Line l = Spec.n1Line l := by
  rw [n1Line_eq_foldl]
  cases l with
  | nil => rfl
  | cons x xs =>
    have : n1Step (0, 2, 0) x = (0, x, 1) := by
      by_cases h : (x == 2) = true
      · have hx : x = 2 := by simpa using h
        subst hx; rfl
      · simp [n1Step, h]
    rw [List.foldl_cons, this, n1_go]
    simp only [Spec.n1Line, Spec.runLengths, Nat.zero_add]
    rfl

theorem array_toList_eq (a : Array Nat) (n : Nat) (h : a.size = n) :
    a.toList = (List.range n).map (fun j => a.getD j 0) := by
  apply List.ext_getElem
  · simp [h]
  · intro i h1 h2
    simp at h1
    simp [Array.getD_eq_getD_getElem?, h1]

theorem rows_eq (m : Model.Matrix) (hs : ∀ i, i < m.size → (m.getD i #[]).size = m.size) :
    (List.range m.size).map (fun i => (m.getD i #[]).toList) = Spec.rowsOf m := by
  unfold Spec.rowsOf
  apply List.map_congr_left
  intro i hi
  rw [List.mem_range] at hi
  rw [array_toList_eq _ _ (hs i hi)]
  rfl

theorem cols_eq (m : Model.Matrix) : (List.range m.size).map (Model.column m) = Spec.colsOf m := rfl

theorem n2_eq (m : Model.Matrix) :
    Model.sumNat ((List.range (m.size - 1)).map (fun i =>
      Model.sumNat ((List.range (m.size - 1)).map (fun j =>
        let a := Model.get2 m i j
        if a == Model.get2 m i (j + 1) && a == Model.get2 m (i + 1) j && a == Model.get2 m (i + 1) (j + 1) then 3 else 0))))
    = Spec.n2 m := by
  refine congrArg Spec.sumL (List.map_congr_left fun i _ =>
    congrArg Spec.sumL (List.map_congr_left fun j _ => ?_))
  simp only [Spec.cell, Model.get2, Bool.beq_comm (a := (m.getD i #[]).getD j 0)]
  rfl

theorem n4_arith (d T : Nat) :
    10 * ((if 20 * d ≥ 10 * T then 20 * d - 10 * T else 10 * T - 20 * d) / T)
    = 10 * ((if 100 * d ≥ 50 * T then 100 * d - 50 * T else 50 * T - 100 * d) / (5 * T)) := by
  have h : (if 100 * d ≥ 50 * T then 100 * d - 50 * T else 50 * T - 100 * d)
      = 5 * (if 20 * d ≥ 10 * T then 20 * d - 10 * T else 10 * T - 20 * d) := by
    split <;> split <;> omega
  rw [h, Nat.mul_div_mul_left _ _ (by omega : 0 < 5)]

/-- 1011101 starts at position `s` of the line -/
def Occ (l : List Nat) (s : Nat) : Prop :=
  l[s]? = some 1 ∧ l[s+1]? = some 0 ∧ l[s+2]? = some 1 ∧ l[s+3]? = some 1 ∧ l[s+4]? = some 1 ∧
    l[s+5]? = some 0 ∧ l[s+6]? = some 1

instance (l : List Nat) (s : Nat) : Decidable (Occ l s) := by unfold Occ; infer_instance

theorem Occ.lt {l : List Nat} {s : Nat} (h : Occ l s) : s + 7 ≤ l.length := by
  have := h.2.2.2.2.2.2
  have := (List.getElem?_eq_some_iff.mp this).1
  omega

theorem take7_eq (l : List Nat) :
    (l.take 7 = [1, 0, 1, 1, 1, 0, 1]) ↔ Occ l 0 := by
  unfold Occ
  rcases l with _ | ⟨a0, _ | ⟨a1, _ | ⟨a2, _ | ⟨a3, _ | ⟨a4, _ | ⟨a5, _ | ⟨a6, t⟩⟩⟩⟩⟩⟩⟩ <;> simp

theorem Occ_drop (l : List Nat) (s : Nat) : Occ (l.drop s) 0 ↔ Occ l s := by
  unfold Occ
  simp only [List.getElem?_drop, Nat.zero_add, Nat.add_zero]

/-- the model's test in `findPattern` -/
def occM (l : List Nat) (idx : Nat) : Bool :=
  idx + 7 ≤ l.length && (l.drop idx).take 7 == Model.n3Pattern

theorem occM_iff (l : List Nat) (idx : Nat) : occM l idx = true ↔ Occ l idx := by
  unfold occM Model.n3Pattern
  rw [Bool.and_eq_true, beq_iff_eq, take7_eq, Occ_drop, decide_eq_true_eq]
  exact ⟨fun h => h.2, fun h => ⟨h.lt, h⟩⟩

theorem getD_eq_one (l : List Nat) (k : Nat) : l.getD k 0 = 1 ↔ l[k]? = some 1 := by
  rw [List.getD_eq_getElem?_getD]
  cases l[k]? <;> simp

theorem range4 : List.range 4 = [0, 1, 2, 3] := by decide

/-- the specification's test in `n3Line` -/
theorem occS_iff (l : List Nat) (s : Nat) :
    (decide (l.length ≥ 7) && (List.range 7).map (fun k => l.getD (s + k) 0) == [1, 0, 1, 1, 1, 0, 1]) = true
      ↔ Occ l s := by
  rw [show List.range 7 = [0, 1, 2, 3, 4, 5, 6] by decide]
  simp only [List.map_cons, List.map_nil, Bool.and_eq_true, decide_eq_true_eq, beq_iff_eq, List.cons.injEq,
    and_true, Nat.add_zero, getD_eq_one]
  constructor
  · rintro ⟨_, h0, h1, h2, h3, h4, h5, h6⟩
    have hlt := (List.getElem?_eq_some_iff.mp h6).1
    refine ⟨h0, ?_, h2, h3, h4, ?_, h6⟩
    · rw [List.getD_eq_getElem?_getD] at h1
      have : s + 1 < l.length := by omega
      rw [List.getElem?_eq_getElem this] at h1 ⊢
      simpa using h1
    · rw [List.getD_eq_getElem?_getD] at h5
      have : s + 5 < l.length := by omega
      rw [List.getElem?_eq_getElem this] at h5 ⊢
      simpa using h5
  · intro h
    have hlt := h.lt
    obtain ⟨h0, h1, h2, h3, h4, h5, h6⟩ := h
    refine ⟨by omega, h0, ?_, h2, h3, h4, ?_, h6⟩
    · rw [List.getD_eq_getElem?_getD, h1]; rfl
    · rw [List.getD_eq_getElem?_getD, h5]; rfl

theorem Occ_no_overlap {l : List Nat} {s : Nat} (h : Occ l s) :
    ¬ Occ l (s + 1) ∧ ¬ Occ l (s + 2) ∧ ¬ Occ l (s + 3) := by
  obtain ⟨h0, h1, h2, h3, h4, h5, h6⟩ := h
  refine ⟨?_, ?_, ?_⟩
  · rintro ⟨g0, _⟩; rw [h1] at g0; cases g0
  · rintro ⟨_, g1, _⟩; rw [show s + 2 + 1 = s + 3 from rfl, h3] at g1; cases g1
  · rintro ⟨_, g1, _⟩; rw [show s + 3 + 1 = s + 4 from rfl, h4] at g1; cases g1

theorem findSome_range (P : Nat → Bool) (start : Nat) (len : Nat) :
    match (List.range len).findSome? (fun k => if P (start + k) then some (start + k) else none) with
    | none => ∀ k, k < len → P (start + k) = false
    | some idx => start ≤ idx ∧ idx < start + len ∧ P idx = true ∧ ∀ s, start ≤ s → s < idx → P s = false := by
  induction len with
  | zero => simp
  | succ n ih =>
    rw [List.range_succ, List.findSome?_append]
    cases hr : (List.range n).findSome? (fun k => if P (start + k) then some (start + k) else none) with
    | none =>
      rw [hr] at ih
      simp only [List.findSome?_cons, List.findSome?_nil, Option.none_or] at ih ⊢
      by_cases hp : P (start + n) = true
      · simp only [hp, if_true]
        refine ⟨by omega, by omega, trivial, ?_⟩
        intro s h1 h2
        have := ih (s - start) (by omega)
        rwa [show start + (s - start) = s by omega] at this
      · simp only [hp]
        intro k hk
        by_cases hkn : k = n
        · subst hkn; simpa using hp
        · exact ih k (by omega)
    | some idx =>
      rw [hr] at ih
      simp only [Option.some_or]
      obtain ⟨h1, h2, h3, h4⟩ := ih
      exact ⟨h1, by omega, h3, h4⟩

theorem findPattern_eq (l : List Nat) (start : Nat) :
    Model.findPattern l start = (List.range (l.length + 1 - start - 7 + 0)).findSome?
      (fun k => if occM l (start + k) then some (start + k) else none) := rfl

theorem findPattern_none {l : List Nat} {start : Nat} (h : Model.findPattern l start = none) :
    ∀ s, start ≤ s → ¬ Occ l s := by
  have := findSome_range (occM l) start (l.length + 1 - start - 7 + 0)
  rw [findPattern_eq] at h
  rw [h] at this
  intro s hs ho
  have hlt := ho.lt
  have := this (s - start) (by omega)
  rw [show start + (s - start) = s by omega] at this
  have h2 := (occM_iff l s).mpr ho
  rw [h2] at this; cases this

theorem findPattern_some {l : List Nat} {start idx : Nat} (h : Model.findPattern l start = some idx) :
    start ≤ idx ∧ Occ l idx ∧ ∀ s, start ≤ s → s < idx → ¬ Occ l s := by
  have := findSome_range (occM l) start (l.length + 1 - start - 7 + 0)
  rw [findPattern_eq] at h
  rw [h] at this
  obtain ⟨h1, _, h3, h4⟩ := this
  refine ⟨h1, (occM_iff l idx).mp h3, ?_⟩
  intro s hs1 hs2 ho
  have h2 := (occM_iff l s).mpr ho
  rw [h4 s hs1 hs2] at h2; cases h2

def BeforeP (l : List Nat) (s : Nat) : Prop := ∀ p, s - 4 ≤ p → p < s → l.getD p 0 = 0
def AfterP (l : List Nat) (s : Nat) : Prop := ∀ p, s + 7 ≤ p → p < s + 11 → l.getD p 0 = 0

theorem anyNonZero_slice (l : List Nat) (a c : Nat) :
    Model.anyNonZero ((l.drop a).take c) = false ↔ ∀ p, a ≤ p → p < a + c → l.getD p 0 = 0 := by
  unfold Model.anyNonZero
  rw [List.any_eq_false]
  constructor
  · intro h p h1 h2
    rw [List.getD_eq_getElem?_getD]
    cases hx : l[p]? with
    | none => rfl
    | some x =>
      have hm : x ∈ (l.drop a).take c := by
        rw [List.mem_iff_getElem?]
        refine ⟨p - a, ?_⟩
        rw [List.getElem?_take, if_pos (by omega), List.getElem?_drop, show a + (p - a) = p by omega, hx]
      have := h x hm
      simpa using this
  · intro h x hm
    rw [List.mem_iff_getElem?] at hm
    obtain ⟨i, hi⟩ := hm
    rw [List.getElem?_take] at hi
    by_cases hic : i < c
    · rw [if_pos hic, List.getElem?_drop] at hi
      have := h (a + i) (by omega) (by omega)
      rw [List.getD_eq_getElem?_getD, hi] at this
      simpa using this
    · rw [if_neg hic] at hi; cases hi

theorem getD_oob (l : List Nat) (p : Nat) (h : l.length ≤ p) : l.getD p 0 = 0 := by
  rw [List.getD_eq_getElem?_getD, List.getElem?_eq_none h]; rfl

theorem modelBefore_iff (l : List Nat) (idx : Nat) (h : idx ≤ l.length) :
    (!Model.anyNonZero ((l.drop (idx - 4)).take (min idx l.length - (idx - 4)))) = true ↔ BeforeP l idx := by
  rw [Bool.not_eq_true', anyNonZero_slice]
  unfold BeforeP
  have : idx - 4 + (min idx l.length - (idx - 4)) = idx := by omega
  rw [this]

theorem modelAfter_iff (l : List Nat) (idx : Nat) (h : idx + 7 ≤ l.length) :
    (!Model.anyNonZero ((l.drop (idx + 7)).take (min (idx + 7 + 4) l.length - (idx + 7)))) = true ↔ AfterP l idx := by
  rw [Bool.not_eq_true', anyNonZero_slice]
  unfold AfterP
  have : idx + 7 + (min (idx + 7 + 4) l.length - (idx + 7)) = min (idx + 11) l.length := by omega
  rw [this]
  constructor
  · intro hh p h1 h2
    by_cases hp : p < l.length
    · exact hh p h1 (by omega)
    · exact getD_oob l p (by omega)
  · intro hh p h1 h2
    exact hh p h1 (by omega)

theorem specBefore_iff (l : List Nat) (s : Nat) :
    (List.range 4).all (fun k => Spec.at0 l ((s : Int) - 1 - k) == 0) = true ↔ BeforeP l s := by
  rw [List.all_eq_true]
  unfold BeforeP
  constructor
  · intro h p h1 h2
    have := h (s - 1 - p) (by rw [List.mem_range]; omega)
    rw [beq_iff_eq] at this
    unfold Spec.at0 at this
    rw [if_neg (by omega)] at this
    rwa [show ((s : Int) - 1 - ((s - 1 - p : Nat) : Int)).toNat = p by omega] at this
  · intro h k hk
    rw [List.mem_range] at hk
    rw [beq_iff_eq]
    unfold Spec.at0
    by_cases hneg : (s : Int) - 1 - k < 0
    · rw [if_pos hneg]
    · rw [if_neg hneg]
      exact h _ (by omega) (by omega)

theorem specAfter_iff (l : List Nat) (s : Nat) :
    (List.range 4).all (fun k => Spec.at0 l ((s : Int) + 7 + k) == 0) = true ↔ AfterP l s := by
  rw [List.all_eq_true]
  unfold AfterP
  constructor
  · intro h p h1 h2
    have := h (p - s - 7) (by rw [List.mem_range]; omega)
    rw [beq_iff_eq] at this
    unfold Spec.at0 at this
    rw [if_neg (by omega)] at this
    rwa [show ((s : Int) + 7 + ((p - s - 7 : Nat) : Int)).toNat = p by omega] at this
  · intro h k hk
    rw [List.mem_range] at hk
    rw [beq_iff_eq]
    unfold Spec.at0
    rw [if_neg (by omega)]
    exact h _ (by omega) (by omega)

def hitM (l : List Nat) (idx : Nat) : Bool :=
  idx == 0 || idx + 7 == l.length
    || !Model.anyNonZero ((l.drop (idx - 4)).take (min idx l.length - (idx - 4)))
    || !Model.anyNonZero ((l.drop (idx + 7)).take (min (idx + 7 + 4) l.length - (idx + 7)))

theorem n3Occurrences_go_none (l : List Nat) (f count : Nat) :
    Model.n3Occurrences.go l l.length f none count = count := by
  cases f <;> rfl

theorem n3Occurrences_go_some (l : List Nat) (f idx count : Nat) :
    Model.n3Occurrences.go l l.length (f + 1) (some idx) count
      = Model.n3Occurrences.go l l.length f (Model.findPattern l (idx + 4)) (if hitM l idx then count + 40 else count) :=
  rfl

theorem hitM_iff (l : List Nat) (idx : Nat) (h : idx + 7 ≤ l.length) :
    hitM l idx = true ↔ BeforeP l idx ∨ AfterP l idx := by
  unfold hitM
  rw [Bool.or_eq_true, Bool.or_eq_true, Bool.or_eq_true, modelBefore_iff l idx (by omega), modelAfter_iff l idx h,
    beq_iff_eq, beq_iff_eq]
  constructor
  · rintro (((h0 | h1) | h2) | h3)
    · left; intro p h1 h2; omega
    · right; intro p hp1 hp2; exact getD_oob l p (by omega)
    · exact Or.inl h2
    · exact Or.inr h3
  · rintro (h2 | h3)
    · exact Or.inl (Or.inr h2)
    · exact Or.inr h3

/-- Σ_{s = start}^{start+len-1} w s -/
def sumFrom (w : Nat → Nat) : Nat → Nat → Nat
  | _, 0 => 0
  | start, len + 1 => w start + sumFrom w (start + 1) len

theorem sumL_map_range' (w : Nat → Nat) (len : Nat) : ∀ a, Spec.sumL ((List.range' a len).map w) = sumFrom w a len := by
  induction len with
  | zero => intro a; rfl
  | succ n ih => intro a; rw [List.range'_succ, List.map_cons, sumL_cons, ih]; rfl

theorem sumL_map_range (w : Nat → Nat) (len : Nat) : Spec.sumL ((List.range len).map w) = sumFrom w 0 len := by
  rw [List.range_eq_range', sumL_map_range']

theorem sumFrom_zero (w : Nat → Nat) (len : Nat) : ∀ start, (∀ s, start ≤ s → s < start + len → w s = 0) →
    sumFrom w start len = 0 := by
  induction len with
  | zero => intro _ _; rfl
  | succ n ih =>
    intro start h
    rw [sumFrom, h start (by omega) (by omega), ih (start + 1) (fun s h1 h2 => h s (by omega) (by omega))]

theorem sumFrom_skip (w : Nat → Nat) (k : Nat) : ∀ start len, k ≤ len → (∀ s, start ≤ s → s < start + k → w s = 0) →
    sumFrom w start len = sumFrom w (start + k) (len - k) := by
  induction k with
  | zero => intro start len _ _; rfl
  | succ k ih =>
    intro start len hk h
    obtain ⟨len', rfl⟩ : ∃ len', len = len' + 1 := ⟨len - 1, by omega⟩
    rw [sumFrom, h start (by omega) (by omega), ih (start + 1) len' (by omega) (fun s h1 h2 => h s (by omega) (by omega))]
    rw [show start + 1 + k = start + (k + 1) by omega, show len' + 1 - (k + 1) = len' - k by omega]
    omega

/-- the summand of the specification's `n3Line` -/
def specW (l : List Nat) (s : Nat) : Nat :=
  let p := (List.range 7).map (fun k => l.getD (s + k) 0)
  if l.length ≥ 7 && p == [1, 0, 1, 1, 1, 0, 1] then
    let before := (List.range 4).all (fun k => Spec.at0 l ((s : Int) - 1 - k) == 0)
    let after := (List.range 4).all (fun k => Spec.at0 l ((s : Int) + 7 + k) == 0)
    if before || after then 40 else 0
  else 0

theorem n3Line_eq_sum (l : List Nat) : Spec.n3Line l = sumFrom (specW l) 0 (l.length - 6) := by
  rw [← sumL_map_range]; rfl

theorem specW_not_occ {l : List Nat} {s : Nat} (h : ¬ Occ l s) : specW l s = 0 := by
  unfold specW
  simp only []
  rw [if_neg]
  rw [occS_iff]; exact h

theorem specW_occ {l : List Nat} {s : Nat} (h : Occ l s) : specW l s = if hitM l s then 40 else 0 := by
  unfold specW
  simp only []
  rw [if_pos ((occS_iff l s).mpr h)]
  have : ((List.range 4).all (fun k => Spec.at0 l ((s : Int) - 1 - k) == 0)
      || (List.range 4).all (fun k => Spec.at0 l ((s : Int) + 7 + k) == 0)) = hitM l s := by
    rw [Bool.eq_iff_iff, Bool.or_eq_true, specBefore_iff, specAfter_iff, hitM_iff l s h.lt]
  rw [this]

theorem n3Occurrences_go_eq (l : List Nat) : ∀ (f start count : Nat), l.length + 1 ≤ f + start →
    Model.n3Occurrences.go l l.length f (Model.findPattern l start) count
      = count + sumFrom (specW l) start (l.length - 6 - start) := by
  intro f
  induction f with
  | zero =>
    intro start count h
    rw [Model.n3Occurrences.go.eq_1, show l.length - 6 - start = 0 by omega]; rfl
  | succ f ih =>
    intro start count h
    cases hfp : Model.findPattern l start with
    | none =>
      rw [n3Occurrences_go_none, sumFrom_zero]
      · rfl
      · intro s h1 _; exact specW_not_occ (findPattern_none hfp s h1)
    | some idx =>
      obtain ⟨h1, hocc, hno⟩ := findPattern_some hfp
      have hlt := hocc.lt
      rw [n3Occurrences_go_some, ih (idx + 4) _ (by omega)]
      -- the specification's sum: nothing before idx, w idx, nothing at idx+1..idx+3
      rw [sumFrom_skip (specW l) (idx - start) start (l.length - 6 - start) (by omega)
        (fun s h1 h2 => specW_not_occ (hno s h1 (by omega)))]
      rw [show start + (idx - start) = idx by omega]
      obtain ⟨len', hlen'⟩ : ∃ len', l.length - 6 - start - (idx - start) = len' + 1 := ⟨l.length - 7 - idx, by omega⟩
      rw [hlen', sumFrom, specW_occ hocc]
      have hnext : ∀ s, idx + 1 ≤ s → s < idx + 4 → specW l s = 0 := by
        intro s h1 h2
        obtain ⟨n1, n2, n3⟩ := Occ_no_overlap hocc
        have : s = idx + 1 ∨ s = idx + 2 ∨ s = idx + 3 := by omega
        rcases this with rfl | rfl | rfl
        · exact specW_not_occ n1
        · exact specW_not_occ n2
        · exact specW_not_occ n3
      by_cases h3 : 3 ≤ len'
      · rw [sumFrom_skip (specW l) 3 (idx + 1) len' h3 (fun s h1 h2 => hnext s h1 (by omega))]
        rw [show idx + 1 + 3 = idx + 4 by omega, show l.length - 6 - (idx + 4) = len' - 3 by omega]
        split <;> omega
      · rw [sumFrom_zero (specW l) len' (idx + 1) (fun s h1 h2 => hnext s h1 (by omega))]
        rw [show l.length - 6 - (idx + 4) = 0 by omega]
        simp only [sumFrom]
        split <;> omega

theorem n3_eq (l : List Nat) : Model.n3Occurrences l = Spec.n3Line l := by
  rw [n3Line_eq_sum]
  unfold Model.n3Occurrences
  simp only []
  rw [n3Occurrences_go_eq l (l.length + 1) 0 0 (by omega)]
  simp

theorem evaluateMask_parts (m : Model.Matrix) :
    Model.evaluateMask m
      = (Model.maskScores m).1 + (Model.maskScores m).2.1 + (Model.maskScores m).2.2.1 + (Model.maskScores m).2.2.2 := rfl

/-- QR: the model's mask score is the ISO 7.8.3.1 penalty (for square matrices; no restriction on module values) -/
theorem score_eq (m : Model.Matrix) (hs : ∀ i, i < m.size → (m.getD i #[]).size = m.size) :
    Model.evaluateMask m = Spec.penaltyQR m := by
  have hn1 : ∀ ls : List (List Nat), ls.map Model.n1Line = ls.map Spec.n1Line :=
    fun ls => List.map_congr_left (fun l _ => n1Line_eq l)
  have hn3 : ∀ ls : List (List Nat), ls.map Model.n3Occurrences = ls.map Spec.n3Line :=
    fun ls => List.map_congr_left (fun l _ => n3_eq l)
  unfold Model.evaluateMask Model.maskScores Spec.penaltyQR
  simp only [rows_eq m hs, cols_eq, hn1, hn3, sumNat_eq_sumL]
  have h2 := n2_eq m
  simp only [sumNat_eq_sumL] at h2
  rw [h2]
  have h4 := n4_arith (Spec.sumL ((Spec.rowsOf m).map Spec.sumL)) (m.size * m.size)
  have hsum : List.map Model.sumNat (Spec.rowsOf m) = List.map Spec.sumL (Spec.rowsOf m) := rfl
  simp only [hsum]
  unfold Spec.n4
  simp only []
  rw [h4]
  omega

end Proofs.Mask
