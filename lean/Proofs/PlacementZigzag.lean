/-
  Proofs.PlacementZigzag — the zig-zag walk over two-module strips: it is the order of `add_codewords`, visits each
  cell at most once, and counting cells along the strips is counting them by rows.
  Declares in `Proofs.Placement2`, beside Proofs/Placement2.lean, which joins this file and Proofs/PlacementSkeleton.lean.
-/
import Proofs.PlacementSkeleton

namespace Proofs.Placement2

/-- the zig-zag walk over the strips with right columns `cols` -/
def zz (cols : List Nat) (n : Nat) : List (Nat × Nat) :=
  (cols.zipIdx.map (fun (c, k) =>
    let rows := if k % 2 == 0 then (List.range n).reverse else List.range n
    (rows.map (fun i => [(i, c), (i, c - 1)])).flatten)).flatten

def rights (n : Nat) : List Nat := (List.range (n / 2)).map (fun k => n - 1 - 2 * k)

def adjRight (v : Int) (right0 : Nat) : Nat :=
  if !(decide (v < 1)) && right0 ≤ 6 then right0 - 1 else right0

def upOf (v : Int) (right z : Nat) : Bool :=
  let inc := if Model.isM1M3 v then 2 else 0
  let j := right - z
  let up0 := ((right + inc) &&& 2) == 0
  if !(decide (v < 1)) then (up0 != decide (j < 6)) else up0

theorem codewordCoords_eq (n : Nat) (v : Int) :
    Model.codewordCoords n v =
      ((rights n).map (fun right0 =>
        ((List.range n).map (fun vertical =>
          [0, 1].map (fun z =>
            ((if upOf v (adjRight v right0) z then n - 1 - vertical else vertical), adjRight v right0 - z)))).flatten)).flatten := by
  rfl

/-- per-version strip check: the model's strip columns are those of the
    reference reader, and both modules of strip k run upwards iff k is even -/
def orderOK (v : Int) : Bool :=
  let n := Spec.size v
  (Spec.stripColumns v == (rights n).map (adjRight v)) &&
  (rights n).zipIdx.all (fun (right0, k) =>
    upOf v (adjRight v right0) 0 == (k % 2 == 0) && upOf v (adjRight v right0) 1 == (k % 2 == 0))

theorem order_of_ok (v : Int) (h : orderOK v = true) :
    Model.codewordCoords (Spec.size v) v = zz (Spec.stripColumns v) (Spec.size v) := by
  unfold orderOK at h
  simp only [Bool.and_eq_true, beq_iff_eq, List.all_eq_true] at h
  obtain ⟨h1, h2⟩ := h
  rw [codewordCoords_eq, zz, h1, List.zipIdx_map, List.map_map]
  congr 1
  conv => lhs; rw [← List.zipIdx_map_fst 0 (rights (Spec.size v))]
  rw [List.map_map]
  apply List.map_congr_left
  intro p hp
  obtain ⟨right0, k⟩ := p
  obtain ⟨u0, u1⟩ := h2 (right0, k) hp
  simp only [Function.comp, List.map_cons, List.map_nil, u0, u1, Nat.sub_zero]
  by_cases hk : k % 2 = 0
  · simp [hk, Placement.reverse_range_eq, List.map_map, Function.comp_def]
  · simp [hk]

def strip (c : Nat) (rows : List Nat) : List (Nat × Nat) := (rows.map (fun i => [(i, c), (i, c - 1)])).flatten

def expandCols (cols : List Nat) : List Nat := (cols.map (fun c => [c, c - 1])).flatten

theorem mem_strip {c : Nat} {rows : List Nat} {p : Nat × Nat} :
    p ∈ strip c rows ↔ p.1 ∈ rows ∧ (p.2 = c ∨ p.2 = c - 1) := by
  obtain ⟨i, j⟩ := p
  simp only [strip, List.mem_flatten, List.mem_map]
  constructor
  · rintro ⟨l, ⟨i', hi, rfl⟩, hp⟩
    simp only [List.mem_cons, List.not_mem_nil, or_false, Prod.mk.injEq] at hp
    rcases hp with ⟨rfl, rfl⟩ | ⟨rfl, rfl⟩
    · exact ⟨hi, .inl rfl⟩
    · exact ⟨hi, .inr rfl⟩
  · rintro ⟨hi, rfl | rfl⟩
    · exact ⟨_, ⟨i, hi, rfl⟩, by simp⟩
    · exact ⟨_, ⟨i, hi, rfl⟩, by simp⟩

theorem mem_expandCols {cols : List Nat} {j : Nat} : j ∈ expandCols cols ↔ ∃ c ∈ cols, j = c ∨ j = c - 1 := by
  simp only [expandCols, List.mem_flatten, List.mem_map]
  constructor
  · rintro ⟨l, ⟨c, hc, rfl⟩, hj⟩
    exact ⟨c, hc, by simpa using hj⟩
  · rintro ⟨c, hc, hj⟩
    exact ⟨_, ⟨c, hc, rfl⟩, by simpa using hj⟩

theorem strip_nodup (c : Nat) (rows : List Nat) (hr : rows.Nodup) (hc : c ≠ c - 1) : (strip c rows).Nodup := by
  unfold strip List.Nodup
  rw [List.pairwise_flatten]
  constructor
  · intro l hl
    simp only [List.mem_map] at hl
    obtain ⟨i, _, rfl⟩ := hl
    simp [hc]
  · rw [List.pairwise_map]
    apply List.Pairwise.imp _ hr
    intro a b hab x hx y hy
    simp only [List.mem_cons, List.not_mem_nil, or_false] at hx hy
    rcases hx with rfl | rfl <;> rcases hy with rfl | rfl <;> simp [hab]

theorem nodup_reverse_range (n : Nat) : (List.range n).reverse.Nodup := by
  unfold List.Nodup
  rw [List.pairwise_reverse]
  exact List.Pairwise.imp (fun h => Ne.symm h) List.nodup_range

theorem zz_eq (cols : List Nat) (n : Nat) :
    zz cols n = (cols.zipIdx.map (fun p =>
      strip p.1 (if p.2 % 2 == 0 then (List.range n).reverse else List.range n))).flatten := rfl

theorem mem_zz (cols : List Nat) (n : Nat) (p : Nat × Nat) :
    p ∈ zz cols n ↔ p.1 < n ∧ p.2 ∈ expandCols cols := by
  rw [zz_eq, mem_expandCols]
  simp only [List.mem_flatten, List.mem_map]
  constructor
  · rintro ⟨l, ⟨⟨c, k⟩, hck, rfl⟩, hp⟩
    obtain ⟨h1, h2⟩ := mem_strip.1 hp
    refine ⟨?_, c, List.fst_mem_of_mem_zipIdx hck, h2⟩
    split at h1 <;> simpa using h1
  · rintro ⟨hi, c, hc, h2⟩
    obtain ⟨k, hk⟩ := List.mem_iff_getElem?.1 hc
    exact ⟨_, ⟨(c, k), List.mem_zipIdx_iff_getElem?.2 hk, rfl⟩, mem_strip.2 ⟨by split <;> simp [hi], h2⟩⟩

theorem zz_nodup (cols : List Nat) (n : Nat) (h : (expandCols cols).Nodup) : (zz cols n).Nodup := by
  unfold expandCols List.Nodup at h
  rw [List.pairwise_flatten, List.pairwise_map] at h
  obtain ⟨h1, h2⟩ := h
  rw [zz_eq]
  unfold List.Nodup
  rw [List.pairwise_flatten]
  constructor
  · intro l hl
    simp only [List.mem_map] at hl
    obtain ⟨⟨c, k⟩, hp, rfl⟩ := hl
    have hcc : c ≠ c - 1 := by
      have := h1 [c, c - 1] (List.mem_map_of_mem (List.fst_mem_of_mem_zipIdx hp))
      simpa using this
    apply strip_nodup _ _ _ hcc
    split
    · exact nodup_reverse_range n
    · exact List.nodup_range
  · rw [List.pairwise_map]
    have h3 : List.Pairwise (fun a b : Nat × Nat => ∀ x ∈ [a.1, a.1 - 1], ∀ y ∈ [b.1, b.1 - 1], x ≠ y) cols.zipIdx := by
      have := (List.pairwise_map (f := Prod.fst) (l := cols.zipIdx)
        (R := fun a b : Nat => ∀ x ∈ [a, a - 1], ∀ y ∈ [b, b - 1], x ≠ y)).mp
      apply this
      rw [List.zipIdx_map_fst]
      exact h2
    apply List.Pairwise.imp _ h3
    intro a b hab x hx y hy hxy
    have hx' := mem_strip.1 hx
    have hy' := mem_strip.1 hy
    subst hxy
    have := hab x.2 (by simp; exact hx'.2) x.2 (by simp; exact hy'.2)
    exact this rfl

theorem zz_range (cols : List Nat) (n : Nat) (h : ∀ c ∈ expandCols cols, c < n) :
    ∀ p ∈ zz cols n, p.1 < n ∧ p.2 < n :=
  fun p hp => let ⟨h1, h2⟩ := (mem_zz cols n p).1 hp; ⟨h1, h p.2 h2⟩

theorem countP_strip (D : Nat → Nat → Bool) (c : Nat) (rows : List Nat) :
    (strip c rows).countP (fun p => D p.1 p.2)
      = rows.countP (fun i => D i c) + rows.countP (fun i => D i (c - 1)) := by
  induction rows with
  | nil => simp [strip]
  | cons i t ih =>
    have : strip c (i :: t) = (i, c) :: (i, c - 1) :: strip c t := by simp [strip]
    rw [this, List.countP_cons, List.countP_cons, ih, List.countP_cons, List.countP_cons]
    simp only
    omega

def colCount (D : Nat → Nat → Bool) (n j : Nat) : Nat := (List.range n).countP (fun i => D i j)
def rowCount (D : Nat → Nat → Bool) (n i : Nat) : Nat := (List.range n).countP (fun j => D i j)

theorem sum_expandCols (f : Nat → Nat) (cols : List Nat) :
    ((expandCols cols).map f).sum = (cols.map (fun c => f c + f (c - 1))).sum := by
  unfold expandCols
  induction cols with
  | nil => rfl
  | cons c t ih =>
    simp only [List.map_cons, List.sum_cons, List.flatten_cons, List.map_append, List.sum_append,
      List.map_nil, List.sum_nil, ih]
    omega

theorem countP_zz (D : Nat → Nat → Bool) (cols : List Nat) (n : Nat) :
    (zz cols n).countP (fun p => D p.1 p.2) = ((expandCols cols).map (colCount D n)).sum := by
  rw [zz_eq, List.countP_flatten, List.map_map]
  have h1 : (fun p : Nat × Nat => List.countP (fun p => D p.1 p.2)
        (strip p.1 (if p.2 % 2 == 0 then (List.range n).reverse else List.range n)))
      = (fun c => colCount D n c + colCount D n (c - 1)) ∘ Prod.fst := by
    funext p
    simp only [Function.comp, countP_strip, colCount]
    split <;> simp only [List.countP_reverse]
  rw [Function.comp_def] at h1 ⊢
  rw [h1]
  have h2 : List.map (fun x : Nat × Nat => colCount D n x.fst + colCount D n (x.fst - 1)) cols.zipIdx
      = List.map (fun c => colCount D n c + colCount D n (c - 1)) cols := by
    conv => rhs; rw [← List.zipIdx_map_fst 0 cols, List.map_map]
    rfl
  rw [h2, sum_expandCols]

theorem sum_map_filter_ne (f : Nat → Nat) (s : Nat) (hs : f s = 0) (l : List Nat) :
    ((l.filter (· != s)).map f).sum = (l.map f).sum := by
  induction l with
  | nil => rfl
  | cons a t ih =>
    by_cases ha : a = s
    · subst ha; simp [ih, hs]
    · simp [ha, ih]

theorem sum_map_add (l : List Nat) (f g : Nat → Nat) :
    (l.map (fun j => f j + g j)).sum = (l.map f).sum + (l.map g).sum := by
  induction l with
  | nil => rfl
  | cons a t ih => simp [ih]; omega

theorem countP_eq_sum (p : Nat → Bool) (l : List Nat) : l.countP p = (l.map (fun x => if p x then 1 else 0)).sum := by
  induction l with
  | nil => rfl
  | cons a t ih => rw [List.countP_cons, ih]; simp; omega

theorem sum_swap (l1 l2 : List Nat) (f : Nat → Nat → Nat) :
    (l1.map (fun i => (l2.map (fun j => f i j)).sum)).sum = (l2.map (fun j => (l1.map (fun i => f i j)).sum)).sum := by
  induction l1 with
  | nil =>
    have : ∀ l : List Nat, (l.map (fun _ => 0)).sum = 0 := by
      intro l; induction l with
      | nil => rfl
      | cons a t ih => simp [ih]
    simp [this]
  | cons a t ih =>
    simp only [List.map_cons, List.sum_cons, ih]
    rw [sum_map_add]

theorem sum_colCount_eq_rowCount (D : Nat → Nat → Bool) (n : Nat) :
    ((List.range n).map (colCount D n)).sum = ((List.range n).map (rowCount D n)).sum := by
  unfold colCount rowCount
  simp only [countP_eq_sum]
  exact sum_swap (List.range n) (List.range n) (fun j i => if D i j then 1 else 0)

theorem countP_zz_grid (D : Nat → Nat → Bool) (cols : List Nat) (n s : Nat)
    (hc : expandCols cols = (List.range n).reverse.filter (· != s)) (hs : ∀ i, D i s = false) :
    (zz cols n).countP (fun p => D p.1 p.2) = ((List.range n).map (rowCount D n)).sum := by
  rw [countP_zz, hc, sum_map_filter_ne _ _ _, List.map_reverse, List.sum_reverse_nat, sum_colCount_eq_rowCount]
  unfold colCount
  simp [hs]

/-- the column that no strip covers: the vertical timing column -/
def skipCol (v : Int) : Nat := if v < 1 then 0 else 6

/-- per-version check: the strips cover all columns but the timing column, right to left -/
def colsOK (v : Int) : Bool :=
  expandCols (Spec.stripColumns v) == (List.range (Spec.size v)).reverse.filter (· != skipCol v)

theorem isData_skip (v : Int) (i : Nat) : Spec.isData v i (skipCol v) = false := by
  unfold Spec.isData Spec.kind skipCol Spec.isMicro
  -- the only branch of `Spec.kind` that answers `data` comes after the test for the timing column
  by_cases hv : v < 1
  · simp only [hv, decide_true, if_true, beq_self_eq_true, Bool.or_true]
    repeat' split
    all_goals rfl
  · simp only [hv, decide_false, if_false, Bool.false_eq_true, beq_self_eq_true, Bool.or_true, if_true]
    repeat' split
    all_goals rfl

/-- the number of 2s in a row; the kernel runs the test on every module of every symbol, so it is `Nat.beq`, which
    the kernel has built in, and not `x == 2`, which reaches it only through the `BEq` and `Decidable` instances -/
def countTwos : List Nat → Nat
  | [] => 0
  | x :: t => bif Nat.beq x 2 then countTwos t + 1 else countTwos t

theorem countTwos_eq (r : List Nat) : countTwos r = r.count 2 := by
  induction r with
  | nil => rfl
  | cons x t ih =>
    rw [countTwos, List.count_cons, ih]
    cases hx : Nat.beq x 2 with
    | true => rw [Nat.eq_of_beq_eq_true hx]; rfl
    | false => rw [beq_false_of_ne (Nat.ne_of_beq_eq_false hx)]; rfl

def count2 (rows : Rows) : Nat := (rows.map countTwos).sum

theorem count2_skelRows (d : Nat) (hd : d ≠ 2) (v : Int) :
    count2 (skelRows d v) = ((List.range (Spec.size v)).map (rowCount (Spec.isData v) (Spec.size v))).sum := by
  rw [count2, funext countTwos_eq]
  unfold skelRows rowCount
  rw [List.map_map]
  congr 1
  apply List.map_congr_left
  intro i _
  simp only [Function.comp, List.count_eq_countP, List.countP_map]
  apply List.countP_congr
  intro j _
  simp only [Function.comp, beq_iff_eq]
  exact skelCell_eq_two_iff d hd v i j

theorem dataCoords_eq (v : Int) :
    Spec.dataCoords v = (zz (Spec.stripColumns v) (Spec.size v)).filter (fun p => Spec.isData v p.1 p.2) := rfl

theorem dataCoords_length (v : Int) (hc : colsOK v = true) (d : Nat) (hd : d ≠ 2) :
    (Spec.dataCoords v).length = count2 (skelRows d v) := by
  unfold colsOK at hc
  rw [dataCoords_eq, ← List.countP_eq_length_filter, count2_skelRows d hd,
    countP_zz_grid (Spec.isData v) _ _ (skipCol v) (beq_iff_eq.mp hc) (isData_skip v)]

theorem mem_cols (v : Int) (hc : colsOK v = true) (j : Nat) :
    j ∈ expandCols (Spec.stripColumns v) ↔ j < Spec.size v ∧ j ≠ skipCol v := by
  rw [beq_iff_eq.mp hc]
  simp

theorem cols_nodup_range (v : Int) (hc : colsOK v = true) :
    (expandCols (Spec.stripColumns v)).Nodup ∧ ∀ c ∈ expandCols (Spec.stripColumns v), c < Spec.size v :=
  ⟨by rw [beq_iff_eq.mp hc]; exact List.Pairwise.filter _ (nodup_reverse_range _), fun c hcm => ((mem_cols v hc c).1 hcm).1⟩

theorem zigzag_nodup_range (v : Int) (hc : colsOK v = true) :
    (zz (Spec.stripColumns v) (Spec.size v)).Nodup ∧
      ∀ p ∈ zz (Spec.stripColumns v) (Spec.size v), p.1 < Spec.size v ∧ p.2 < Spec.size v := by
  obtain ⟨h1, h2⟩ := cols_nodup_range v hc
  exact ⟨zz_nodup _ _ h1, zz_range _ _ h2⟩

end Proofs.Placement2
