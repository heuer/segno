/-
  Proofs.HelpersVcard — line structure of the vCard built by the model: if no escaped value contains a CR or
  LF (hypotheses `T1`, `T2` about the two `str.translate` tables, proved of the generated tables in Props/C16.lean),
  the payload is CRLF-terminated lines BEGIN / VERSION / one content line per supplied value, with the documented
  property name / END.  The model's content lines and the judge's list of names are built from the same segments in the
  same order; `Content` relates them segment by segment (`vcardContent_content`).
-/
import Proofs.HelpersModel

namespace Proofs.Helpers
open Spec.Helpers Model.Helpers

def NoBreak (s : List Char) : Prop := ∀ x ∈ s, x ≠ '\r' ∧ x ≠ '\n'

theorem NoBreak.append {a b : List Char} (ha : NoBreak a) (hb : NoBreak b) : NoBreak (a ++ b) :=
  List.forall_mem_append.mpr ⟨ha, hb⟩

instance (s : List Char) : Decidable (NoBreak s) := inferInstanceAs (Decidable (∀ x ∈ s, x ≠ '\r' ∧ x ≠ '\n'))

theorem crlf_line (l rest : List Char) (h : NoBreak l) :
    crlfAux false (l ++ '\r' :: '\n' :: rest) = (crlfAux false rest).map (l :: ·) := by
  induction l with
  | nil => simp [crlfAux]
  | cons c l ih =>
    have hc := h c (by simp)
    have ih' := ih (fun x hx => h x (by simp [hx]))
    simp only [List.cons_append, crlfAux, if_neg hc.1, if_neg hc.2, ih', Option.map_map]
    rfl

theorem crlf_join (lines : List (List Char)) (h : ∀ l ∈ lines, NoBreak l) :
    crlfLines (crlfJoin lines) = some (lines ++ [[]]) := by
  unfold crlfLines crlfJoin
  induction lines with
  | nil => simp [crlfAux]
  | cons l rest ih =>
    simp only [List.map_cons, List.flatten_cons, List.append_assoc, List.cons_append, List.nil_append]
    rw [crlf_line l _ (h l (by simp)), ih (fun x hx => h x (by simp [hx]))]
    simp

def AllNB (ls : List (List Char)) : Prop := ∀ l ∈ ls, NoBreak l

theorem AllNB.append {a b : List (List Char)} (ha : AllNB a) (hb : AllNB b) : AllNB (a ++ b) :=
  List.forall_mem_append.mpr ⟨ha, hb⟩

/-- `l` is a content line of the property `n`: it starts with `n:` and contains no line break -/
def Line (l : List Char) (n : Str) : Prop := isPrefix (n ++ [':']) l = true ∧ NoBreak l

theorem Line.mk {k v : List Char} (hk : NoBreak k) (hv : NoBreak v) : Line (k ++ ':' :: v) k := by
  refine ⟨?_, hk.append (List.forall_mem_cons.mpr ⟨by decide, hv⟩)⟩
  have : k ++ ':' :: v = (k ++ [':']) ++ v := by simp
  unfold isPrefix
  rw [this, stripPrefix_append]
  rfl

/-- the content lines `ls` carry, one by one and in order, the property names `ns` -/
inductive Content : List (List Char) → List Str → Prop
  | nil : Content [] []
  | cons {l n ls ns} : Line l n → Content ls ns → Content (l :: ls) (n :: ns)

theorem Content.append {a c : List (List Char)} {b d : List Str} (h1 : Content a b) (h2 : Content c d) :
    Content (a ++ c) (b ++ d) := by
  induction h1 with
  | nil => exact h2
  | cons h _ ih => exact .cons h ih

theorem Content.length {a : List (List Char)} {b : List Str} (h : Content a b) : a.length = b.length := by
  induction h with
  | nil => rfl
  | cons _ _ ih => simp [ih]

theorem Content.zip {a : List (List Char)} {b : List Str} (h : Content a b) :
    (a.zip b).all (fun p => isPrefix (p.2 ++ [':']) p.1) = true := by
  induction h with
  | nil => rfl
  | cons h _ ih =>
    simp only [List.zip_cons_cons, List.all_cons, Bool.and_eq_true]
    exact ⟨h.1, ih⟩

theorem Content.noBreak {a : List (List Char)} {b : List Str} (h : Content a b) : AllNB a := by
  induction h with
  | nil => intro l hl; cases hl
  | cons h _ ih => exact List.forall_mem_cons.mpr ⟨h.2, ih⟩

theorem Content.map (l : List Str) (f : Str → List Char) (k : Str) (h : ∀ v, Line (f v) k) :
    Content (l.map f) (l.map (fun _ => k)) := by
  induction l with
  | nil => exact .nil
  | cons v rest ih => exact .cons (h v) ih

theorem vcardLinesOk_of_content {content : List (List Char)} {names : List Str} (hm : Content content names) :
    vcardLinesOk ([vBegin, vVersion] ++ content ++ [vEnd] ++ [[]]) names = true := by
  have hlen := hm.length
  unfold vcardLinesOk
  simp only [List.cons_append, List.nil_append, List.append_assoc, List.take_succ_cons, List.take_zero, Bool.and_eq_true]
  refine ⟨⟨by rfl, ?_⟩, ?_⟩
  · rw [Nat.add_comm, ← hlen]
    simp only [List.drop_succ_cons]
    rw [List.drop_left' rfl]
    rfl
  · simp only [List.drop_succ_cons, List.drop_zero]
    rw [← hlen, List.take_left' rfl]
    exact hm.zip

theorem Content.opt (k : Str) (o : Option Str) (f : Str → Str) (hf : truthy o = true → Line (f (o.getD [])) k) :
    Content (if truthy o then [f (o.getD [])] else []) ((optVal o).map (fun _ => k)) := by
  rw [optVal_eq]
  split
  next ht => exact .cons (hf ht) .nil
  · exact .nil

theorem matchPat_noBreak (pat s : List Char) (hp : ∀ p ∈ pat, p ≠ '\r' ∧ p ≠ '\n') (h : matchPat pat s = true) : NoBreak s := by
  fun_induction matchPat pat s with
  | case1 => intro x hx; cases hx
  | case2 p ps c cs ih =>
    simp only [Bool.and_eq_true] at h
    intro x hx
    rcases List.mem_cons.mp hx with rfl | hx
    · by_cases hd : p = 'd'
      · have hisd : isD x = true := by simpa [hd] using h.1
        constructor
        · intro e; subst e; simp [isD] at hisd
        · intro e; subst e; simp [isD] at hisd
      · have : p = x := by simpa [hd] using h.1
        exact this ▸ hp p (by simp)
    · exact ih (fun q hq => hp q (by simp [hq])) h.2 x hx
  | case3 => cases h

theorem looksLikeDatetime_noBreak (s : List Char) (h : looksLikeDatetime s = true) : NoBreak s := by
  unfold looksLikeDatetime at h
  simp only [Bool.or_eq_true] at h
  rcases h with (((h | h) | h) | h) | h <;> exact matchPat_noBreak _ s (by decide) h

theorem semiJoin_noBreak (l : List Str) (h : ∀ x ∈ l, NoBreak x) : NoBreak (semiJoin l) := by
  induction l with
  | nil => intro x hx; simp [semiJoin] at hx
  | cons a rest ih =>
    cases rest with
    | nil => simpa [semiJoin] using h a (by simp)
    | cons b more =>
      have h1 := h a (by simp)
      have h2 := ih (fun x hx => h x (by simp [hx]))
      have : semiJoin (a :: b :: more) = a ++ ([';'] ++ semiJoin (b :: more)) := by simp [semiJoin]
      rw [this]
      exact h1.append ((by simp [NoBreak] : NoBreak [';']).append h2)

theorem translate_noBreak (table : List (Char × Option (List Char))) (T : ∀ c, ∀ x ∈ escOf table c, x ≠ '\r' ∧ x ≠ '\n')
    (s : List Char) : NoBreak (translate table s) := by
  intro x hx
  rw [translate_eq, List.mem_flatMap] at hx
  obtain ⟨c, _, hc⟩ := hx
  exact T c x hc

section
variable (T1 : ∀ c, ∀ x ∈ escOf Gen.VCARD_ESCAPE c, x ≠ '\r' ∧ x ≠ '\n')
variable (T2 : ∀ c, ∀ x ∈ escOf Gen.VCARD_LINEBREAK_ESCAPE c, x ≠ '\r' ∧ x ≠ '\n')
include T1

theorem escapeVcard_noBreak (s : List Char) : NoBreak (escapeVcard s) := translate_noBreak _ T1 s

theorem vLine_line (k v : List Char) (hk : NoBreak k) : Line (vLine k v) k := by
  have : vLine k v = k ++ ':' :: escapeVcard v := by simp [vLine]
  rw [this]
  exact Line.mk hk (escapeVcard_noBreak T1 v)

theorem vMulti_content (k : Str) (a : Arg) (hk : NoBreak k) : Content (vMulti k a) (a.values.map (fun _ => k)) := by
  unfold vMulti
  rw [multiValues_eq]
  exact Content.map _ _ _ (fun v => vLine_line T1 k v hk)

theorem vOpt_content (k : Str) (o : Option Str) (hk : NoBreak k) : Content (vOpt k o) ((optVal o).map (fun _ => k)) :=
  Content.opt k o (vLine k) (fun _ => vLine_line T1 k _ hk)

omit T1 in
theorem rawOpt_content (k : Str) (o : Option Str) (hk : NoBreak k) (ho : truthy o = true → NoBreak (o.getD [])) :
    Content (if truthy o then [k ++ ':' :: o.getD []] else []) ((optVal o).map (fun _ => k)) :=
  Content.opt k o (k ++ ':' :: ·) (fun ht => Line.mk hk (ho ht))

include T2 in
theorem vcardContent_content (a : VcardArgs)
    (hb : truthy a.birthday = true → NoBreak (a.birthday.getD []))
    (hr : truthy a.rev = true → NoBreak (a.rev.getD []))
    (hlat : NoBreak (a.lat.getD [])) (hlng : NoBreak (a.lng.getD [])) : Content (vcardContent a) (vcardNames a) := by
  have hadr : (vcardAdrProps a).any truthy = !((vcardAdr a).all (·.isEmpty)) := any_truthy_eq _
  unfold vcardContent vcardNames
  -- both sides append the same segments in the same order: one goal per segment, by the rule of its kind.  The odd ones: N is
  -- escaped with the other table (`T2`), ADR is there iff a part is non-empty (`hadr`), BDAY, REV and GEO are not escaped
  repeat' apply Content.append
  · exact .cons (Line.mk (k := ['N']) (by decide) (translate_noBreak _ T2 _)) (.cons (vLine_line T1 _ _ (by decide)) .nil)
  · exact vOpt_content T1 _ a.org (by decide)
  · exact vMulti_content T1 _ a.email (by decide)
  · exact vMulti_content T1 _ a.phone (by decide)
  · exact vMulti_content T1 _ a.fax (by decide)
  · exact vMulti_content T1 _ a.videophone (by decide)
  · exact vMulti_content T1 _ a.cellphone (by decide)
  · exact vMulti_content T1 _ a.homephone (by decide)
  · exact vMulti_content T1 _ a.workphone (by decide)
  · exact vMulti_content T1 _ a.url (by decide)
  · exact vMulti_content T1 _ a.title (by decide)
  · exact vMulti_content T1 _ a.photoUri (by decide)
  · exact vOpt_content T1 _ a.nickname (by decide)
  · rw [hadr]
    cases (vcardAdr a).all (·.isEmpty)
    · rw [vcardAdrProps, List.map_cons]
      simp only [Bool.not_false, if_true, Bool.false_eq_true, if_false, List.append_assoc]
      exact .cons (Line.mk (k := ['A', 'D', 'R']) (by decide) ((escapeVcard_noBreak T1 _).append (.append (by decide)
        (semiJoin_noBreak _ (List.forall_mem_map.mpr fun _ _ => escapeVcard_noBreak T1 _))))) .nil
    · exact .nil
  · exact rawOpt_content ['B', 'D', 'A', 'Y'] a.birthday (by decide) hb
  · split
    · rw [List.append_assoc, List.append_assoc]
      exact .cons (Line.mk (k := ['G', 'E', 'O']) (by decide) (hlat.append (.append (by decide) hlng))) .nil
    · exact .nil
  · exact vOpt_content T1 _ a.source (by decide)
  · exact vOpt_content T1 _ a.memo (by decide)
  · exact rawOpt_content ['R', 'E', 'V'] a.rev (by decide) hr

include T2 in
theorem vcardOk_model (a : VcardArgs) (hlat : NoBreak (a.lat.getD [])) (hlng : NoBreak (a.lng.getD []))
    (p : Str) (h : vcardData a = some p) : vcardOk p a = true := by
  unfold vcardData at h
  split at h
  · simp at h
  next hnr =>
    simp only [Option.some.injEq] at h
    subst h
    simp only [vcardRefused, Bool.or_eq_true, Bool.and_eq_true, Bool.not_eq_true', not_or, not_and, Bool.not_eq_false] at hnr
    have hb : truthy a.birthday = true → NoBreak (a.birthday.getD []) :=
      fun ht => looksLikeDatetime_noBreak _ (hnr.1.1.1 ht)
    have hr : truthy a.rev = true → NoBreak (a.rev.getD []) :=
      fun ht => looksLikeDatetime_noBreak _ (hnr.1.1.2 ht)
    have hc := vcardContent_content T1 T2 a hb hr hlat hlng
    have hall : ∀ l ∈ vcardLines a, NoBreak l := by
      intro l hl
      simp only [vcardLines, List.mem_append, List.mem_cons, List.not_mem_nil, or_false] at hl
      rcases hl with ((rfl | rfl) | hl) | rfl
      · decide
      · decide
      · exact hc.noBreak l hl
      · decide
    unfold vcardOk
    rw [crlf_join _ hall]
    exact vcardLinesOk_of_content hc

end

end Proofs.Helpers
