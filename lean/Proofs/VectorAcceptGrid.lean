/-
  C10: the geometry / coverage layers in the form all four formats share: runs as items
  (matrix row, first column, end column) in matrix coordinates, their rectangles in device space (y up or down),
  and the judge's `gridSegs` and `checkCoverage` on them.
-/
import Proofs.VectorAcceptCover

namespace Proofs.VectorAccept
open Spec.Vector Model.Lines Proofs.Lines

def black : Color := { r := 0, g := 0, b := 0 }

theorem black_same : black.same black = true := by decide +kernel

theorem absQ_nonneg (x : Rat) : 0 ≤ absQ x := by
  unfold absQ; split
  · rename_i h; have := Rat.neg_le_neg (Rat.le_of_lt h); simpa using this
  · rename_i h; exact Rat.not_lt.mp h

theorem absQ_of_pos {s : Rat} (hs : 0 < s) : absQ s = s := by
  unfold absQ; split
  · rename_i h; exact absurd (Rat.le_of_lt hs) (Rat.not_le.mpr h)
  · rfl

theorem closeTo_self (P : Rat) : closeTo P P = true := by
  unfold closeTo
  rw [Rat.sub_self]
  have h0 : absQ 0 = 0 := by decide +kernel
  have h1 : (0 : Rat) ≤ relTol := by decide +kernel
  rw [h0]
  exact decide_eq_true (Rat.mul_nonneg h1 (absQ_nonneg P))

theorem checkPaints_single (w : Want) (cover : Rect → Bool) (rs : List Rect) (c d : Color)
    (hd : w.dark = some d) (hl : w.light = none) (hs : d.same c = true) :
    checkPaints w cover [Paint.stroke rs c] = .ok rs := by
  unfold checkPaints
  simp [List.forIn_cons, hd, hl, hs]
  rfl

/-- the runs of `rowsGo`, each with the number of its grid row, counted from `i0` -/
def gridItems : Nat → List (List (Nat × Nat)) → List (Nat × Nat × Nat)
  | _, [] => []
  | i0, rs :: rest => rs.map (fun ab => (i0, ab.1, ab.2)) ++ gridItems (i0 + 1) rest

theorem attach_items (inc2 y0 : Int) (rows : List (List (Nat × Nat))) : ∀ i0 : Nat,
    attach inc2 (y0 + (i0 : Int) * inc2) rows = (gridItems i0 rows).map (fun a => (a.2.1, y0 + ((a.1 : Int) + 1) * inc2, a.2.2)) := by
  induction rows with
  | nil => intro i0; rfl
  | cons rs rest ih =>
    intro i0
    have e : y0 + (i0 : Int) * inc2 + inc2 = y0 + ((i0 + 1 : Nat) : Int) * inc2 := by
      rw [Int.natCast_add, Int.add_mul]; omega
    simp only [attach, gridItems, List.map_append, List.map_map, e, ih (i0 + 1)]
    congr 1

theorem gridItems_shift (b : Nat) (rows : List (List (Nat × Nat))) : ∀ i0,
    gridItems i0 (rows.map (shiftRuns b)) = (gridItems i0 rows).map (fun a => (a.1, a.2.1 + b, a.2.2 + b)) := by
  induction rows with
  | nil => intro i0; rfl
  | cons rs rest ih =>
    intro i0
    simp only [List.map_cons, gridItems, List.map_append, ih (i0 + 1)]
    congr 1
    simp [shiftRuns]

theorem lines_items (m : List (List Nat)) (x : Nat) (y2 inc2 : Int) :
    matrixToLines m x y2 inc2
      = (gridItems 0 (rowsGo 0 1 m)).map (fun a => (a.2.1 + x, y2 - inc2 + ((a.1 : Int) + 1) * inc2, a.2.2 + x)) := by
  have h := attach_items inc2 (y2 - inc2) (rowsGo x 1 m) 0
  rw [Int.natCast_zero, Int.zero_mul, Int.add_zero] at h
  rw [matrixToLines, linesGo_rows, h, rowsGo_shift, gridItems_shift, List.map_map]
  rfl

/-- dropping empty runs and moving to page coordinates (quiet zone `b`) -/
def itemSeg (b : Nat) (a : Nat × Nat × Nat) : Option (Nat × Nat × Nat) :=
  if a.2.1 = a.2.2 then none else some (a.1 + b, a.2.1 + b, a.2.2 + b)

theorem segsFrom_items (b : Nat) (rows : List (List (Nat × Nat))) : ∀ i0 : Nat,
    segsFrom (i0 + b) (rows.map (shiftRuns b)) = (gridItems i0 rows).filterMap (itemSeg b) := by
  induction rows with
  | nil => intro i0; rfl
  | cons rs rest ih =>
    intro i0
    have e : i0 + b + 1 = (i0 + 1) + b := by omega
    simp only [List.map_cons, segsFrom, gridItems, List.filterMap_append, e, ih (i0 + 1)]
    congr 1
    simp [shiftRuns, List.filterMap_map, Function.comp_def, itemSeg]

theorem items_ok (size : Nat) (rows : List (List (Nat × Nat))) (hok : RowsOK 0 size rows) : ∀ i0 : Nat,
    ∀ a ∈ gridItems i0 rows, i0 ≤ a.1 ∧ a.1 < i0 + rows.length ∧ a.2.1 ≤ a.2.2 ∧ a.2.2 ≤ size := by
  induction rows with
  | nil => intro i0 a ha; simp [gridItems] at ha
  | cons rs rest ih =>
    intro i0 a ha
    simp only [gridItems, List.mem_append, List.mem_map] at ha
    rcases ha with ⟨ab, hab, rfl⟩ | ha
    · have := hok rs (by simp) ab hab
      simp; omega
    · have := ih (fun rs hrs => hok rs (by simp [hrs])) (i0 + 1) a ha
      simp; omega

theorem gridSegs_items (s tol : Rat) (ht : 0 ≤ tol) (n b : Nat) (yUp : Bool) (top : Rat) (items : List (Nat × Nat × Nat))
    (rect : Nat × Nat × Nat → Rect)
    (h : ∀ a ∈ items, a.2.1 ≤ a.2.2 ∧ a.2.2 + b ≤ n ∧ a.1 + b < n
      ∧ OnGrid s yUp top (rect a) ((a.1 + b : Nat) : Int) ((a.2.1 + b : Nat) : Int) ((a.2.2 + b : Nat) : Int)) :
    gridSegs s tol n yUp top (items.map rect) = .ok (items.filterMap (itemSeg b)) := by
  unfold gridSegs
  apply filterMapM_map_ok
  intro a ha
  obtain ⟨h1, h2, h3, e1, e2, e3, e4⟩ := h a ha
  simp only [e1, e2, e3, e4, snap_int ht]
  have c1 : (decide ((((a.1 + b : Nat) : Int)) < 0) || decide ((((a.1 + b : Nat) : Int)) ≥ (n : Int))
      || decide ((((a.2.1 + b : Nat) : Int)) < 0) || decide ((((a.2.2 + b : Nat) : Int)) > (n : Int))) = false := by
    simp only [Bool.or_eq_false_iff, decide_eq_false_iff_not]; omega
  simp only [bne_self_eq_false, Bool.false_eq_true, if_false, c1]
  unfold itemSeg
  by_cases hx : a.2.1 = a.2.2
  · simp [hx]
  · have : ((((a.2.1 + b : Nat) : Int)) == (((a.2.2 + b : Nat) : Int))) = false := by simp; omega
    simp only [this, Bool.false_eq_true, if_false, hx]
    simp
    omega

theorem gridSegs_model (m : List (List Nat)) (b : Nat) (s tol : Rat) (ht : 0 ≤ tol)
    (hsq : ∀ row ∈ m, row.length = m.length) (yUp : Bool) (top : Rat) (rect : Nat × Nat × Nat → Rect)
    (hrect : ∀ a : Nat × Nat × Nat, a.2.1 ≤ a.2.2 →
      OnGrid s yUp top (rect a) ((a.1 + b : Nat) : Int) ((a.2.1 + b : Nat) : Int) ((a.2.2 + b : Nat) : Int)) :
    gridSegs s tol (m.length + 2 * b) yUp top ((gridItems 0 (rowsGo 0 1 m)).map rect) = .ok (segsFrom b (rowsGo b 1 m)) := by
  have e := segsFrom_items b (rowsGo 0 1 m) 0
  rw [Nat.zero_add, ← rowsGo_shift] at e
  rw [e]
  apply gridSegs_items s tol ht
  intro a ha
  have h := items_ok m.length (rowsGo 0 1 m) (rowsGo_ok 0 m.length m hsq 1) 0 a ha
  rw [rowsGo_length] at h
  exact ⟨h.2.2.1, by omega, by omega, hrect a h.2.2.1⟩

theorem checkCoverage_model (m : List (List Nat)) (b : Nat) (s : Rat) (hsq : ∀ row ∈ m, row.length = m.length) :
    checkCoverage { m := m, size := m.length, b := b, s := s, dark := some black, light := none } (segsFrom b (rowsGo b 1 m))
      = .ok () :=
  checkCoverage_ok _ black rfl _ (fun r _ => rowCover_model m b hsq r)

/-- what SVG, PDF and EPS share: the judge accepts the one black stroke of the model's lines (start column `x`, first
    doubled y `y2`, step `inc2`), stroked with half width `s/2` under any affine map `c` that puts column `j + x` at
    `s·(j + b)` and the line of matrix row `i` on the centre line of grid row `b + i` -/
theorem judgePaints_lines (m : List (List Nat)) (b : Nat) (s : Rat) (hs : 0 < s) (hsq : ∀ row ∈ m, row.length = m.length)
    (c : Xf) (hw : Rat) (x : Nat) (y2 inc2 : Int) (yUp : Bool) (top : Rat) (hhw : hw = s / 2)
    (hx : ∀ j : Nat, c.sx * (((j + x : Nat) : Int) : Rat) + c.tx = s * (((j + b : Nat) : Int) : Rat))
    (hy : ∀ i : Nat, c.sy * half (y2 - inc2 + ((i : Int) + 1) * inc2) + c.ty
      = if yUp then top - s * ((((i + b : Nat) : Int) : Rat) + 1 / 2) else top + s * ((((i + b : Nat) : Int) : Rat) + 1 / 2)) :
    judgePaints { m := m, size := m.length, b := b, s := s, dark := some black, light := none }
        (some (((m.length + 2 * b : Nat) : Rat) * s, ((m.length + 2 * b : Nat) : Rat) * s)) yUp top 0
        [Paint.stroke ((matrixToLines m x y2 inc2).map (rectC c hw)) black]
      = .ok (segsFrom b (rowsGo b 1 m)) := by
  have hg : gridSegs s 0 (m.length + 2 * b) yUp top ((matrixToLines m x y2 inc2).map (rectC c hw))
      = .ok (segsFrom b (rowsGo b 1 m)) := by
    rw [lines_items, List.map_map]
    exact gridSegs_model m b s 0 Rat.le_refl hsq yUp top _
      (fun a h => rect_grid yUp s hs _ _ _ _ _ _ _ _ (by omega) (hx a.2.1) (hx a.2.2) hhw (hy a.1))
  unfold judgePaints
  simp only [closeTo_self, Bool.and_self, Bool.not_true, Bool.false_eq_true, if_false]
  rw [checkPaints_single _ _ _ black black rfl rfl black_same]
  simp only [bind, Except.bind, hg]
  rw [checkCoverage_model m b s hsq]
  rfl

end Proofs.VectorAccept
