/-
  Proofs.TieA2Blocks — `make_blocks` (translated, Gen/Funcs2.lean: Reed-Solomon error correction blocks by extended
  synthetic division with in-place XOR updates of a bytearray) against `Model.makeBlocks` (`rsRemainder` / `rsLoop` /
  `rsStep` on lists, table access totalised with `getD`).  `for n in range_error_words` at a fixed k is `zipWith xor` on
  the part behind position k (`rsStep`); after k rounds of `for k in range(len_data)` the bytearray is the processed bytes
  ++ the model's list after k steps of `rsLoop`.  Python appends the blocks, the model conses them in a recursion.
-/
import Gen.Funcs2
import Proofs.TieA2
import Proofs.TieA2Matrix
import Proofs.Message
import Proofs.RSField
import Model.Encoder

namespace Proofs.TieA2
open Gen.Py Proofs.TieA Model
open Gen.Funcs2 (T_consts_GALIOS_EXP T_consts_GALIOS_LOG T_consts_GEN_POLY)

/-- the EC information of the model as translated code sees it -/
def ecI (ecs : List (Nat × Nat × Nat)) : List (Int × Int × Int) :=
  ecs.map (fun e => ((e.1 : Int), (e.2.1 : Int), (e.2.2 : Int)))

/-- body of `for n in range_error_words` -/
def mbNBody (t1 : List Int) (k t5 : Int) (acc : List Int) (n : Int) : M (List Int) :=
  let j : Int := (k + n) + 1
  Gen.Py.bind (index acc j) (fun t6 =>
    Gen.Py.bind (index t1 n) (fun t7 =>
      Gen.Py.bind (index T_consts_GALIOS_EXP (t5 + t7)) (fun t8 =>
        setItem acc j (bxor t6 t8))))

def mbKBody (t1 : List Int) (rew : List Int) (acc : List Int) (k : Int) : M (List Int) :=
  Gen.Py.bind (index acc k) (fun t4 =>
    if (!(t4 == (0:Int))) then
      Gen.Py.bind (index T_consts_GALIOS_LOG t4) (fun t5 =>
        Gen.Py.bind (foldlM rew acc (mbNBody t1 k t5)) (fun st => .ok st))
    else .ok acc)

abbrev MbSt := List Int × List (List Int) × List (List Int)

def mbBlockBody (t1 : List Int) (new : Int) (nd : Int) (acc : MbSt) (_ : Int) : M MbSt :=
  Gen.Py.bind (isliceN acc.1 nd) (fun t2 =>
    Gen.Py.bind (checkBytes t2.1) (fun _ =>
      Gen.Py.bind (foldlM (range 0 (Int.ofNat t2.1.length)) (t2.1 ++ List.replicate new.toNat (0:Int)) (mbKBody t1 (range 0 new))) (fun st =>
        .ok (t2.2, acc.2.1 ++ [t2.1], acc.2.2 ++ [slice st (some (Int.ofNat t2.1.length)) none]))))

def mbEcBody (acc : MbSt) (e : Int × Int × Int) : M MbSt :=
  Gen.Py.bind (lookup T_consts_GEN_POLY (e.2.1 - e.2.2)) (fun t1 =>
    Gen.Py.bind (foldlM (range 0 e.1) (acc.1, acc.2.1, acc.2.2) (mbBlockBody t1 (e.2.1 - e.2.2) e.2.2)) (fun st => .ok (st.1, st.2.1, st.2.2)))

theorem mb_make_blocks_unfold (ec : List (Int × Int × Int)) (buff : List Int) :
    Gen.Funcs2.make_blocks ec buff =
      Gen.Py.bind (foldlM ec (Gen.Py.toInts (buff.length + 1) buff, [], []) mbEcBody) (fun st => .ok (st.2.1, st.2.2)) := rfl

theorem mb_log_tab : T_consts_GALIOS_LOG = toI Gen.GALIOS_LOG := by decide +kernel
theorem mb_exp_tab : T_consts_GALIOS_EXP = toI Gen.GALIOS_EXP := by decide +kernel
theorem mb_gen_tab : T_consts_GEN_POLY = Gen.GEN_POLY.map (fun p => ((p.1 : Int), toI p.2)) := by decide +kernel


theorem mb_foldl_bits (l : List Nat) (a : Nat) :
    (toI l).foldl (fun acc b => acc * 2 + b) (a : Int) = ((l.foldl (fun acc b => acc * 2 + b) a : Nat) : Int) := by
  induction l generalizing a with
  | nil => rfl
  | cons b l ih =>
    simp only [toI_cons, List.foldl_cons]
    have : (a : Int) * 2 + (b : Int) = ((a * 2 + b : Nat) : Int) := by push_cast; rfl
    rw [this, ih]

theorem mb_toInts_toI : ∀ (f : Nat) (bits : List Nat), Gen.Py.toInts f (toI bits) = toI (Model.toInts f bits)
  | 0, _ => rfl
  | f + 1, [] => rfl
  | f + 1, b :: bs => by
    have ih := mb_toInts_toI f ((b :: bs).drop 8)
    rw [Proofs.Message.toInts_succ f (b :: bs) (by simp)]
    rw [toI_cons, toI_cons, ← ih]
    show (List.foldl (fun acc b => acc * 2 + b) 0 _) :: _ = _
    rw [← toI_cons, ← toI_take, ← toI_drop, toI_length]
    congr 1
    have := mb_foldl_bits (List.take 8 (b :: bs) ++ List.replicate (8 - (List.take 8 (b :: bs)).length) 0) 0
    rw [toI_append, toI_replicate] at this
    exact this

theorem mb_checkBytes_toI (l : List Nat) (h : Proofs.RSField.Bytes l) : checkBytes (toI l) = .ok () := by
  unfold checkBytes
  rw [if_pos]
  simp only [toI, List.all_map, List.all_eq_true, Function.comp]
  intro x hx
  have := h x hx
  simp only [Int.ofNat_eq_natCast, decide_eq_true_eq]
  omega


theorem mb_set_mid (P R : List Nat) (r v : Nat) : (P ++ r :: R).set P.length v = P ++ v :: R := by
  induction P with
  | nil => rfl
  | cons p P ih => simp [ih]

theorem mb_index_mid (P R : List Nat) (r : Nat) (i : Int) (hi : i = (P.length : Int)) :
    index (toI (P ++ r :: R)) i = .ok (r : Int) := by
  subst hi
  rw [index_toI _ _ (by simp)]
  simp

theorem mb_setItem_mid (P R : List Nat) (r v : Nat) (i : Int) (hi : i = (P.length : Int)) :
    setItem (toI (P ++ r :: R)) i (v : Int) = .ok (toI (P ++ v :: R)) := by
  subst hi
  rw [setItem_eq_of_norm _ _ P.length _ (normIndex_nat _ _ (by simp))]
  congr 1
  rw [← mb_set_mid P R r v]
  simp [toI]

theorem mb_index_exp (a : Nat) (h : a < 510) (i : Int) (hi : i = (a : Int)) :
    index T_consts_GALIOS_EXP i = .ok ((expArr.getD a 0 : Nat) : Int) := by
  subst hi
  rw [mb_exp_tab, index_toI _ _ (by rw [Proofs.RSField.exp_length]; exact h), Proofs.RSField.expArr_getD]
  rfl

theorem mb_index_log (a : Nat) (h : a < 256) :
    index T_consts_GALIOS_LOG (a : Int) = .ok ((logArr.getD a 0 : Nat) : Int) := by
  rw [mb_log_tab, index_toI _ _ (by rw [Props.C03.log_table_is_inverse.2]; exact h), Proofs.RSField.logArr_getD]
  rfl

theorem mb_inner_loop (gen : List Nat) (lc k : Nat) (hlc : lc < 255) (hgen : ∀ g ∈ gen, g < 255) :
    ∀ (gs gd P R : List Nat), gen = gd ++ gs → P.length = k + 1 + gd.length → gs.length ≤ R.length →
      foldlM (range (gd.length : Int) (gen.length : Int)) (toI (P ++ R)) (mbNBody (toI gen) (k : Int) (lc : Int))
        = .ok (toI (P ++ (List.zipWith (fun r g => r ^^^ expArr.getD (lc + g) 0) R gs ++ R.drop gs.length))) := by
  intro gs
  -- the bytearray is P ++ R: P reaches up to position k and over the gd.length positions behind it that are done; onto R the
  -- coefficients gs still to come (gen = gd ++ gs), times the byte at k (logarithm `lc`), are xored, one position per round
  induction gs with
  | nil =>
    intro gd P R hg _ _
    rw [range_empty (by rw [hg]; simp)]
    simp [foldlM]
  | cons g gs ih =>
    intro gd P R hg hP hR
    cases R with
    | nil => simp at hR
    | cons r R =>
      have hlen : gen.length = gd.length + (gs.length + 1) := by rw [hg]; simp
      rw [range_succ (by rw [hlen]; push_cast; omega), foldlM_cons]
      have hg255 : g < 255 := hgen g (by rw [hg]; simp)
      have hbody : mbNBody (toI gen) (k : Int) (lc : Int) (toI (P ++ r :: R)) (gd.length : Int)
          = .ok (toI (P ++ (r ^^^ expArr.getD (lc + g) 0) :: R)) := by
        unfold mbNBody
        simp only []
        rw [mb_index_mid P R r _ (by rw [hP]; push_cast; omega), bind_ok]
        have : gen = gd ++ g :: gs := hg
        rw [this, mb_index_mid gd gs g _ rfl, bind_ok, mb_index_exp (lc + g) (by omega) _ (by push_cast; rfl), bind_ok]
        exact mb_setItem_mid P R r _ _ (by rw [hP]; push_cast; omega)
      rw [hbody]
      simp only []
      have := ih (gd ++ [g]) (P ++ [r ^^^ expArr.getD (lc + g) 0]) R (by rw [hg]; simp) (by simp [hP]; omega)
        (by simp at hR; omega)
      simp only [List.length_append, List.length_singleton, List.append_assoc, List.singleton_append] at this
      push_cast at this
      rw [this]
      simp


open Proofs.RSField in
theorem mb_k_loop (gen : List Nat) (hgen : ∀ g ∈ gen, g < 255) :
    ∀ (m : Nat) (P L : List Nat), Bytes L → m + gen.length ≤ L.length →
      ∃ P' : List Nat, P'.length = P.length + m ∧
        foldlM (range (P.length : Int) ((P.length + m : Nat) : Int)) (toI (P ++ L))
            (mbKBody (toI gen) (range 0 (gen.length : Int)))
          = .ok (toI (P' ++ rsLoop gen m L)) := by
  intro m
  -- the bytearray is P ++ L: L is the list the model works on, P the positions passed, which no later round reads, so
  -- that of P' only the length is stated
  induction m with
  | zero =>
    intro P L _ _
    refine ⟨P, rfl, ?_⟩
    rw [range_empty (by simp)]
    rfl
  | succ m ih =>
    intro P L hL hlen
    cases L with
    | nil => simp at hlen
    | cons c rest =>
      obtain ⟨hc, hrest⟩ := bytes_cons.mp hL
      rw [range_succ (by push_cast; omega), foldlM_cons]
      have hbody : mbKBody (toI gen) (range 0 (gen.length : Int)) (toI (P ++ c :: rest)) (P.length : Int)
          = .ok (toI ((P ++ [c]) ++ rsStep gen c rest)) := by
        unfold mbKBody
        rw [mb_index_mid P rest c _ rfl, bind_ok]
        by_cases h0 : c = 0
        · subst h0
          rw [rsStep_zero]
          simp
        · have hne : (!(((c : Nat) : Int) == (0 : Int))) = true := by
            simp only [Bool.not_eq_true', beq_eq_false_iff_ne, ne_eq]
            omega
          rw [if_pos hne, mb_index_log c hc, bind_ok]
          obtain ⟨hl, _⟩ := log_spec c h0 hc
          rw [← logArr_getD] at hl
          have := mb_inner_loop gen (logArr.getD c 0) P.length hl hgen gen [] (P ++ [c]) rest rfl (by simp)
            (by simp at hlen; omega)
          have e : P ++ c :: rest = (P ++ [c]) ++ rest := by simp
          rw [e]
          rw [show ((([] : List Nat).length : Nat) : Int) = 0 from rfl] at this
          rw [this, bind_ok, rsStep_eq gen c rest h0, List.length_zipWith,
            Nat.min_eq_right (by simp at hlen; omega)]
      rw [hbody]
      simp only []
      obtain ⟨P', hP', hf⟩ := ih (P ++ [c]) (rsStep gen c rest) (rsStep_bytes gen c rest hrest)
        (by rw [rsStep_length]; simp at hlen; omega)
      refine ⟨P', by rw [hP']; simp; omega, ?_⟩
      simp only [List.length_append, List.length_singleton] at hf
      rw [show ((P.length : Int) + 1) = ((P.length + 1 : Nat) : Int) by push_cast; rfl,
        show P.length + (m + 1) = P.length + 1 + m by omega, hf]
      rfl

theorem mb_slice_from (P X : List Nat) : slice (toI (P ++ X)) (some (Int.ofNat P.length)) none = toI X := by
  rw [Int.ofNat_eq_natCast, slice_from, toI_append, List.drop_left' (toI_length P)]

theorem mb_block_step (gen : List Nat) (hgen : ∀ g ∈ gen, g < 255) (nd : Nat) (cws : List Nat)
    (hb : Proofs.RSField.Bytes cws) (ds es : List (List Int)) (i : Int) :
    mbBlockBody (toI gen) (gen.length : Int) (nd : Int) (toI cws, ds, es) i
      = .ok (toI (cws.drop nd), ds ++ [toI (cws.take nd)],
          es ++ [toI (rsRemainder gen (cws.take nd) gen.length)]) := by
  unfold mbBlockBody isliceN
  rw [if_neg (by omega), bind_ok]
  simp only [Int.toNat_natCast]
  rw [← toI_take, ← toI_drop, mb_checkBytes_toI _ (Proofs.RSField.bytes_take nd hb), bind_ok]
  obtain ⟨P', hP', hf⟩ := mb_k_loop gen hgen (cws.take nd).length [] (cws.take nd ++ List.replicate gen.length 0)
    (by
      intro x hx
      rcases List.mem_append.1 hx with h | h
      · exact Proofs.RSField.bytes_take nd hb x h
      · rw [List.eq_of_mem_replicate h]; omega)
    (by simp)
  simp only [List.length_nil, Nat.zero_add, List.nil_append, toI_append, toI_replicate, Int.ofNat_zero] at hf hP'
  rw [toI_length, Int.ofNat_eq_natCast, hf, bind_ok]
  rw [show (((cws.take nd).length : Nat) : Int) = Int.ofNat P'.length by rw [hP']; rfl, ← toI_append, mb_slice_from]
  rfl

theorem mb_lookup_gen (k : Nat) :
    lookup T_consts_GEN_POLY (k : Int) = (match assoc Gen.GEN_POLY k with
      | some g => .ok (toI g)
      | none => .error .keyError) := by
  rw [mb_gen_tab, lookup_cast toI]
  cases assoc Gen.GEN_POLY k <;> rfl

theorem mb_blocks_loop (gen : List Nat) (hgen : ∀ g ∈ gen, g < 255) (nd : Nat)
    (hassoc : assoc Gen.GEN_POLY gen.length = some gen) :
    ∀ (xs : List Int) (cws : List Nat) (ds es : List (List Int)), Proofs.RSField.Bytes cws →
      ∃ (cws' : List Nat) (D E : List (List Nat)), Proofs.RSField.Bytes cws' ∧
        foldlM xs (toI cws, ds, es) (mbBlockBody (toI gen) (gen.length : Int) (nd : Int))
          = .ok (toI cws', ds ++ D.map toI, es ++ E.map toI) ∧
        ∀ rest, Model.makeBlocks.go cws (List.replicate xs.length (nd, gen.length) ++ rest)
          = (Model.makeBlocks.go cws' rest).map (fun p => (D ++ p.1, E ++ p.2)) := by
  intro xs
  -- xs is `range(num_blocks)` (only its length counts), cws the codewords not yet cut off, ds / es the blocks appended so
  -- far; the model conses where Python appends, hence D, E in front of what `go` makes of any `rest` of shapes
  induction xs with
  | nil =>
    intro cws ds es hb
    refine ⟨cws, [], [], hb, by simp [foldlM], ?_⟩
    intro rest
    show Model.makeBlocks.go cws rest = _
    cases Model.makeBlocks.go cws rest <;> rfl
  | cons x xs ih =>
    intro cws ds es hb
    obtain ⟨cws', D, E, hb', hf, hgo⟩ := ih (cws.drop nd) (ds ++ [toI (cws.take nd)])
      (es ++ [toI (rsRemainder gen (cws.take nd) gen.length)]) (Proofs.RSField.bytes_drop nd hb)
    refine ⟨cws', cws.take nd :: D, rsRemainder gen (cws.take nd) gen.length :: E, hb', ?_, ?_⟩
    · rw [foldlM_cons, mb_block_step gen hgen nd cws hb]
      simp only []
      rw [hf]
      simp
    · intro rest
      simp only [List.length_cons, List.replicate_succ, List.cons_append]
      rw [Model.makeBlocks.go.eq_2, hassoc]
      simp only []
      rw [hgo rest]
      cases Model.makeBlocks.go cws' rest <;> rfl


theorem mb_range_length (n : Nat) : (range 0 (n : Int)).length = n := by simp [range]

theorem mb_ec_loop : ∀ (ecs : List (Nat × Nat × Nat)), (∀ e ∈ ecs, 1 ≤ e.1 ∧ e.2.2 ≤ e.2.1) →
    ∀ (cws : List Nat) (ds es : List (List Int)), Proofs.RSField.Bytes cws →
      toR (Gen.Py.bind (foldlM (ecI ecs) (toI cws, ds, es) mbEcBody) (fun st => .ok (st.2.1, st.2.2)))
        = (Model.makeBlocks.go cws (Spec.blockShapes ecs)).map (fun p => (ds ++ p.1.map toI, es ++ p.2.map toI)) := by
  intro ecs
  induction ecs with
  | nil =>
    intro _ cws ds es _
    simp [ecI, Spec.blockShapes, Model.makeBlocks.go, Except.map, pure, Except.pure]
  | cons e ecs ih =>
    intro hec cws ds es hb
    obtain ⟨nb, nt, nd⟩ := e
    obtain ⟨h1, h2⟩ := hec (nb, nt, nd) (by simp)
    simp only at h1 h2
    have hI : ecI ((nb, nt, nd) :: ecs) = ((nb : Int), (nt : Int), (nd : Int)) :: ecI ecs := rfl
    rw [Proofs.Message.blockShapes_cons, hI, foldlM_cons]
    have hsub : (nt : Int) - (nd : Int) = ((nt - nd : Nat) : Int) := by omega
    have hE : mbEcBody (toI cws, ds, es) ((nb : Int), (nt : Int), (nd : Int))
        = Gen.Py.bind (lookup T_consts_GEN_POLY ((nt : Int) - (nd : Int))) (fun t1 =>
            Gen.Py.bind (foldlM (range 0 (nb : Int)) (toI cws, ds, es) (mbBlockBody t1 ((nt : Int) - (nd : Int)) (nd : Int)))
              (fun st => .ok (st.1, st.2.1, st.2.2))) := rfl
    rw [hE, hsub, mb_lookup_gen]
    cases hA : assoc Gen.GEN_POLY (nt - nd) with
    | none =>
      simp only [bind_error, toR_error]
      obtain ⟨nb', rfl⟩ : ∃ k, nb = k + 1 := ⟨nb - 1, by omega⟩
      rw [List.replicate_succ, List.cons_append, Model.makeBlocks.go.eq_2, hA]
      rfl
    | some gen =>
      have hmem := Proofs.Message.assoc_mem _ _ _ hA
      obtain ⟨-, hg, hl, -⟩ := Proofs.RSField.gen_facts _ _ hmem
      rw [← hl] at hA ⊢
      obtain ⟨cws', D, E, hb', hf, hgo⟩ := mb_blocks_loop gen hg nd hA (range 0 (nb : Int)) cws ds es hb
      rw [mb_range_length] at hgo
      simp only [bind_ok]
      rw [hf]
      simp only [bind_ok]
      rw [ih (fun e he => hec e (by simp [he])) cws' _ _ hb', hgo]
      cases Model.makeBlocks.go cws' (Spec.blockShapes ecs) with
      | error e => rfl
      | ok p => simp [Except.map]

/-- `make_blocks(ec_infos, buff)` for every bit stream and every EC information list with num_blocks ≥ 1 and
    num_data ≤ num_total: the same data blocks and error correction blocks; `KeyError` (no generator polynomial for the
    number of error words) in the same cases; the in-place synthetic division never leaves the tables -/
theorem make_blocks_eq (ecs : List (Nat × Nat × Nat)) (bits : List Nat) (hbits : ∀ b ∈ bits, b ≤ 1)
    (hec : ∀ e ∈ ecs, 1 ≤ e.1 ∧ e.2.2 ≤ e.2.1) :
    toR (Gen.Funcs2.make_blocks (ecI ecs) (toI bits))
      = (Model.makeBlocks ecs (Model.toInts (bits.length + 1) bits)).map (fun p => (p.1.map toI, p.2.map toI)) := by
  rw [mb_make_blocks_unfold, toI_length, mb_toInts_toI, Proofs.Message.makeBlocks_eq,
    mb_ec_loop ecs hec _ [] [] (Proofs.Message.toInts_lt bits hbits _)]
  simp

end Proofs.TieA2
