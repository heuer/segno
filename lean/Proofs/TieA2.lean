/-
  Proofs.TieA2 — the bridge between `List Nat` (model) and `List Int` (translated code), `Py.range`, and the loops of the
  translation against folds of the model.  The state of the translation is the image of a state of the model that keeps an
  invariant (the judgment `Yields` with its rules `bind`, `loop`, `range_loop`, `list_loop`; the fold of the model is read off
  the loop); where the model has no such fold (`mask_scores`) the state before round `j` is given in closed form
  (`foldlM_range_closed`, the case of `range_loop` with a trivial state of the model).  At the end the primitives of `Gen.Py`
  (slices, `index`, `band`, `bor`, `bxor`, `shr`, `==`) at natural-number arguments as operations on `List` and `Nat`.
-/
import Gen.Funcs2
import Proofs.TieA
import Mathlib.Tactic.SplitIfs

namespace Proofs.TieA2
open Gen.Py Proofs.TieA

/-- `List Nat` of the model as the `List Int` of translated code -/
def toI (l : List Nat) : List Int := l.map Int.ofNat

@[simp] theorem toI_nil : toI [] = [] := rfl
@[simp] theorem toI_cons (a : Nat) (l : List Nat) : toI (a :: l) = (a : Int) :: toI l := rfl
@[simp] theorem toI_append (a b : List Nat) : toI (a ++ b) = toI a ++ toI b := by simp [toI]
@[simp] theorem toI_length (a : List Nat) : (toI a).length = a.length := by simp [toI]
theorem toI_replicate (n a : Nat) : toI (List.replicate n a) = List.replicate n (a : Int) := by simp [toI]
theorem toI_take (n : Nat) (l : List Nat) : toI (l.take n) = (toI l).take n := by simp [toI, List.map_take]
theorem toI_drop (n : Nat) (l : List Nat) : toI (l.drop n) = (toI l).drop n := by simp [toI, List.map_drop]
theorem toI_getElem (l : List Nat) (j : Nat) (h : j < (toI l).length) :
    (toI l)[j] = Int.ofNat (l[j]'(by rwa [toI_length] at h)) := List.getElem_map _

@[simp] theorem forM_cons {α σ ρ : Type} (x : α) (xs : List α) (init : σ) (body : σ → α → M (Step σ ρ)) :
    forM (x :: xs) init body =
      match body init x with
      | .error e => .error e
      | .ok (.next s) => forM xs s body
      | .ok (.brk s) => .ok (.fin s)
      | .ok (.ret r) => .ok (.ret r) := rfl

@[simp] theorem foldlM_cons {α σ : Type} (x : α) (xs : List α) (init : σ) (body : σ → α → M σ) :
    foldlM (x :: xs) init body =
      match body init x with
      | .error e => .error e
      | .ok s => foldlM xs s body := rfl

theorem foldlM_cons_ok {α σ : Type} {x : α} {xs : List α} {init s : σ} {body : σ → α → M σ} (h : body init x = .ok s) :
    foldlM (x :: xs) init body = foldlM xs s body := by
  rw [foldlM_cons, h]

theorem forM_eq_foldl {α σ ρ : Type} (xs : List α) (init : σ) (body : σ → α → M (Step σ ρ)) (f : σ → α → σ)
    (h : ∀ s, ∀ x ∈ xs, body s x = .ok (.next (f s x))) : forM xs init body = .ok (.fin (xs.foldl f init)) := by
  induction xs generalizing init with
  | nil => rfl
  | cons x xs ih =>
    rw [forM_cons, h init x (by simp)]
    exact ih _ (fun s y hy => h s y (by simp [hy]))

theorem mapM_ofOption {α β γ : Type} (l : List α) (φ : α → β) (f : β → M γ) (g : α → Option γ) (e : PyExc)
    (h : ∀ a ∈ l, f (φ a) = ofOption e (g a)) : Gen.Py.mapM (l.map φ) f = ofOption e (l.mapM g) := by
  induction l with
  | nil => rfl
  | cons a t ih =>
    rw [List.map_cons, Gen.Py.mapM, List.mapM_cons, h a List.mem_cons_self, ih (fun b hb => h b (List.mem_cons_of_mem _ hb))]
    cases g a with
    | none => rfl
    | some x => cases List.mapM g t <;> rfl

theorem range_eq (lo hi : Int) : range lo hi = (List.range (hi - lo).toNat).map (fun (k : Nat) => lo + Int.ofNat k) := rfl

theorem range_zero_nat (n : Nat) : range 0 (n : Int) = (List.range n).map Int.ofNat := by
  simp [range]

theorem mem_range {lo hi x : Int} (h : x ∈ range lo hi) : lo ≤ x ∧ x < hi := by
  simp only [range, List.mem_map, List.mem_range, Int.ofNat_eq_natCast] at h
  obtain ⟨k, hk, rfl⟩ := h
  constructor <;> omega

theorem range_empty {lo hi : Int} (h : hi ≤ lo) : range lo hi = [] := by
  have : (hi - lo).toNat = 0 := by omega
  simp [range, this]

theorem range_succ {lo hi : Int} (h : lo < hi) : range lo hi = lo :: range (lo + 1) hi := by
  have e : (hi - lo).toNat = (hi - (lo + 1)).toNat + 1 := by omega
  simp only [range, e, List.range_succ_eq_map, List.map_cons, List.map_map, Int.ofNat_eq_natCast]
  congr 1
  · simp
  · apply List.map_congr_left
    intro k _
    simp only [Function.comp]
    push_cast
    omega

/-- The translated computation `x` does not raise, its result is the image `g t'` of a state `t'` of the model, and `t'` has
    the invariant `P`.  A tie of state-updating code is a derivation of this judgment along the generated term: `bind` for a
    statement followed by the rest, `loop` for a `for`, and for each kind of state its own rules for single statements
    (matrices: `Yields.set`, `Yields.row`, `Yields.slice` in Proofs/TieA2Matrix.lean and Proofs/TieA2Finder.lean). -/
structure Yields {σ τ : Type} (P : τ → Prop) (x : M σ) (g : τ → σ) (t' : τ) : Prop where
  eq : x = .ok (g t')
  inv : P t'

namespace Yields
variable {σ τ : Type} {P : τ → Prop} {g : τ → σ} {t t' : τ}

theorem bind {γ : Type} {x : M γ} {emb : τ → γ} {k : γ → M σ} (hx : Yields P x emb t) (hk : P t → Yields P (k (emb t)) g t') :
    Yields P (Gen.Py.bind x k) g t' := by
  rw [hx.eq]
  exact hk hx.inv

theorem bind_eq {γ δ : Type} {x : M γ} {emb : τ → γ} {k : γ → M δ} {r : M δ} (hx : Yields P x emb t) (hk : P t → k (emb t) = r) :
    Gen.Py.bind x k = r := by
  rw [hx.eq]
  exact hk hx.inv

/-- `c`, the number of the first round, is there for the induction. -/
theorem loop {α β : Type} (emb : Nat → τ → σ) (f : τ → β → τ) (φ : β → α) {body : σ → α → M σ} :
    ∀ (ys : List β) (c : Nat) {t : τ}, P t →
      (∀ j (h : j < ys.length) t, P t → Yields P (body (emb (c + j) t) (φ ys[j])) (emb (c + j + 1)) (f t ys[j])) →
      Yields P (foldlM (ys.map φ) (emb c t) body) (emb (c + ys.length)) (ys.foldl f t) := by
  intro ys
  induction ys with
  | nil => intro c t ht _; exact ⟨rfl, ht⟩
  | cons y ys ih =>
    intro c t ht hstep
    obtain ⟨h1, h2⟩ : Yields P (body (emb c t) (φ y)) (emb (c + 1)) (f t y) := hstep 0 (Nat.succ_pos _) t ht
    rw [List.map_cons, foldlM_cons_ok h1, List.length_cons, show c + (ys.length + 1) = c + 1 + ys.length by omega]
    refine ih (c + 1) h2 (fun j h t ht => ?_)
    have := hstep (j + 1) (Nat.succ_lt_succ h) t ht
    rwa [show c + (j + 1) = c + 1 + j by omega] at this

theorem range_loop (emb : Nat → τ → σ) (f : τ → Nat → τ) {body : σ → Int → M σ} {lo hi : Int} (c : Nat)
    (hc : (hi - lo).toNat = c) (ht : P t)
    (hstep : ∀ j, j < c → ∀ t, P t → Yields P (body (emb j t) (lo + (j : Int))) (emb (j + 1)) (f t j)) :
    Yields P (foldlM (range lo hi) (emb 0 t) body) (emb c) ((List.range c).foldl f t) := by
  have := loop emb f (fun (k : Nat) => lo + Int.ofNat k) (List.range c) 0 ht (fun j h t ht => by
    have hj : j < c := by simpa using h
    simpa using hstep j hj t ht)
  rw [range_eq, hc]
  simpa using this

theorem list_loop {α β : Type} (emb : τ → σ) (f : τ → β → τ) (φ : β → α) {body : σ → α → M σ} (ys : List β)
    (ht : P t) (hstep : ∀ y ∈ ys, ∀ t, P t → Yields P (body (emb t) (φ y)) emb (f t y)) :
    Yields P (foldlM (ys.map φ) (emb t) body) emb (ys.foldl f t) :=
  loop (fun _ => emb) f φ ys 0 ht (fun j h t ht => hstep ys[j] (List.getElem_mem h) t ht)

end Yields

theorem foldlM_eq_foldl {α σ : Type} (xs : List α) (init : σ) (body : σ → α → M σ) (f : σ → α → σ)
    (h : ∀ s, ∀ x ∈ xs, body s x = .ok (f s x)) : foldlM xs init body = .ok (xs.foldl f init) := by
  have := (Yields.list_loop (P := fun _ => True) id f id xs (t := init) trivial fun x hx s _ => ⟨h s x hx, trivial⟩).eq
  rwa [List.map_id] at this

theorem foldlM_range_closed {σ β : Type} (n : Nat) (F : Nat → σ) {body : σ → Int → M σ} {k : σ → M β} {init : σ} {r : M β}
    (h0 : init = F 0) (hstep : ∀ j, j < n → body (F j) (j : Int) = .ok (F (j + 1))) (hk : k (F n) = r) :
    Gen.Py.bind (foldlM (range 0 (n : Int)) init body) k = r := by
  subst h0
  exact Yields.bind_eq
    (Yields.range_loop (P := fun _ : Unit => True) (t := ()) (fun j _ => F j) (fun _ _ => ()) n (by omega) trivial
      fun j hj _ _ => ⟨by simpa using hstep j hj, trivial⟩)
    fun _ => hk

theorem bind_eq_of_eq {α β : Type} {x : M α} (v : α) (k : α → M β) (h : x = .ok v) : Gen.Py.bind x k = k v := by
  rw [h]; rfl

theorem clip_nat (n k : Nat) : clip n (k : Int) = min k n := by
  rw [clip, if_neg (by omega), Int.toNat_natCast]

theorem clip_nat_of_le (n k : Nat) (h : k ≤ n) : clip n (k : Int) = k := by
  rw [clip_nat, Nat.min_eq_left h]

theorem slice_from {α : Type} (l : List α) (k : Nat) : slice l (some (k : Int)) none = l.drop k := by
  simp only [slice, sliceHi, sliceLo, clip_nat, List.take_length]
  by_cases hk : k ≤ l.length
  · rw [Nat.min_eq_left hk]
  · rw [Nat.min_eq_right (by omega), List.drop_length, List.drop_eq_nil_of_le (by omega)]

theorem slice_nat {α : Type} (xs : List α) (a b : Nat) :
    slice xs (some (a : Int)) (some (b : Int)) = (xs.drop a).take (b - a) := by
  simp only [slice, sliceHi, sliceLo, clip_nat, List.drop_take]
  by_cases h : a ≤ xs.length
  · rw [Nat.min_eq_left h]
    by_cases hb : b ≤ xs.length
    · rw [Nat.min_eq_left hb]
    · rw [Nat.min_eq_right (by omega), List.take_of_length_le (by simp), List.take_of_length_le (by simp; omega)]
  · rw [List.drop_eq_nil_of_le (by omega), List.drop_eq_nil_of_le (by omega), List.take_nil, List.take_nil]

theorem index_two {α : Type} (a b : α) (i : Int) : index [a, b] (i % 2) = .ok (if i % 2 = 0 then a else b) := by
  have h2 : i % 2 = 0 ∨ i % 2 = 1 := by omega
  rcases h2 with h0 | h1
  · rw [h0]; rfl
  · rw [h1]; rfl

theorem band_one (x : Nat) : band (x : Int) 1 = ((x % 2 : Nat) : Int) := by
  show Int.ofNat (x &&& 1) = _
  rw [Nat.and_one_is_mod]
  rfl

theorem fdiv_two_pow (x i : Nat) : Int.fdiv (x : Int) (2 ^ i) = ((x >>> i : Nat) : Int) := by
  rw [Nat.shiftRight_eq_div_pow, Int.fdiv_eq_ediv_of_nonneg _ (Int.pow_nonneg (by omega)),
    show ((2 : Int) ^ i) = ((2 ^ i : Nat) : Int) by push_cast; rfl, ← Int.natCast_ediv]

theorem shr_nat (x i : Nat) : shr (x : Int) (i : Int) = .ok ((x >>> i : Nat) : Int) := by
  rw [shr, if_neg (by omega), Int.toNat_natCast, fdiv_two_pow]

theorem band_nat (x y : Nat) : band (x : Int) (y : Int) = ((x &&& y : Nat) : Int) := by
  show Int.ofNat (x &&& y) = _
  rfl

theorem bxor_nat (a b : Nat) : bxor (a : Int) (b : Int) = ((a ^^^ b : Nat) : Int) := rfl

theorem bor_shift8 (hi lo : Nat) (h : lo < 256) : bor ((hi : Int) * 256) (lo : Int) = ((hi * 256 + lo : Nat) : Int) := by
  have e : ((hi : Int) * 256) = Int.ofNat (hi * 256) := (Int.natCast_mul hi 256).symm
  rw [e]
  show Int.ofNat (hi * 256 ||| lo) = _
  have h2 : hi <<< 8 + lo = hi <<< 8 ||| lo := Nat.shiftLeft_add_eq_or_of_lt (by omega) hi
  rw [Nat.shiftLeft_eq] at h2
  simp only [Nat.reducePow] at h2
  rw [← h2]
  rfl

theorem band_255 (hi lo : Nat) (h : lo < 256) : band ((hi * 256 + lo : Nat) : Int) 255 = (lo : Int) := by
  show Int.ofNat ((hi * 256 + lo) &&& 255) = _
  have h2 : (hi * 256 + lo) &&& (2 ^ 8 - 1) = (hi * 256 + lo) % 2 ^ 8 := Nat.and_two_pow_sub_one_eq_mod _ 8
  simp only [Nat.reducePow, Nat.reduceSub] at h2
  rw [h2]
  have h4 : (hi * 256 + lo) % 256 = lo := by omega
  rw [h4]
  rfl

theorem beq_cast (a b : Nat) : (((a : Nat) : Int) == ((b : Nat) : Int)) = (a == b) := by
  rw [Bool.eq_iff_iff]; simp only [beq_iff_eq]; omega

end Proofs.TieA2
