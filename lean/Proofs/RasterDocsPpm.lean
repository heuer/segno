/-
  The list-level PPM reader (Spec/RasterL.lean) applied to the whole file the model of
  `write_ppm` writes (Model/RasterDocs.lean): every pixel shows the colour configured for the module type
  `matrix_iter_verbose` reports for it.
-/
import Proofs.RasterDocsNetpbm
import Proofs.RasterDocsColour
import Proofs.Except
import Proofs.PngPalette

namespace Proofs.RasterDocs

open Model Model.RasterDocs Spec Proofs.Raster

theorem ppmHeader_eq (t : List Nat) (W H : Nat) (raster : List Nat) :
    ppmHeader (35 :: t) W H ++ raster =
      80 :: 54 :: 32 :: 35 :: (t ++ 10 :: (decBytes W ++ 32 :: (decBytes H ++ 32 :: (decBytes 255 ++ 10 :: raster)))) := by
  have : decBytes 255 = [50, 53, 53] := by decide
  simp [ppmHeader, ascii, this]

theorem ppmPixel_255 (r g b : Nat) (hr : r ≤ 255) (hg : g ≤ 255) (hb : b ≤ 255) : L.ppmPixel 255 [r, g, b] = some ⟨r, g, b, 255⟩ := by
  simp [L.ppmPixel, scaleTo255_byte, hr, hg, hb]

/-- the colour a parsed map holds for a module type, as an RGBA value -/
def rgbOf (m : List (Nat × List Nat)) (t : Nat) : RGBA :=
  match cmGet m t with
  | some [r, g, b] => ⟨r, g, b, 255⟩
  | _ => ⟨0, 0, 0, 0⟩

theorem ppmRaster_ok {w h : Nat} {scale : Num} {border : Option Num} (M : List (List Nat)) (colormap : List (Nat × ColorArg)) (raster : List Nat)
    (hr : ppmRaster M w h colormap scale border = .ok raster) :
    ∃ m rows, Proofs.Png.parseMap colorToRgb colormap = .ok m ∧ matrixIterVerbose M w h scale border = .ok rows
      ∧ (∀ r ∈ rows, ∀ t ∈ r, (cmGet m t).isNone = false)
      ∧ raster = rows.flatMap (fun row => row.flatMap (fun t => (cmGet m t).getD [])) := by
  unfold ppmRaster at hr
  obtain ⟨_, _, hr⟩ := Proofs.Except.bind_ok.1 hr
  obtain ⟨_, _, hr⟩ := Proofs.Except.bind_ok.1 hr
  obtain ⟨_, hr⟩ := Proofs.Except.guard_ok hr
  obtain ⟨m, hm, hr⟩ := Proofs.Except.bind_ok.1 hr
  obtain ⟨rows, hrows, hr⟩ := Proofs.Except.bind_ok.1 hr
  obtain ⟨hany, hr⟩ := Proofs.Except.guard_ok hr
  cases hr
  refine ⟨m, rows, hm, hrows, fun r hr t ht => ?_, rfl⟩
  cases hn : (cmGet m t).isNone with
  | false => rfl
  | true => exact absurd (List.any_eq_true.2 ⟨r, hr, List.any_eq_true.2 ⟨t, ht, hn⟩⟩) hany

theorem matrixIterVerbose_shape {w h : Nat} {scale : Num} {border : Option Num} {b : Nat} (a : Admitted w h scale border b)
    (M : List (List Nat)) (rows : List (List Nat)) (hrows : matrixIterVerbose M w h scale border = .ok rows) :
    rows.length = (h + 2 * b) * scale.toInt.toNat ∧ ∀ r ∈ rows, r.length = (w + 2 * b) * scale.toInt.toNat := by
  unfold matrixIterVerbose at hrows
  simp only [a.okScale, a.okBorder, a.okRange, bind, Except.bind, pure, Except.pure] at hrows
  cases hA : alignmentMatrix w with
  | error e => rw [hA] at hrows; cases hrows
  | ok A =>
    rw [hA] at hrows
    cases hrows
    rw [iterWith_eq _ _ _ _ _ a.pos]
    constructor
    · simp
    · intro r hr
      simp only [List.mem_map, List.mem_range] at hr
      obtain ⟨y, _, rfl⟩ := hr
      simp

theorem readNum_ppm_header (t : List Nat) (ht : ∀ c ∈ t, c ≠ 10 ∧ c ≠ 13) (W H : Nat) (raster : List Nat) :
    L.readNum (32 :: 35 :: (t ++ 10 :: (decBytes W ++ 32 :: (decBytes H ++ 32 :: (decBytes 255 ++ 10 :: raster)))))
      = some (W, 32 :: (decBytes H ++ 32 :: (decBytes 255 ++ 10 :: raster)))
    ∧ L.readNum (32 :: (decBytes H ++ 32 :: (decBytes 255 ++ 10 :: raster))) = some (H, 32 :: (decBytes 255 ++ 10 :: raster))
    ∧ L.readNum (32 :: (decBytes 255 ++ 10 :: raster)) = some (255, 10 :: raster) := by
  refine ⟨?_, ?_, ?_⟩
  · rw [readNum_ws 32 _ (by decide), readNum_comment t _ ht, readNum_dec W 32 _ (by decide)]
  · rw [readNum_ws 32 _ (by decide), readNum_dec H 32 _ (by decide)]
  · rw [readNum_ws 32 _ (by decide), readNum_dec 255 10 _ (by decide)]

theorem readPpm_rows (cell : Nat → List Nat) (px : Nat → RGBA) (rows : List (List Nat)) (W H : Nat) (g : Rect rows W H)
    (hcell : ∀ r ∈ rows, ∀ t ∈ r, ∃ rr gg bb, cell t = [rr, gg, bb] ∧ rr ≤ 255 ∧ gg ≤ 255 ∧ bb ≤ 255 ∧ px t = ⟨rr, gg, bb, 255⟩) :
    L.readPpm (ppmHeader (35 :: commentTail) W H ++ rows.flatMap (fun row => row.flatMap cell))
      = .ok { w := W, h := H, px := rows.map (fun row => row.map (fun t => some (px t))) } := by
  rw [ppmHeader_eq]
  have hpix : ∀ r ∈ rows, ∀ t ∈ r, (cell t).length = 3 ∧ L.ppmPixel 255 (cell t) = some (px t) := by
    intro r hr t ht
    obtain ⟨rr, gg, bb, hc, h1, h2, h3, hp⟩ := hcell r hr t ht
    rw [hc, hp]
    exact ⟨rfl, ppmPixel_255 rr gg bb h1 h2 h3⟩
  have hrowlen : ∀ r ∈ rows, (r.flatMap cell).length = 3 * W := by
    intro r hr
    rw [length_flatMap_const _ 3 r (fun t ht => (hpix r hr t ht).1), g.rowLen r hr]
  have hlen : (rows.flatMap (fun row => row.flatMap cell)).length = 3 * W * H := by
    rw [length_flatMap_const _ _ rows hrowlen, g.len]
  obtain ⟨n1, n2, n3⟩ := readNum_ppm_header commentTail commentTail_ok W H (rows.flatMap (fun row => row.flatMap cell))
  have hws : (!isWs 32) = false := by decide
  have hmx : ((255 : Nat) == 0 || decide ((255 : Nat) > 255)) = false := by decide
  simp only [L.readPpm, List.headD_cons, hws, Bool.false_eq_true, if_false, n1, n2, n3, g.w0, g.h0, Bool.or_self, hmx,
    List.drop_succ_cons, List.drop_zero, List.isEmpty_cons, hlen, bne_self_eq_false]
  congr 2
  -- rows of 3 · W bytes, and within a row pixels of 3 bytes
  rw [← g.len]
  apply chunks_read _ _ _ _ rows hrowlen
  intro r hr
  rw [← g.rowLen r hr]
  exact chunks_read cell _ _ 3 r (fun t ht => (hpix r hr t ht).1) (fun t ht => (hpix r hr t ht).2)

theorem ppm_doc {w h : Nat} {scale : Num} {border : Option Num} {b : Nat} (a : Admitted w h scale border b)
    (M : List (List Nat)) (hw : 0 < w) (hh : 0 < h) (colormap : List (Nat × ColorArg)) (doc : List Nat)
    (hdoc : ppmDoc M w h colormap scale border = .ok doc) :
    ∃ (rows : List (List Nat)) (px : Nat → RGBA),
      matrixIterVerbose M w h scale border = .ok rows
      ∧ rows.length = (h + 2 * b) * scale.toInt.toNat ∧ (∀ r ∈ rows, r.length = (w + 2 * b) * scale.toInt.toNat)
      ∧ (∀ r ∈ rows, ∀ t ∈ r, ∃ c rr g bb, cmGet colormap t = some c ∧ colorToRgb c = .ok [rr, g, bb] ∧ px t = ⟨rr, g, bb, 255⟩)
      ∧ L.readPpm doc = .ok { w := (w + 2 * b) * scale.toInt.toNat, h := (h + 2 * b) * scale.toInt.toNat,
                              px := rows.map (fun row => row.map (fun t => some (px t))) } := by
  unfold ppmDoc at hdoc
  obtain ⟨raster, hr, hdoc⟩ := Proofs.Except.bind_ok.1 hdoc
  simp only [createdBy_eq, a.okRange, bind, Except.bind, pure, Except.pure, Except.ok.injEq] at hdoc
  obtain ⟨m, rows, hm', hrows, hsome, hraster⟩ := ppmRaster_ok M colormap raster hr
  have hshape := matrixIterVerbose_shape a M rows hrows
  have hcol : ∀ r ∈ rows, ∀ t ∈ r, ∃ c rr g bb, cmGet colormap t = some c ∧ colorToRgb c = .ok [rr, g, bb]
      ∧ cmGet m t = some [rr, g, bb] ∧ rr ≤ 255 ∧ g ≤ 255 ∧ bb ≤ 255 := by
    intro r hr t ht
    cases hg : cmGet m t with
    | none => have := hsome r hr t ht; rw [hg] at this; cases this
    | some l =>
      obtain ⟨c, hc, hcl⟩ := Proofs.Png.parseMap_get_some colorToRgb colormap m hm' t l hg
      obtain ⟨rr, g, bb, rfl, h1, h2, h3⟩ := colorToRgb_ok c l hcl
      exact ⟨c, rr, g, bb, hc, hcl, rfl, h1, h2, h3⟩
  refine ⟨rows, rgbOf m, hrows, hshape.1, hshape.2, ?_, ?_⟩
  · intro r hr t ht
    obtain ⟨c, rr, g, bb, hc, hcl, hmt, _⟩ := hcol r hr t ht
    exact ⟨c, rr, g, bb, hc, hcl, by simp [rgbOf, hmt]⟩
  · rw [← hdoc, hraster]
    apply readPpm_rows _ (rgbOf m) rows _ _ ⟨hshape.1, hshape.2, Nat.mul_pos (by omega) a.pos, Nat.mul_pos (by omega) a.pos⟩
    intro r hr t ht
    obtain ⟨_, rr, g, bb, _, _, hmt, h1, h2, h3⟩ := hcol r hr t ht
    exact ⟨rr, g, bb, by simp [hmt], h1, h2, h3, by simp [rgbOf, hmt]⟩

end Proofs.RasterDocs
