/-
  Everything written on the way from the segments to the final message is a list of bits.
-/
import Spec.Decode
import Model.Encoder
import Proofs.EndToEndStream
import Proofs.EndToEndSeg

namespace Proofs.EndToEnd
open Model Proofs.Modes

def Bin (l : List Nat) : Prop := ∀ b ∈ l, b ≤ 1

theorem Bin_nil : Bin [] := fun _ h => by cases h

theorem Bin_append {a b : List Nat} (ha : Bin a) (hb : Bin b) : Bin (a ++ b) := by
  intro x hx
  rcases List.mem_append.1 hx with h | h
  · exact ha x h
  · exact hb x h

theorem Bin_appendBits (x w : Nat) : Bin (appendBits x w) := by
  intro b hb
  unfold appendBits at hb
  simp only [List.mem_map, List.mem_range] at hb
  obtain ⟨k, _, rfl⟩ := hb
  omega

theorem Bin_saHeader (sa : Option (Nat × Nat × Nat)) : Bin (saHeader sa) := by
  cases sa with
  | none => exact Bin_nil
  | some x =>
    obtain ⟨a, b, c⟩ := x
    exact Bin_append (Bin_append (Bin_append (Bin_appendBits _ _) (Bin_appendBits _ _)) (Bin_appendBits _ _)) (Bin_appendBits _ _)

theorem Bin_flatten {L : List (List Nat)} (h : ∀ l ∈ L, Bin l) : Bin L.flatten := by
  intro b hb
  simp only [List.mem_flatten] at hb
  obtain ⟨l, hl, hbl⟩ := hb
  exact h l hl b hbl

theorem Bin_replicate_zero (n : Nat) : Bin (List.replicate n 0) := by
  intro b hb
  rw [List.mem_replicate] at hb
  omega

theorem Bin_padCodewords (k : Nat) : Bin (Spec.padCodewords k) := by
  induction k with
  | zero => exact Bin_nil
  | succ n ih =>
    unfold Spec.padCodewords
    refine Bin_append ih ?_
    split <;> (intro b hb; simp at hb; omega)

theorem Bin_flatten_map {α : Type} (l : List α) (g : α → List Nat) (h : ∀ a, Bin (g a)) : Bin (l.map g).flatten := by
  apply Bin_flatten
  intro x hx
  simp only [List.mem_map] at hx
  obtain ⟨a, _, rfl⟩ := hx
  exact h a

theorem Bin_packBits (m : Nat) (data : List Nat) : Bin (packBits m data) := by
  unfold packBits
  split
  · exact Bin_flatten_map _ _ (fun _ => Bin_appendBits _ _)
  · refine Bin_flatten_map _ _ (fun c => ?_)
    split
    · exact Bin_appendBits _ _
    · exact Bin_appendBits _ _
    · exact Bin_nil
  · exact Bin_flatten_map _ _ (fun _ => Bin_appendBits _ _)
  · exact Bin_flatten_map _ _ (fun _ => Bin_appendBits _ _)
  · exact Bin_flatten_map _ _ (fun _ => Bin_appendBits _ _)

theorem Bin_segment (data : List Nat) (mode : Option Nat) (enc : String) (s : Segment)
    (hm : mode ∈ [none, some 1, some 2, some 4, some 8, some 13]) (h : makeSegment data mode enc = .ok s) :
    Bin s.bits := by
  obtain ⟨m, -, -, rfl⟩ := makeSegment_ok_cases data mode enc s hm h
  exact Bin_packBits m data

theorem Bin_written (s : Segment) (v : Int) (eci : Bool) (f : String → Option Nat) (bits : List Nat)
    (h1 : -3 ≤ v) (h2 : v ≤ 40) (hmode : s.mode ∈ [1, 2, 4, 8, 13]) (hs : Bin s.bits)
    (hw : writeSegment s v eci f = .ok bits) : Bin bits := by
  obtain ⟨e, m, cl, he, hm, hc, hb⟩ := Proofs.StreamParse.writeSegment_ok s v eci f bits h1 h2 hw
  obtain ⟨mi, hmi, -⟩ := Proofs.StreamParse.modePart_spec s.mode v m cl h1 h2 hmode hm hc
  rw [hb, hmi]
  refine Bin_append (Bin_append (Bin_append ?_ (Bin_append (Bin_appendBits _ _) ?_)) (Bin_appendBits _ _)) hs
  · rcases Proofs.StreamParse.eciPart_ok s eci f e he with ⟨-, rfl⟩ | ⟨-, n, -, rfl⟩
    · exact Bin_nil
    · exact Bin_append (Bin_appendBits _ _) (Bin_appendBits _ _)
  · split
    · exact Bin_appendBits _ _
    · exact Bin_nil

theorem Bin_written_all (v : Int) (eci : Bool) (f : String → Option Nat) (h1 : -3 ≤ v) (h2 : v ≤ 40) :
    ∀ (segs : List Segment) (segBits : List (List Nat)),
      (∀ s ∈ segs, s.mode ∈ [1, 2, 4, 8, 13] ∧ Bin s.bits) →
      segs.mapM (fun s => writeSegment s v eci f) = .ok segBits → Bin segBits.flatten
  | [], segBits, _, hw => by cases hw; exact Bin_nil
  | s :: rest, segBits, hs, hw => by
    obtain ⟨b, bs, hwb, hwr, rfl⟩ := Proofs.Except.mapM_ok_cons.1 hw
    rw [List.flatten_cons]
    obtain ⟨hm, hb⟩ := hs s (List.mem_cons_self ..)
    exact Bin_append (Bin_written s v eci f b h1 h2 hm hb hwb)
      (Bin_written_all v eci f h1 h2 rest bs (fun x hx => hs x (List.mem_cons_of_mem _ hx)) hwr)

theorem Bin_finish (buff stream : List Nat) (v : Int) (cap : Nat) (h1 : -3 ≤ v) (h2 : v ≤ 40) (hb : Bin buff)
    (h : finishStream buff v cap = .ok stream) : Bin stream := by
  cases hf : Spec.fourBitFinal v with
  | false =>
    rw [Proofs.Stream.finish_qr buff v cap h1 h2 hf] at h
    rw [← Except.ok.inj h]
    exact Bin_append (Bin_append hb (Bin_replicate_zero _)) (Bin_padCodewords _)
  | true =>
    rw [Proofs.Stream.finish_m13 buff v cap h1 h2 hf] at h
    rw [← Except.ok.inj h]
    exact Bin_append (Bin_append (Bin_append hb (Bin_replicate_zero _)) (Bin_padCodewords _)) (Bin_replicate_zero _)

theorem Bin_final (v : Int) (e : Option Nat) (stream final : List Nat)
    (h : makeFinalMessage v e stream = .ok final) : Bin final := by
  unfold makeFinalMessage at h
  simp only [bind, Except.bind, pure, Except.pure, Proofs.Except.throw_eq_error] at h
  repeat' split at h
  all_goals first | (cases h; done) | skip
  · rw [← Except.ok.inj h]
    exact Bin_append (Bin_append (Bin_append (Bin_flatten_map _ _ (fun _ => Bin_appendBits _ _)) (Bin_appendBits _ _))
      (Bin_flatten_map _ _ (fun _ => Bin_appendBits _ _))) (Bin_replicate_zero _)
  · rw [← Except.ok.inj h]
    exact Bin_append (Bin_append (Bin_append (Bin_flatten_map _ _ (fun _ => Bin_appendBits _ _)) Bin_nil)
      (Bin_flatten_map _ _ (fun _ => Bin_appendBits _ _))) (Bin_replicate_zero _)

theorem Bin_segs (parts : List Part) (segs : List Segment)
    (hp : ∀ p ∈ parts, (∀ b ∈ p.data, b < 256) ∧ p.data ≠ [] ∧ p.mode ∈ [none, some 1, some 2, some 4, some 8, some 13])
    (hprep : prepareData parts = .ok segs) : ∀ s ∈ segs, s.mode ∈ [1, 2, 4, 8, 13] ∧ Bin s.bits := by
  obtain ⟨ps, hsegs, -, hok⟩ := prepareData_pairs parts segs hp hprep
  intro s hs
  rw [hsegs] at hs
  simp only [List.mem_map] at hs
  obtain ⟨x, hx, rfl⟩ := hs
  obtain ⟨-, -, hm, enc, hk⟩ := hok x hx
  exact ⟨hm, Bin_segment _ _ _ _ (some_mode_mem _ hm) hk⟩

end Proofs.EndToEnd
