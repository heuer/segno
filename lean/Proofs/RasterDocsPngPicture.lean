/-
  The whole PNG file as a picture: the list-level reference reader `Spec.L.readPng`
  (container, zlib header + Adler-32 of the inflated stream, scanline filters, samples, colour table) applied to
  the file the model writes and to the model's own scanline stream (the inflated IDAT data: inflating is a
  runtime service) returns a picture in which every pixel shows the colour configured for its module type.
-/
import Proofs.RasterDocsPngOk
import Proofs.PngPicture

namespace Proofs.RasterDocs

open Model Spec Proofs.Png Proofs.Raster

theorem unfilterGo_none (raw : List Nat) (h : ∀ v ∈ raw, v < 256) : ∀ prev a c, L.unfilterGo 0 raw prev a c = raw := by
  induction raw with
  | nil => intro prev a c; rfl
  | cons x raw ih =>
    intro prev a c
    have hx : x % 256 = x := Nat.mod_eq_of_lt (h x (by simp))
    show x % 256 :: L.unfilterGo 0 raw prev.tail (x % 256) (prev.headD 0) = x :: raw
    rw [hx, ih (fun v hv => h v (by simp [hv]))]

theorem unfilterGo_up (raw : List Nat) : ∀ prev a c, raw.length ≤ prev.length → L.unfilterGo 2 raw prev a c = unfilterUp raw prev := by
  induction raw with
  | nil => intro prev a c _; rfl
  | cons x raw ih =>
    intro prev a c hlen
    cases prev with
    | nil => simp at hlen
    | cons p prev =>
      show (x + p) % 256 % 256 :: L.unfilterGo 2 raw prev ((x + p) % 256 % 256) p = unfilterUp (x :: raw) (p :: prev)
      rw [ih prev _ _ (by simpa using hlen), Nat.mod_mod]
      rfl

theorem unfilterUp_length (raw prev : List Nat) (h : raw.length = prev.length) : (unfilterUp raw prev).length = raw.length := by
  unfold unfilterUp
  simp [List.length_zipWith, h]

theorem scanlines_eq_recon (rb : Nat) : ∀ (lines : List Line) (prev : List Nat), prev.length = rb →
    (∀ l ∈ lines, (l.1 = 0 ∨ l.1 = 2) ∧ l.2.length = rb ∧ ∀ v ∈ l.2, v < 256) →
    L.scanlines rb lines.length (flat lines) prev = .ok (recon prev lines) := by
  intro lines
  induction lines with
  | nil => intro prev _ _; rfl
  | cons l rest ih =>
    intro prev hprev hl
    obtain ⟨ft, raw⟩ := l
    obtain ⟨hft, hlen, hbytes⟩ := hl (ft, raw) (by simp)
    simp only at hft hlen hbytes
    have hflat : flat ((ft, raw) :: rest) = ft :: (raw ++ flat rest) := by simp [flat]
    have hcur : L.unfilterGo ft raw prev 0 0 = (if ft == 2 then unfilterUp raw prev else raw) := by
      rcases hft with rfl | rfl
      · simp [unfilterGo_none raw hbytes]
      · simp [unfilterGo_up raw prev 0 0 (by omega)]
    have hcurlen : (if ft == 2 then unfilterUp raw prev else raw).length = rb := by
      split
      · rw [unfilterUp_length raw prev (by omega), hlen]
      · exact hlen
    have hgt : ¬ ft > 4 := by rcases hft with rfl | rfl <;> decide
    have htake : List.take rb (raw ++ flat rest) = raw := by rw [← hlen]; exact List.take_left' rfl
    have hdrop : List.drop (rb + 1) (ft :: (raw ++ flat rest)) = flat rest := by
      simp only [List.drop_succ_cons]; rw [← hlen]; exact List.drop_left' rfl
    simp only [List.length_cons, L.scanlines, hflat, List.headD_cons, hgt, if_false, List.drop_succ_cons, List.drop_zero, htake, hcur, hdrop]
    rw [ih _ hcurlen (fun l' hl' => hl l' (by simp [hl'])), recon_cons]

theorem pngLines_bytes (idx : List (List Nat)) (w d s b qz : Nat) (hqz : qz < 2 ^ d)
    (hrows : ∀ r ∈ idx, r.length = w ∧ ∀ v ∈ r, v < 2 ^ d) : ∀ l ∈ pngLines idx w d s b qz, ∀ v ∈ l.2, v < 256 := by
  intro l hl
  have hrep : ∀ n x : Nat, x < 2 ^ d → ∀ v ∈ packRow d (List.replicate n x), v < 256 :=
    fun n x hx => packRow_lt d _ (fun v hv => (List.mem_replicate.1 hv).2 ▸ hx)
  obtain rfl | ⟨row, hrow, rfl⟩ | rfl := mem_pngLines hl
  · exact hrep _ _ hqz
  · exact packRow_lt d _ (fullRow_bound s b qz _ hqz row (hrows row hrow).2)
  · exact hrep _ _ (Nat.two_pow_pos d)

/-- what the reference reader checks of the zlib container of the IDAT data (RFC 1950: compression method 8,
    window size, header check, no preset dictionary, Adler-32 of the inflated stream) -/
def ZlibOK (comp idat : List Nat) : Prop :=
  6 ≤ comp.length ∧ comp.getD 0 0 % 16 = 8 ∧ comp.getD 0 0 / 16 ≤ 7 ∧ (comp.getD 0 0 * 256 + comp.getD 1 0) % 31 = 0
    ∧ comp.getD 1 0 / 32 % 2 = 0 ∧ L.adler32 idat = L.be32 (comp.drop (comp.length - 4))

/-- the picture the reader decodes from reconstructed scanlines -/
def picOf (c : L.PngL) (lines : List Line) : L.Pic :=
  { w := c.hdr.width, h := c.hdr.height,
    px := (recon (List.replicate ((c.hdr.width * c.hdr.depth + 7) / 8) 0) lines).map
            (fun row => (unpackRow c.hdr.depth c.hdr.width row).map (L.pngColour c)) }

theorem readPng_lines (file : List Nat) (c : L.PngL) (hc : L.readPngContainer file = .ok c) (lines : List Line)
    (hz : ZlibOK c.comp (flat lines)) (hlen : lines.length = c.hdr.height)
    (hl : ∀ l ∈ lines, (l.1 = 0 ∨ l.1 = 2) ∧ l.2.length = (c.hdr.width * c.hdr.depth + 7) / 8 ∧ ∀ v ∈ l.2, v < 256) :
    L.readPng file (flat lines) = .ok (c, picOf c lines) := by
  obtain ⟨h6, z1, z2, z3, z4, z5⟩ := hz
  have hflatlen : (flat lines).length = c.hdr.height * ((c.hdr.width * c.hdr.depth + 7) / 8 + 1) := by
    have : ∀ l ∈ lines, ((fun l : Line => l.1 :: l.2) l).length = (c.hdr.width * c.hdr.depth + 7) / 8 + 1 := by
      intro l hl'; simp [(hl l hl').2.1]
    unfold flat
    rw [length_flatMap_const _ _ lines this, hlen, Nat.mul_comm]
  have hscan := scanlines_eq_recon ((c.hdr.width * c.hdr.depth + 7) / 8) lines (List.replicate ((c.hdr.width * c.hdr.depth + 7) / 8) 0) (by simp) hl
  rw [hlen] at hscan
  unfold L.readPng
  simp only [hc]
  have c1 : ¬ c.comp.length < 6 := by omega
  have c2 : (c.comp.getD 0 0 % 16 != 8 || decide (c.comp.getD 0 0 / 16 > 7) || (c.comp.getD 0 0 * 256 + c.comp.getD 1 0) % 31 != 0
      || c.comp.getD 1 0 / 32 % 2 != 0) = false := by
    have e1 : (c.comp.getD 0 0 % 16 != 8) = false := by rw [z1]; rfl
    have e2 : decide (c.comp.getD 0 0 / 16 > 7) = false := decide_eq_false (by omega)
    have e3 : ((c.comp.getD 0 0 * 256 + c.comp.getD 1 0) % 31 != 0) = false := by rw [z3]; rfl
    have e4 : (c.comp.getD 1 0 / 32 % 2 != 0) = false := by rw [z4]; rfl
    rw [e1, e2, e3, e4]; rfl
  simp only [c1, if_false, c2, Bool.false_eq_true, z5, bne_self_eq_false, hflatlen, hscan, picOf]

theorem indexRows_bounds (setOrder : List PColor → List PColor) (hset : SetOrderOK setOrder) (M : List (List Nat)) (w h : Nat)
    (colormap : List (Nat × ColorArg)) (hM : WellFormed M w h) (hn : colormap.length ≤ 16)
    (clrMap : List (Nat × PColor)) (p : PaletteInfo) (idx : List (List Nat))
    (hparse : parseColormap colormap = .ok clrMap) (hpal : buildPalette setOrder clrMap = .ok p) (hidx : indexRows p M w h = .ok idx) :
    (∀ r ∈ idx, r.length = w ∧ ∀ v ∈ r, v < 2 ^ p.depth) ∧ typeIndex p Gen.TYPE_QUIET_ZONE < 2 ^ p.depth := by
  obtain ⟨A, _, hlenidx, hrowlen, hcells⟩ := indexRows_types p M w h idx hM hidx
  exact index_bounds p (buildPalette_facts setOrder hset clrMap p hpal (by rw [parseColormap_length _ _ hparse]; exact hn)).index_lt
    w h idx hlenidx hrowlen (fun i j hi hj => ⟨_, (hcells i j hi hj).1⟩)

theorem picOf_pixel (c : L.PngL) (lines : List Line)
    (hrecon : recon (List.replicate ((c.hdr.width * c.hdr.depth + 7) / 8) 0) lines = recon [] lines)
    (x y : Nat) (hx : x < c.hdr.width) (hy : y < lines.length) :
    (((picOf c lines).px).getD y []).getD x none = L.pngColour c (readCode lines c.hdr.depth c.hdr.width x y) := by
  have hlen : ∀ (pv : List Nat) (ls : List Line), (recon pv ls).length = ls.length := by
    intro pv ls
    induction ls generalizing pv with
    | nil => rfl
    | cons l rest ih => obtain ⟨ft, raw⟩ := l; rw [recon_cons]; simp [ih]
  unfold picOf readCode
  simp only [hrecon]
  have hy' : y < (recon [] lines).length := by rw [hlen]; exact hy
  simp only [List.getD_eq_getElem?_getD, List.getElem?_map, List.getElem?_eq_getElem hy', Option.map_some, Option.getD_some]
  unfold unpackRow
  simp [hx]

end Proofs.RasterDocs
