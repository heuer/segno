/-
  Proofs.GeometryA — kernel-checked count of data modules, versions -3 .. 10 (−3 = M1 … 0 = M4):
  `countOK v`: the ISO skeleton of version v has as many data modules as Table 9 gives the version bits.
  Declares in `Proofs.Placement2`, beside `countOK`.
-/
import Proofs.Placement2

namespace Proofs.Placement2

def versionsA : List Int := [-3, -2, -1, 0, 1, 2, 3, 4, 5, 6, 7, 8, 9, 10]

theorem countA : versionsA.all countOK = true := by decide +kernel

end Proofs.Placement2
