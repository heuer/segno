/-
  Proofs.TieA2Finder — `add_finder_patterns` (translated, Gen/Funcs2.lean) against `Model.addFinderPatterns`:
  the slice assignments `matrix[i + r][j:j + 8] = _FINDER_PATTERN[offset + r][sepoffset:sepoffset + 8]` of the source
  are the 64 cell writes (`Model.set2`) per corner of the model.  General part: a run of `set2` in a row is a loop of
  cell-wise steps (`cw_rowWrite`; `Cellwise`: Proofs/Cellwise.lean), a matrix is determined by its cells (`eq_mI_of_cells`), a slice assignment inside a
  row is a run of cell writes (`setSlice2_row`).
-/
import Proofs.TieA2Matrix
import Proofs.Cells

namespace Proofs.TieA2
open Gen.Py Model

/-- `w` cell writes into row `i`, columns `j … j + w - 1` -/
def rowWrite (m : Matrix) (i j w : Nat) (f : Nat → Nat) : Matrix :=
  (List.range w).foldl (fun m c => set2 m i (j + c) (f c)) m

theorem cw_rowWrite (n i j w : Nat) (f : Nat → Nat) :
    Proofs.Cells.Cellwise Proofs.Placement.Sq get2 n (fun m => rowWrite m i j w f)
      (fun a b d => if a = i ∧ j ≤ b ∧ b < j + w then f (b - j) else d) := by
  refine (Proofs.Cells.Cellwise.foldl _ fun c _ => Proofs.Cells.Cellwise.set2 n i (j + c) (f c)).congr fun a b d => ?_
  rw [Proofs.Cells.foldl_ite_val _ _ _ (f (b - j)) _ (by intro c _ hc; rw [hc.2, Nat.add_sub_cancel_left])]
  simp only [List.mem_range]
  exact Proofs.Cells.ite_iff ⟨fun ⟨c, hc, h1, h2⟩ => ⟨h1, by omega, by omega⟩, fun h => ⟨b - j, by omega, h.1, by omega⟩⟩ rfl rfl

theorem sq_rowWrite {m : Matrix} {n : Nat} (hs : Sq m n) (i j w : Nat) (f : Nat → Nat) : Sq (rowWrite m i j w f) n :=
  sq_iff.2 (cw_rowWrite n i j w f m (sq_iff.1 hs)).1

theorem cell_rowWrite {m : Matrix} {n : Nat} (hs : Sq m n) (i j w : Nat) (f : Nat → Nat) (a b : Nat) (ha : a < n) (hb : b < n) :
    get2 (rowWrite m i j w f) a b = if a = i ∧ j ≤ b ∧ b < j + w then f (b - j) else get2 m a b :=
  (cw_rowWrite n i j w f m (sq_iff.1 hs)).2 a b ha hb

theorem mI_row_cells {m : Matrix} {n : Nat} (hs : Sq m n) (a : Nat) (ha : a < n) (r : List Int)
    (h : (mI m)[a]? = some r) : r.length = n ∧ ∀ b, b < n → r[b]? = some (get2 m a b : Int) := by
  have hm : a < m.size := by rw [hs.size]; exact ha
  have hr := hs.rows a hm
  rw [mI_getElem? m a hm] at h
  simp only [Option.some.injEq] at h
  subst h
  refine ⟨by simp [hr], ?_⟩
  intro b hb
  unfold get2
  rw [getD_row m a hm]
  simp [toI_getElem, Array.getD, hr, hb]

theorem eq_mI_of_cells (L : List (List Int)) (M : Matrix) (n : Nat) (hs : Sq M n) (hl : L.length = n)
    (hc : ∀ a, a < n → ∀ r, L[a]? = some r → r.length = n ∧ ∀ b, b < n → r[b]? = some (get2 M a b : Int)) : L = mI M := by
  apply List.ext_getElem?
  intro a
  by_cases ha : a < n
  · have hm : a < M.size := by rw [hs.size]; exact ha
    rw [mI_getElem? M a hm]
    have hL : a < L.length := by omega
    rw [List.getElem?_eq_getElem hL]
    congr 1
    obtain ⟨h1, h2⟩ := hc a ha L[a] (List.getElem?_eq_getElem hL)
    obtain ⟨h1', h2'⟩ := mI_row_cells hs a ha _ (mI_getElem? M a hm)
    apply List.ext_getElem?
    intro b
    by_cases hb : b < n
    · rw [h2 b hb, h2' b hb]
    · rw [List.getElem?_eq_none (by omega), List.getElem?_eq_none (by omega)]
  · rw [List.getElem?_eq_none (by omega), List.getElem?_eq_none (by rw [mI_length, hs.size]; omega)]

theorem setSlice2_row {m : Matrix} {n : Nat} (hs : Sq m n) (ii lo hi : Int) (i j w : Nat) (f : Nat → Nat)
    (hi' : normIndex n ii = some i) (hlo : lo = (j : Int)) (hhi : hi = ((j + w : Nat) : Int)) (hjw : j + w ≤ n) :
    setSlice2 (mI m) ii (some lo) (some hi) (toI ((List.range w).map f)) = .ok (mI (rowWrite m i j w f)) := by
  have hin : i < n := normIndex_lt hi'
  have hlt : i < m.size := by rw [hs.size]; exact hin
  have hrow : m[i].size = n := hs.rows i hlt
  subst hlo hhi
  unfold setSlice2
  rw [index_row hs ii i hi', bind_ok, getD_row m i hlt]
  rw [setItem_eq_of_norm _ ii i _ (by rw [mI_length, hs.size]; exact hi')]
  congr 1
  have hlen : (toI m[i].toList).length = n := by simp [hrow]
  have hcells := (mI_row_cells hs i hin _ (mI_getElem? m i hlt)).2
  generalize toI m[i].toList = row at hlen hcells
  -- cell by cell: the slice assignment makes row i `take j ++ new ++ drop (j + w)` of what it was, and cell b is read off by
  -- the part it falls in; `cell_rowWrite` gives the same three cases for the model
  apply eq_mI_of_cells _ _ n (sq_rowWrite hs i j w f) (by rw [List.length_set, mI_length, hs.size])
  intro a ha r hr
  rw [List.getElem?_set] at hr
  by_cases hia : i = a
  · subst hia
    rw [if_pos rfl, if_pos (by rw [mI_length]; exact hlt)] at hr
    simp only [Option.some.injEq] at hr
    subst hr
    unfold setSlice sliceLo sliceHi
    simp only [hlen, clip_nat_of_le n j (by omega), clip_nat_of_le n (j + w) hjw, Nat.le_add_right, Nat.max_eq_right]
    constructor
    · simp [hlen]; omega
    · intro b hb
      rw [cell_rowWrite hs i j w f i b hin hb]
      simp only [true_and]
      rw [List.append_assoc, List.getElem?_append]
      simp only [List.length_take, hlen, Nat.min_eq_left (show j ≤ n by omega)]
      by_cases h1 : b < j
      · rw [if_pos h1, if_neg (by omega), List.getElem?_take, if_pos h1, hcells b hb]
      · rw [if_neg h1, List.getElem?_append]
        simp only [toI_length, List.length_map, List.length_range]
        by_cases h2 : b - j < w
        · rw [if_pos h2, if_pos (by omega)]
          simp [toI_getElem, h2]
        · rw [if_neg h2, if_neg (by omega), List.getElem?_drop]
          have : j + w + (b - j - w) = b := by omega
          rw [this, hcells b hb]
  · rw [if_neg hia] at hr
    obtain ⟨h1, h2⟩ := mI_row_cells hs a ha r hr
    refine ⟨h1, ?_⟩
    intro b hb
    rw [cell_rowWrite hs i j w f a b ha hb, if_neg (by omega), h2 b hb]

theorem Yields.slice {m : Matrix} {n : Nat} (hs : Sq m n) {ii lo hi : Int} {i j w : Nat} {f : Nat → Nat}
    (hi' : normIndex n ii = some i) (hlo : lo = (j : Int)) (hhi : hi = ((j + w : Nat) : Int)) (hjw : j + w ≤ n) :
    Yields (Sq · n) (setSlice2 (mI m) ii (some lo) (some hi) (toI ((List.range w).map f))) mI (rowWrite m i j w f) :=
  ⟨setSlice2_row hs ii lo hi i j w f hi' hlo hhi hjw, sq_rowWrite hs i j w f⟩

/-- one corner of the model -/
def finderCorner (m : Matrix) (q : Nat × Nat × Nat × Nat) : Matrix :=
  (List.range 8).foldl (fun m r =>
    (List.range 8).foldl (fun m c =>
      set2 m (q.1 + r) (q.2.1 + c) ((Gen.FINDER_PATTERN.getD (q.2.2.1 + r) []).getD (q.2.2.2 + c) 0)) m) m

theorem addFinderPatterns_unfold (m : Matrix) (n : Nat) :
    addFinderPatterns m n =
      (if n < 21 then [(0, 0, 1, 1)] else [(0, 0, 1, 1), (0, n - 8, 1, 0), (n - 8, 0, 0, 1)]).foldl finderCorner m := rfl

theorem finder_index : ∀ off : Fin 2, ∀ r : Fin 8,
    index Gen.Funcs2.T_FINDER_PATTERN (((off.val : Nat) : Int) + ((r.val : Nat) : Int)) =
      .ok (toI (Gen.FINDER_PATTERN.getD (off.val + r.val) [])) := by decide

theorem finder_slice : ∀ off : Fin 2, ∀ sep : Fin 2, ∀ r : Fin 8,
    slice (toI (Gen.FINDER_PATTERN.getD (off.val + r.val) [])) (some ((sep.val : Nat) : Int)) (some (((sep.val : Nat) : Int) + 8)) =
      toI ((List.range 8).map (fun c => (Gen.FINDER_PATTERN.getD (off.val + r.val) []).getD (sep.val + c) 0)) := by decide

/-- the corner of the translation for a corner of the model: `-8` for the row `n - 8` -/
def cornerI (q : Nat × Nat × Nat × Nat) : Int × Int := (if q.2.2.1 = 0 then -8 else 0, (q.2.1 : Int))

/-- `add_finder_patterns(matrix, n, n)` on an n × n matrix with n ≥ 8; the corners of the source are the image (`cornerI`) of the model's -/
theorem add_finder_patterns_yields (m : Matrix) (n : Nat) (hs : Sq m n) (hn : 8 ≤ n) :
    Yields (Sq · n) (Gen.Funcs2.add_finder_patterns (mI m) n n) mI (Model.addFinderPatterns m n) := by
  rw [addFinderPatterns_unfold]
  unfold Gen.Funcs2.add_finder_patterns
  simp only [mI_length, hs.size, beq_self_eq_true, Bool.true_and, Int.ofNat_eq_natCast]
  generalize hqs : (if n < 21 then [(0, 0, 1, 1)] else [(0, 0, 1, 1), (0, n - 8, 1, 0), (n - 8, 0, 0, 1)]) = qs
  have hcs : (if decide ((n : Int) < 21) = true then [((0 : Int), (0 : Int))] else [(0, 0), (0, (n : Int) - 8), (-8, 0)]) = qs.map cornerI := by
    rw [← hqs]
    by_cases h21 : n < 21
    · rw [if_pos (by simp; omega), if_pos h21]; rfl
    · rw [if_neg (by simp; omega), if_neg h21]
      simp only [List.map_cons, List.map_nil, cornerI]
      rw [show ((n - 8 : Nat) : Int) = (n : Int) - 8 by omega]; rfl
  -- what the corners have in common
  have hq : ∀ i j off sep, (i, j, off, sep) ∈ qs → off < 2 ∧ sep < 2 ∧
      (if (cornerI (i, j, off, sep)).1 == 0 then (1 : Int) else 0) = (off : Int) ∧
      (if !((cornerI (i, j, off, sep)).2 == 0) then (0 : Int) else 1) = (sep : Int) ∧ j + 8 ≤ n ∧
      ∀ r : Nat, r < 8 → normIndex n ((cornerI (i, j, off, sep)).1 + (r : Int)) = some (i + r) := by
    have top : ∀ r : Nat, r < 8 → normIndex n ((0 : Int) + (r : Int)) = some (0 + r) := fun r hr => by
      rw [Int.zero_add, Nat.zero_add]; exact normIndex_nat n r (by omega)
    intro i j off sep hq'
    rw [← hqs] at hq'
    split at hq' <;> simp only [List.mem_cons, List.not_mem_nil, or_false, Prod.mk.injEq] at hq'
    · obtain ⟨rfl, rfl, rfl, rfl⟩ := hq'; exact ⟨by omega, by omega, rfl, rfl, by omega, top⟩
    · rcases hq' with ⟨rfl, rfl, rfl, rfl⟩ | ⟨rfl, rfl, rfl, rfl⟩ | ⟨rfl, rfl, rfl, rfl⟩
      · exact ⟨by omega, by omega, rfl, rfl, by omega, top⟩
      · refine ⟨by omega, by omega, rfl, ?_, by omega, top⟩
        have : ((((n - 8 : Nat) : Int)) == 0) = false := by simp; omega
        simp [cornerI, this]
      · refine ⟨by omega, by omega, rfl, rfl, by omega, fun r hr => ?_⟩
        rw [show (cornerI (n - 8, 0, 0, 1)).1 + (r : Int) = -((8 - r : Nat) : Int) by simp [cornerI]; omega,
          normIndex_neg n (8 - r) (by omega) (by omega)]
        congr 1; omega
  rw [hcs]
  refine .bind (.list_loop mI finderCorner cornerI qs hs fun q hq' t ht => ?_) fun h => ⟨rfl, h⟩
  obtain ⟨i, j, off, sep⟩ := q
  obtain ⟨ho, hse, hoff, hsep, hjn, hrow⟩ := hq i j off sep hq'
  simp only [hoff, hsep]
  refine .bind (.range_loop (fun _ => mI) (fun m r => rowWrite m (i + r) j 8 (fun c => (Gen.FINDER_PATTERN.getD (off + r) []).getD (sep + c) 0))
    8 rfl ht fun r hr u hu => ?_) fun h => ⟨rfl, h⟩
  have e1 := finder_index ⟨off, ho⟩ ⟨r, hr⟩
  have e2 := finder_slice ⟨off, ho⟩ ⟨sep, hse⟩ ⟨r, hr⟩
  simp only at e1 e2
  rw [Int.zero_add, e1, bind_ok, e2]
  exact .slice hu (hrow r hr) rfl (by push_cast; rfl) hjn

theorem add_finder_patterns_eq (m : Matrix) (n : Nat) (hs : Sq m n) (hn : 8 ≤ n) :
    Gen.Funcs2.add_finder_patterns (mI m) n n = .ok (mI (Model.addFinderPatterns m n)) :=
  (add_finder_patterns_yields m n hs hn).eq

end Proofs.TieA2
