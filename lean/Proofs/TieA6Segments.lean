/-
  `Segments.add_segment` (`Gen/Funcs6.lean`: a function from the state triple (segments, bit_length, modes) and a segment to the
  new triple) against `Model.addSegment`: on states that satisfy the class invariant the translation is `addSegT` on the segments
  (`add_segment_inv`), and `addSegT` on images of model segments is `Model.addSegment` (`addSegT_model`).
-/
import Gen.Funcs6
import Proofs.TieA2Matrix
import Model.Encoder

namespace Proofs.TieA6
open Gen.Py Proofs.TieA2 Model

/-- a segment as the translation sees it: `_Segment(bits, char_count, mode, encoding)` -/
abbrev Seg := List Int × Int × Int × Option String

/-- the state of a `Segments` object as the translation sees it: (`segments`, `bit_length`, `modes`) -/
abbrev State := List Seg × Int × List Int

def segT (s : Segment) : Seg := (toI s.bits, (s.charCount : Int), (s.mode : Int), s.encoding)

def bitSum (ss : List Seg) : Int := (ss.map (fun s => (s.1.length : Int))).sum

/-- the class invariant of `Segments`: `bit_length` is the sum of the lengths of the bit strings, `modes` lists the modes -/
def StateInv (st : State) : Prop := st.2.1 = bitSum st.1 ∧ st.2.2 = st.1.map (fun s => s.2.2.1)

/-- the state that belongs to a list of segments -/
def stateOf (ss : List Seg) : State := (ss, bitSum ss, ss.map (fun s => s.2.2.1))

theorem stateInv_stateOf (ss : List Seg) : StateInv (stateOf ss) := ⟨rfl, rfl⟩

theorem stateInv_iff (st : State) : StateInv st ↔ st = stateOf st.1 := by
  obtain ⟨a, b, c⟩ := st
  constructor
  · rintro ⟨h1, h2⟩
    simp only at h1 h2
    subst h1 h2
    rfl
  · intro h
    rw [h]
    exact stateInv_stateOf _

theorem bitSum_append (a b : List Seg) : bitSum (a ++ b) = bitSum a + bitSum b := by
  simp [bitSum, List.sum_append]

theorem bitSum_nil : bitSum [] = 0 := rfl

theorem bitSum_cons (s : Seg) (t : List Seg) : bitSum (s :: t) = (s.1.length : Int) + bitSum t := by simp [bitSum]

theorem bitSum_single (s : Seg) : bitSum [s] = (s.1.length : Int) := by simp [bitSum]

/-- `{MODE_NUMERIC: 3, MODE_ALPHANUMERIC: 2}.get(mode, 1)` -/
def groupSize (m : Int) : Int := if m = 1 then 3 else if m = 2 then 2 else 1

theorem getD_group (m : Int) : Gen.Py.getD ([((1 : Int), (3 : Int)), ((2 : Int), (2 : Int))] : List (Int × Int)) m 1 = groupSize m := by
  unfold Gen.Py.getD groupSize
  by_cases h1 : m = 1
  · subst h1
    rfl
  · by_cases h2 : m = 2
    · subst h2
      rfl
    · have e1 : ((1 : Int) == m) = false := by simpa using fun h => h1 h.symm
      have e2 : ((2 : Int) == m) = false := by simpa using fun h => h2 h.symm
      simp [List.find?, e1, e2, h1, h2]

theorem mod_group (a m : Int) : Gen.Py.mod a (groupSize m) = .ok (a % groupSize m) := by
  unfold Gen.Py.mod groupSize
  split_ifs <;> first | omega | (rw [Int.fmod_eq_emod_of_nonneg _ (by omega)])

/-- the merge condition of `add_segment` -/
def mergeCond (prev seg : Seg) : Bool :=
  prev.2.2.1 == seg.2.2.1 && (prev.2.2.2 == seg.2.2.2 && prev.2.1 % groupSize seg.2.2.1 == 0)

/-- `add_segment` on segments alone -/
def addSegT (ss : List Seg) (seg : Seg) : List Seg :=
  match ss.getLast? with
  | none => [seg]
  | some prev =>
    if mergeCond prev seg then ss.dropLast ++ [(prev.1 ++ seg.1, prev.2.1 + seg.2.1, seg.2.2.1, seg.2.2.2)]
    else ss ++ [seg]

theorem ite_ok_and (a b c : Bool) :
    (if a then (if b then (Except.ok c : M Bool) else .ok false) else .ok false) = .ok (a && (b && c)) := by
  cases a <;> cases b <;> rfl

theorem add_segment_stateOf (ss : List Seg) (seg : Seg) :
    Gen.Funcs6.add_segment ss (bitSum ss) (ss.map (fun s => s.2.2.1)) seg = .ok (stateOf (addSegT ss seg)) := by
  rcases List.eq_nil_or_concat ss with h | ⟨init, prev, h⟩
  · subst h
    simp [Gen.Funcs6.add_segment, addSegT, stateOf, bitSum]
  · rw [List.concat_eq_append] at h
    subst h
    have hne : (init ++ [prev]).isEmpty = false := by simp
    unfold Gen.Funcs6.add_segment
    rw [hne]
    have hlast : (init ++ [prev]).getLast? = some prev := by simp
    simp only [Bool.not_false, if_true, index_last _ _ hlast, Gen.Py.bind_ok, getD_group, mod_group, List.map_append, List.map_cons,
      List.map_nil, popAt_last, ite_ok_and]
    unfold addSegT
    rw [hlast]
    dsimp only
    unfold mergeCond
    cases (prev.2.2.1 == seg.2.2.1 && (prev.2.2.2 == seg.2.2.2 && prev.2.1 % groupSize seg.2.2.1 == 0))
    · simp only [Bool.false_eq_true, if_false]
      simp [stateOf, bitSum_append, bitSum_cons, bitSum_nil] <;> omega
    · simp only [if_true, List.dropLast_concat]
      simp only [stateOf, bitSum_append, bitSum_single, List.map_append, List.map_cons, List.map_nil, List.length_append,
        Int.ofNat_eq_natCast]
      congr 3
      push_cast
      omega

theorem add_segment_inv (st : State) (seg : Seg) (h : StateInv st) :
    Gen.Funcs6.add_segment st.1 st.2.1 st.2.2 seg = .ok (stateOf (addSegT st.1 seg)) := by
  obtain ⟨h1, h2⟩ := h
  rw [h1, h2]
  exact add_segment_stateOf _ _

theorem groupSize_nat (m : Nat) :
    groupSize (m : Int) = ((if m == Gen.MODE_NUMERIC then 3 else if m == Gen.MODE_ALPHANUMERIC then 2 else 1 : Nat) : Int) := by
  unfold groupSize
  have e1 : Gen.MODE_NUMERIC = 1 := by decide
  have e2 : Gen.MODE_ALPHANUMERIC = 2 := by decide
  rw [e1, e2]
  by_cases h1 : m = 1
  · subst h1
    rfl
  · by_cases h2 : m = 2
    · subst h2
      rfl
    · have : ¬ ((m : Int) = 1) := by omega
      have : ¬ ((m : Int) = 2) := by omega
      simp [*]

theorem mergeCond_model (prev s : Segment) :
    mergeCond (segT prev) (segT s)
      = (prev.mode == s.mode && prev.encoding == s.encoding
          && prev.charCount % (if s.mode == Gen.MODE_NUMERIC then 3 else if s.mode == Gen.MODE_ALPHANUMERIC then 2 else 1) == 0) := by
  unfold mergeCond segT
  dsimp only
  rw [groupSize_nat, beq_cast, Bool.and_assoc]
  congr 2
  generalize (if s.mode == Gen.MODE_NUMERIC then 3 else if s.mode == Gen.MODE_ALPHANUMERIC then 2 else 1 : Nat) = g
  rw [show ((prev.charCount : Int) % (g : Int)) = ((prev.charCount % g : Nat) : Int) from Int.ofNat_mod_ofNat _ _]
  exact beq_cast _ 0

theorem toI_append' (a b : List Nat) : toI (a ++ b) = toI a ++ toI b := toI_append a b

theorem addSegT_model (segs : List Segment) (s : Segment) :
    addSegT (segs.map segT) (segT s) = (Model.addSegment segs s).map segT := by
  rcases List.eq_nil_or_concat segs with h | ⟨init, prev, h⟩
  · subst h
    rfl
  · rw [List.concat_eq_append] at h
    subst h
    unfold addSegT Model.addSegment
    have h1 : ((init ++ [prev]).map segT).getLast? = some (segT prev) := by simp
    have h2 : (init ++ [prev]).getLast? = some prev := by simp
    rw [h1, h2]
    dsimp only
    rw [mergeCond_model]
    by_cases hc : (prev.mode == s.mode && prev.encoding == s.encoding
        && prev.charCount % (if s.mode == Gen.MODE_NUMERIC then 3 else if s.mode == Gen.MODE_ALPHANUMERIC then 2 else 1) == 0) = true
    · rw [if_pos hc, if_pos hc]
      simp only [List.map_append, List.map_cons, List.map_nil, List.dropLast_concat]
      congr 2
      simp [segT]
    · rw [if_neg hc, if_neg hc]
      simp

end Proofs.TieA6
