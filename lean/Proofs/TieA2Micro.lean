/-
  Proofs.TieA2Micro — `evaluate_micro_mask` (translated, Gen/Funcs2.lean) against `Model.evaluateMicroMask`: the two
  generator sums `sum(matrix[i][-1] for i in range(1, width))` and `sum(matrix[-1][i] for i in range(1, width))`
  (`Py.sumM`, every element expression can raise IndexError) are the two `Model.sumNat` of the model.
-/
import Proofs.TieA2Matrix
import Proofs.TieAOverhead
import Proofs.Except

namespace Proofs.TieA2
open Gen.Py Proofs.TieA Model

theorem sumM_map (ks : List Nat) (φ : Nat → Int) (f : Int → M Int) (g : Nat → Nat)
    (h : ∀ k ∈ ks, f (φ k) = .ok (Int.ofNat (g k))) :
    sumM (ks.map φ) f = .ok (Int.ofNat (sumNat (ks.map g))) := by
  have hm : ks.mapM (fun k => some (g k)) = some (ks.map g) := (Proofs.Except.mapM_some_iff _ _ _).mpr (by simp)
  rw [sumM_mapM ks φ f (fun k => some (g k)) .indexError h, hm]
  rfl

theorem range_one_nat (n : Nat) : range 1 (n : Int) = (List.range (n - 1)).map (fun (k : Nat) => (1 : Int) + Int.ofNat k) := by
  have : ((n : Int) - 1).toNat = n - 1 := by omega
  simp [range, this]

theorem normIndex_one_add (n k : Nat) (hk : k < n - 1) : normIndex n ((1 : Int) + Int.ofNat k) = some (k + 1) := by
  have : ((1 : Int) + Int.ofNat k) = ((k + 1 : Nat) : Int) := by
    simp only [Int.ofNat_eq_natCast]; push_cast; omega
  rw [this]
  exact normIndex_nat n (k + 1) (by omega)

/-- `evaluate_micro_mask(matrix, n, n)` on an n × n matrix, n ≥ 1 (for n = 0 Python raises IndexError at `matrix[-1]`) -/
theorem evaluate_micro_mask_eq (m : Matrix) (n : Nat) (hs : Sq m n) (hn : 1 ≤ n) :
    Gen.Funcs2.evaluate_micro_mask (mI m) n n = .ok (Int.ofNat (Model.evaluateMicroMask m)) := by
  have hl : normIndex n (-1 : Int) = some (n - 1) := normIndex_neg n 1 (Nat.le_refl 1) hn
  unfold Gen.Funcs2.evaluate_micro_mask
  simp only []
  rw [index_row hs (-1) (n - 1) hl, bind_ok, range_one_nat]
  -- first sum: the last column
  rw [sumM_map (List.range (n - 1)) _ _ (fun k => get2 m (k + 1) (n - 1))
    (by
      intro k hk
      rw [List.mem_range] at hk
      exact index_cell hs _ (-1) (k + 1) (n - 1) (normIndex_one_add n k hk) hl), bind_ok]
  -- second sum: the last row
  rw [sumM_map (List.range (n - 1)) _ _ (fun k => get2 m (n - 1) (k + 1))
    (by
      intro k hk
      rw [List.mem_range] at hk
      have h := index_cell hs (-1) ((1 : Int) + Int.ofNat k) (n - 1) (k + 1) hl (normIndex_one_add n k hk)
      rw [index_row hs (-1) (n - 1) hl, bind_ok] at h
      exact h), bind_ok]
  unfold Model.evaluateMicroMask
  simp only [hs.size]
  generalize sumNat (List.map (fun k => get2 m (k + 1) (n - 1)) (List.range (n - 1))) = s1
  generalize sumNat (List.map (fun k => get2 m (n - 1) (k + 1)) (List.range (n - 1))) = s2
  congr 1
  simp only [Int.ofNat_eq_natCast]
  by_cases h : s1 ≤ s2
  · have h' : (s1 : Int) ≤ (s2 : Int) := by omega
    rw [if_pos h, if_pos (decide_eq_true h')]
    push_cast
    rfl
  · have h' : ¬ (s1 : Int) ≤ (s2 : Int) := by omega
    rw [if_neg h, if_neg (by simpa using h')]
    push_cast
    rfl

end Proofs.TieA2
