/-
  The command line tool (`cli.main` after `make_code`, Model.Routes.cliMain / Model.Cli.buildConfig): whatever argparse can put
  into the namespace, the keyword map `build_config` hands to `QRCode.save` is a documented request of the serialiser the file
  name selects.  Method: a Python value matters only through its shape (`Sh`: None, bool, int, str, number, anything else), so
  "which values can the command line store under key `k`" (`cliValS`) and "which values does the option type admit"
  (`hasTypeS`) are Boolean tables over six shapes, and the two facts about the generated tables — argparse stores only
  such values (`arg_table`), every such value of a keyword the extension supports has the documented type (`kw_table`) —
  are finite kernel checks.  Between them `Inv` (admissible values, every key once) is carried through the steps of
  `build_config`.  Also here: the dispatch of `writers.save` on a file name (`dispatch_ok`, `dispatch_key`) and what the
  terminal branch of `cli.main` reads (`cli_border_typed`, `cli_output_cases`).  Declares in `Proofs.C14Route`, beside `ArgparseAccepted` (Proofs/C14RouteDefs.lean) and
  the route layer.
-/
import Proofs.C14RouteDefs
import Props.C12

namespace Proofs.C14Route
open Gen (PyV)
open Model Model.Cli Model.Routes Proofs.C14Ser Proofs.Routes

/-- Tie to the source: every keyword `_EXT_TO_KW_MAPPING` lists for a serialiser is an option of the documented table -/
theorem ext_mapping_documented :
    ∀ row ∈ Gen.EXT_TO_KW_MAPPING, row.1 ∈ kinds ∧ ∀ k ∈ row.2, (optTypes row.1).any (fun p => p.1 == k) = true := by
  decide +kernel

set_option linter.unusedVariables false in
/-- every dest of the argparse table has a type row, and the flags are the store_true / store_false actions -/
theorem cli_types_cover :
    (Gen.CLI_ARGS.map (·.1) = Gen.CLI_ARG_TYPES.map (·.1))
    ∧ ∀ i (h1 : i < Gen.CLI_ARGS.length) (h2 : i < Gen.CLI_ARG_TYPES.length),
        ((Gen.CLI_ARG_TYPES[i]).2.2.2 == "0") = ((Gen.CLI_ARGS[i]).2.2.1 == "_StoreTrueAction" || (Gen.CLI_ARGS[i]).2.2.1 == "_StoreFalseAction") := by
  decide +kernel

/-- the shape of a Python value, as far as an option type or an argparse conversion can tell -/
inductive Sh where
  | none | bool | int | str | num | bad
  deriving DecidableEq, Repr

def allSh : List Sh := [.none, .bool, .int, .str, .num, .bad]

theorem mem_allSh (s : Sh) : s ∈ allSh := by cases s <;> decide

/-- a float is a number when its denominator is not 0: the test `hasType` and `cliGivenOK` make of it -/
def shape : PyV → Sh
  | .none => .none
  | .bool _ => .bool
  | .int _ => .int
  | .str _ => .str
  | .float _ d => if d != 0 then .num else .bad
  | .other _ => .bad

/-- lower bound of `hasType` by shape -/
def hasTypeS : Ty → Sh → Bool
  | .scale, s => s == .int || s == .num
  | .border, s => s == .none || s == .int
  | .colour, s => s == .none || s == .str
  | .typeColour, s => s == .none || s == .str
  | .flag, s => s == .bool
  | .text, s => s == .str
  | .optText, s => s == .none || s == .str
  | .level, _ => false
  | .dpi, s => s == .none || s == .int
  | .svgversion, s => s == .none || s == .int || s == .num
  | .txtText, s => s == .none || s == .str

/-- on a constructor both sides are closed Booleans; a float has the shape `num` exactly when its denominator is not 0, which is
    what `scale` and `svgversion` ask of it -/
theorem hasType_of_shape (ty : Ty) (v : PyV) (h : hasTypeS ty (shape v) = true) : hasType ty v = true := by
  cases v with
  | float n d =>
    cases hd : d != 0 <;> simp only [shape, hd, if_true, if_false, Bool.false_eq_true] at h <;> cases ty <;>
      first | exact hd | cases h
  | _ => cases ty <;> first | rfl | cases h

/-- `cliGivenOK` (what an argparse action stores for a value given on the command line) by shape -/
def givenS (conv nargs : String) (s : Sh) : Bool :=
  if nargs == "0" then s == .bool
  else if nargs == "+" then true
  else if conv == "int" then s == .int
  else if conv == "float" then s == .num
  else if conv == "_convert_scale" then s == .int || s == .num
  else s == .str

theorem givenS_shape (conv nargs : String) (v : PyV) : givenS conv nargs (shape v) = cliGivenOK conv nargs v := by
  cases v with
  | float n d => cases hd : d != 0 <;> simp only [shape, givenS, cliGivenOK, hd] <;> rfl
  | _ => rfl

def optTextKeys : List String := ["title", "desc", "svgid", "svgclass", "lineclass", "unit", "output"]
def flagKeys : List String := ["xmldecl", "svgns", "nl", "omitsize", "draw_transparent"]

/-- the shapes of the values the command line can hand over for key `k` (no other key reaches `build_config`) -/
def cliValS (k : String) (s : Sh) : Bool :=
  if colourKeys.contains k || optTextKeys.contains k then s == .none || s == .str
  else if k == "scale" then s == .int || s == .num
  else if k == "border" || k == "dpi" then s == .none || s == .int
  else if k == "svgversion" then s == .none || s == .num
  else if flagKeys.contains k then s == .bool
  else if k == "svgencoding" || k == "encoding" then s == .str
  else ["symbol_count", "no_classes", "compact"].contains k

def CliVal (k : String) (v : PyV) : Bool := cliValS k (shape v)

/-- creation keys whose value is not constrained -/
def uncheckedKey (k : String) : Bool := creationKeys.contains k && k != "output"

/-- every row of the argparse table: a creation key, or its default and every value its action can store are admissible -/
theorem arg_table :
    (Gen.CLI_ARGS.zip Gen.CLI_ARG_TYPES).all (fun pr =>
      uncheckedKey pr.1.1 || (cliValS pr.1.1 (shape pr.1.2.2.2) && allSh.all (fun s => !givenS pr.2.2.1 pr.2.2.2.2 s || cliValS pr.1.1 s))) = true := by
  decide +kernel

/-- an admissible value of a supported keyword has the documented type of the serialiser's option — except `unit = None`, which
    `build_config` never hands over (finding D11, `Props.C12.unit_none_never_passed`) -/
theorem kw_table :
    validKeys.all (fun key => (supportedKeywords Gen.EXT_TO_KW_MAPPING key).all (fun k => allSh.all (fun s =>
      !cliValS k s || (k == "unit" && s == .none) || (optTypes key).any (fun p => p.1 == k && hasTypeS p.2 s)))) = true := by
  decide +kernel

theorem kw_table' (key : String) (hk : key ∈ validKeys) (k : String) (hkw : k ∈ supportedKeywords Gen.EXT_TO_KW_MAPPING key) (s : Sh) :
    (!cliValS k s || (k == "unit" && s == .none) || (optTypes key).any (fun p => p.1 == k && hasTypeS p.2 s)) = true := by
  have h1 := List.all_eq_true.1 kw_table key hk
  have h2 := List.all_eq_true.1 h1 k hkw
  exact List.all_eq_true.1 h2 s (mem_allSh s)

theorem kinds_eq : kinds = validKeys ++ ["compact"] := by decide +kernel

theorem validKeys_kinds (k : String) (hk : k ∈ validKeys) : k ∈ kinds := kinds_eq ▸ List.mem_append_left _ hk


def AllOK (c : Config) : Prop := ∀ e ∈ c, CliVal e.1 e.2 = true
def KeysNodup (c : Config) : Prop := (c.map (·.1)).Nodup
/-- what every step of `build_config` keeps: admissible values, and each key once (a configuration is a dict) -/
def Inv (c : Config) : Prop := AllOK c ∧ KeysNodup c

theorem inv_sublist {c c' : Config} (hs : c'.Sublist c) (h : Inv c) : Inv c' :=
  ⟨fun e he => h.1 e (hs.subset he), List.Nodup.sublist (hs.map _) h.2⟩

theorem inv_cpop {c : Config} (k : String) (h : Inv c) : Inv (cpop c k) := inv_sublist List.filter_sublist h

theorem mem_cset {c : Config} {k : String} {v : PyV} {e : String × PyV} (he : e ∈ cset c k v) : e = (k, v) ∨ e ∈ c := by
  unfold cset at he
  split at he
  · obtain ⟨x, hx, rfl⟩ := List.mem_map.1 he
    split
    · exact .inl rfl
    · exact .inr hx
  · exact (List.mem_append.1 he).symm.imp_left List.mem_singleton.1

theorem keys_cset (c : Config) (k : String) (v : PyV) :
    (cset c k v).map (·.1) = c.map (·.1) ∨ (k ∉ c.map (·.1) ∧ (cset c k v).map (·.1) = c.map (·.1) ++ [k]) := by
  unfold cset
  split
  · left
    rw [List.map_map]
    refine List.map_congr_left fun kv _ => ?_
    simp only [Function.comp]
    split
    · rename_i hk; exact (beq_iff_eq.1 hk).symm
    · rfl
  · rename_i hany
    refine .inr ⟨fun hk => hany ?_, by rw [List.map_append]; rfl⟩
    obtain ⟨x, hx, hxk⟩ := List.mem_map.1 hk
    exact List.any_eq_true.2 ⟨x, hx, beq_iff_eq.2 hxk⟩

theorem inv_cset {c : Config} {k : String} {v : PyV} (h : Inv c) (hv : CliVal k v = true) : Inv (cset c k v) := by
  refine ⟨fun e he => ?_, ?_⟩
  · rcases mem_cset he with rfl | he
    · exact hv
    · exact h.1 e he
  · unfold KeysNodup
    rcases keys_cset c k v with hk | ⟨hnew, hk⟩
    · rw [hk]; exact h.2
    · rw [hk]
      exact List.nodup_append.2 ⟨h.2, by simp, fun a ha b hb => by
        rw [List.mem_singleton.1 hb]; rintro rfl; exact hnew ha⟩

theorem foldl_inv {α : Type} (f : Config → α → Config) (l : List α) (P : α → Prop) (hl : ∀ x ∈ l, P x)
    (hf : ∀ c x, P x → Inv c → Inv (f c x)) (c : Config) (h : Inv c) : Inv (l.foldl f c) := by
  induction l generalizing c with
  | nil => exact h
  | cons x l ih =>
    rw [List.foldl_cons]
    exact ih (fun y hy => hl y (List.mem_cons_of_mem _ hy)) _ (hf c x (hl x List.mem_cons_self) h)


theorem cliVal_getD {c : Config} (h : Inv c) (k : String) (d : PyV) (hd : CliVal k d = true) :
    CliVal k ((cget c k).getD d) = true := by
  cases hc : cget c k with
  | none => simpa using hd
  | some v => exact h.1 _ (cget_mem hc)

theorem colour_none : ∀ clr ∈ colourKeys, CliVal clr .none = true := by
  intro clr h
  simp only [CliVal, cliValS, shape, List.contains_iff_mem.2 h, Bool.true_or, if_true]
  rfl

theorem enc_of_svgenc (v : PyV) (h : CliVal "svgencoding" v = true) : CliVal "encoding" v = true := by
  unfold CliVal at *
  generalize shape v = s at *
  revert h; cases s <;> decide

theorem inv_prepare (c : Config) (h : Inv c) : Inv (prepareConfig c) := by
  unfold prepareConfig
  -- each step pops a key or sets one: to None, to the value the key had, or — the one value that moves to another key —
  -- that of `svgencoding` to `encoding`, which admits the same values (`enc_of_svgenc`)
  have h1 := foldl_inv (fun c clr =>
      let val := (cget c clr).getD .none
      let c' := cpop c clr
      if val == .str "transparent" || val == .str "trans" then cset c' clr .none
      else if truthy val then cset c' clr val
      else c') colourKeys (fun clr => CliVal clr .none = true) colour_none
    (by
      intro c clr hclr hc
      dsimp only
      have hval := cliVal_getD hc clr .none hclr
      split
      · exact inv_cset (inv_cpop _ hc) hclr
      · split
        · exact inv_cset (inv_cpop _ hc) hval
        · exact inv_cpop _ hc) c h
  have h2 := foldl_inv (fun c name => if (cget c name).getD .none == .none then cpop c name else c)
    ["svgid", "svgclass", "lineclass"] (fun _ => True) (fun _ _ => trivial)
    (by
      intro c name _ hc
      split
      · exact inv_cpop _ hc
      · exact hc) _ h1
  dsimp only
  generalize List.foldl (fun c name => if ((cget c name).getD PyV.none == PyV.none) = true then cpop c name else c) _ _ = c2 at h2 ⊢
  have h3 : Inv (cpop c2 "no_classes") := inv_cpop _ h2
  have h4 : Inv (if truthy ((cget c2 "no_classes").getD (.bool false)) = true
      then cset (cset (cpop c2 "no_classes") "svgclass" .none) "lineclass" .none else cpop c2 "no_classes") := by
    split
    · exact inv_cset (inv_cset h3 (by decide)) (by decide)
    · exact h3
  generalize (if truthy ((cget c2 "no_classes").getD (.bool false)) = true
      then cset (cset (cpop c2 "no_classes") "svgclass" .none) "lineclass" .none else cpop c2 "no_classes") = c4 at h4 ⊢
  refine inv_cset (inv_cpop _ h4) ?_
  exact enc_of_svgenc _ (cliVal_getD h4 _ _ (by decide))


theorem parsed_entry (parsed : Config) (hp : ArgparseAccepted parsed) (e : String × PyV) (he : e ∈ parsed) :
    uncheckedKey e.1 = true ∨ CliVal e.1 e.2 = true := by
  obtain ⟨pr, hpr, hk, hv⟩ := hp.1 e he
  have ht := List.all_eq_true.1 arg_table pr hpr
  rw [hk] at ht
  rcases Bool.or_eq_true_iff.1 ht with ht | ht
  · exact Or.inl ht
  · rw [Bool.and_eq_true] at ht
    rcases hv with hv | hv | hv
    · right; unfold CliVal; rw [hv]; exact ht.1
    · right
      have := List.all_eq_true.1 ht.2 (shape e.2) (mem_allSh _)
      rw [givenS_shape, hv] at this
      unfold CliVal
      simpa using this
    · left; rw [hv.1]; decide

theorem inv_main (parsed : Config) (hp : ArgparseAccepted parsed) : Inv (mainConfig parsed) := by
  refine ⟨?_, ?_⟩
  · intro e he
    unfold mainConfig at he
    rw [List.mem_filter] at he
    rcases parsed_entry parsed hp e he.1 with h | h
    · unfold uncheckedKey at h
      rw [Bool.and_eq_true] at h
      have := he.2
      rw [h.1] at this
      cases this
    · exact h
  · exact List.Nodup.sublist (List.Sublist.map _ List.filter_sublist) hp.2.2

theorem dispatch_ok {valid : List String} {f : Str} {s : Bool} {k : Option Str} {kg : String × Bool}
    (h : dispatch valid f s k = .ok kg) : dispatchKey f s k = kg ∧ valid.contains kg.1 = true := by
  unfold dispatch at h
  dsimp only at h
  split at h
  · rename_i hv; cases h; exact ⟨rfl, hv⟩
  · cases h

theorem dispatch_error {valid : List String} {f : Str} {s : Bool} {k : Option Str} {e : PyErr}
    (h : dispatch valid f s k = .error e) : e = .valueError := by
  unfold dispatch at h
  dsimp only at h
  split at h
  · cases h
  · cases h; rfl

/-- the serialiser `writers.save` selects for a file name is the extension `build_config` filters the keywords by
    (`svgz` counts as `svg` in both) -/
theorem dispatchKey_configExt (output : Str) : (dispatchKey output false none).1 = configExt output := by
  unfold dispatchKey configExt
  dsimp only
  have : (String.ofList (lower (afterLastDot output)) == "svgz") = (lower (afterLastDot output) == "svgz".toList) := by
    rw [Bool.eq_iff_iff, beq_iff_eq, beq_iff_eq, ← String.toList_inj, String.toList_ofList]
  rw [this]
  cases lower (afterLastDot output) == "svgz".toList <;> rfl

theorem dispatch_key (output : Str) (key : String) (gz : Bool)
    (hd : dispatch validKeys output false none = .ok (key, gz)) : key = configExt output ∧ key ∈ validKeys := by
  obtain ⟨hk, hv⟩ := dispatch_ok hd
  exact ⟨by rw [← dispatchKey_configExt, hk], by simpa using hv⟩

theorem filterConfig_sublist (m : List (String × List String)) (c : Config) (fname : Str) : (filterConfig m c fname).Sublist c := by
  unfold filterConfig
  dsimp only
  split
  · exact List.filter_sublist.trans List.filter_sublist
  · exact List.filter_sublist

theorem cliKwargs_entry (parsed : Config) (hp : ArgparseAccepted parsed) (output : Str) (e : String × PyV)
    (he : e ∈ cliKwargs Gen.EXT_TO_KW_MAPPING parsed output) :
    CliVal e.1 e.2 = true ∧ (supportedKeywords Gen.EXT_TO_KW_MAPPING (configExt output)).contains e.1 = true
      ∧ (e.1 = "unit" → e.2 ≠ .none) := by
  have hi := inv_prepare _ (inv_main parsed hp)
  have hsub := filterConfig_sublist Gen.EXT_TO_KW_MAPPING (prepareConfig (mainConfig parsed)) output
  have he' : e ∈ filterConfig Gen.EXT_TO_KW_MAPPING (prepareConfig (mainConfig parsed)) output := he
  refine ⟨hi.1 e (hsub.subset he'), Props.C12.kwargs_supported Gen.EXT_TO_KW_MAPPING (mainConfig parsed) output e he, fun hu hv => ?_⟩
  -- keys occur once, so an entry `unit = None` would be the one `cget` finds
  have := cget_of_mem (inv_sublist hsub hi).2 he'
  rw [hu, hv] at this
  exact Props.C12.unit_none_never_passed Gen.EXT_TO_KW_MAPPING (mainConfig parsed) output this

/-- **the keyword map of the command line tool is a documented request**: for a namespace argparse can produce and an output file
    name whose extension selects the serialiser `key` (`gz`: svgz), every keyword `build_config` keeps is an option of that
    serialiser with a value of the documented type; there is never a `compresslevel` -/
theorem cliKwargs_documented (parsed : Config) (hp : ArgparseAccepted parsed) (output : Str) (key : String) (gz : Bool)
    (hd : dispatch validKeys output false none = .ok (key, gz)) :
    DocumentedSer key (cliKwargs Gen.EXT_TO_KW_MAPPING parsed output)
    ∧ cget (cliKwargs Gen.EXT_TO_KW_MAPPING parsed output) "compresslevel" = none := by
  obtain ⟨hk, hv⟩ := dispatch_key output key gz hd
  refine ⟨⟨validKeys_kinds key hv, ?_⟩, ?_⟩
  · intro e he
    obtain ⟨h1, h2, h3⟩ := cliKwargs_entry parsed hp output e he
    rw [← hk] at h2
    -- `kw_table` at the shape of the value: the documented type, or the excepted `unit = None`, which `h3` rules out
    have ht := kw_table' key hv e.1 (List.contains_iff_mem.1 h2) (shape e.2)
    unfold CliVal at h1
    rw [h1] at ht
    simp only [Bool.not_true, Bool.false_or, Bool.or_eq_true, Bool.and_eq_true, beq_iff_eq] at ht
    rcases ht with ht | ht
    · exfalso
      apply h3 ht.1
      revert ht
      cases e.2 <;> simp [shape]
      split <;> simp
    · rw [List.any_eq_true] at ht ⊢
      obtain ⟨p, hp1, hp2⟩ := ht
      refine ⟨p, hp1, ?_⟩
      rw [Bool.and_eq_true] at hp2 ⊢
      exact ⟨hp2.1, hasType_of_shape _ _ hp2.2⟩
  · cases hc : cget (cliKwargs Gen.EXT_TO_KW_MAPPING parsed output) "compresslevel" with
    | none => rfl
    | some v =>
      exfalso
      have : CliVal "compresslevel" v = true := (cliKwargs_entry parsed hp output _ (cget_mem hc)).1
      unfold CliVal at this
      revert this
      generalize shape v = s
      cases s <;> decide


theorem parsed_cget (parsed : Config) (hp : ArgparseAccepted parsed) (k : String) (v : PyV) (hk : uncheckedKey k = false)
    (h : cget parsed k = some v) : cliValS k (shape v) = true := by
  rcases parsed_entry parsed hp (k, v) (cget_mem h) with h' | h'
  · rw [hk] at h'; cases h'
  · exact h'

theorem cli_border_typed (parsed : Config) (hp : ArgparseAccepted parsed) (border : PyV) (hb : cget parsed "border" = some border) :
    hasType .border border = true := by
  apply hasType_of_shape
  have := parsed_cget parsed hp "border" border (by decide) hb
  revert this
  generalize shape border = s
  cases s <;> decide

theorem cli_output_cases (parsed : Config) (hp : ArgparseAccepted parsed) :
    (cget parsed "output" = some .none ∨ ∃ s, cget parsed "output" = some (.str s)) ∧ ∃ b, cget parsed "border" = some b := by
  constructor
  · have ho := hp.2.1 ("output", "-", "", "-") (by decide)
    cases hc : cget parsed "output" with
    | none => rw [hc] at ho; cases ho
    | some v =>
      have := parsed_cget parsed hp "output" v (by decide) hc
      cases v <;> simp [shape] at this ⊢
      · revert this; decide
      · revert this; decide
      · revert this; split <;> decide
      · revert this; decide
  · have hb := hp.2.1 ("border", "int", "", "-") (by decide)
    cases hc : cget parsed "border" with
    | none => rw [hc] at hb; cases hb
    | some v => exact ⟨v, rfl⟩

end Proofs.C14Route
