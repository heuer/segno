/-
  `find_and_apply_best_mask`: the function matrix (translated `add_finder_patterns`, `add_alignment_patterns`, the dark module),
  the proposed-mask path, and the search loop over `enumerate(mask_patterns)` with the state (best_matrix, best_pattern,
  best_score) against the candidate loop of `Model.findAndApplyBestMask` with its `Option (score, index, matrix)` (`bestSt`; the
  step is `Proofs.Mask.autoStep`).  The model is `Proofs.Mask.chosen` once the function matrix is there (`Proofs.Mask.fabm_eq`);
  `best_py` brings the translation to it.
-/
import Proofs.TieA3Mask
import Proofs.TieA3Fns
import Proofs.TieA2Finder
import Proofs.TieA2Align
import Proofs.TieA2Scores
import Proofs.TieA2Micro

namespace Proofs.TieA3
open Gen.Py Proofs.TieA Proofs.TieA2 Model

theorem sq_makeMatrix (n : Nat) : Sq (Model.makeMatrix n) n := sq_iff.2 (Proofs.Cells.sq_makeMatrix n)

/-- the loop state (best_matrix, best_pattern, best_score) of the translation for a best candidate of the model;
    `none` = nothing assigned yet: `best_matrix = None`, `best_pattern` unbound, `best_score` the initial score -/
def bestSt (init : Int) : Option (Nat × Nat × Matrix) → (Option (List (List Int)) × Option Int × Int)
  | none => (none, none, init)
  | some (s, k, c) => (some (mI c), some (k : Int), (s : Int))

theorem search_loop (init : Int) (upd : Option (Nat × Nat × Matrix) → Nat × Nat → Option (Nat × Nat × Matrix))
    (body : (Option (List (List Int)) × Option Int × Int) → (Int × (Int → Int → Bool)) → M (Option (List (List Int)) × Option Int × Int))
    (hbody : ∀ best (f : Int → Int → Bool) (pat k : Nat), IsMask f pat →
      body (bestSt init best) ((k : Int), f) = .ok (bestSt init (upd best (pat, k)))) :
    ∀ (fs : List (Int → Int → Bool)) (pats : List Nat), Rel2 IsMask fs pats → ∀ (k0 : Nat) best,
      foldlM ((fs.zipIdx k0).map (fun p => (Int.ofNat p.2, p.1))) (bestSt init best) body
        = .ok (bestSt init ((pats.zipIdx k0).foldl upd best)) := by
  intro fs pats h
  induction h with
  | nil => intro k0 best; rfl
  | cons hab _ ih =>
    intro k0 best
    rw [List.zipIdx_cons, List.zipIdx_cons, List.map_cons, foldlM_cons, List.foldl_cons]
    have := hbody best _ _ k0 hab
    simp only [Int.ofNat_eq_natCast] at this ⊢
    rw [this]
    exact ih (k0 + 1) _

theorem rel2_length {α β : Type} {R : α → β → Prop} {l1 : List α} {l2 : List β} (h : Rel2 R l1 l2) : l1.length = l2.length := by
  induction h with
  | nil => rfl
  | cons _ _ ih => simp [ih]

theorem rel2_get {α β : Type} {R : α → β → Prop} {l1 : List α} {l2 : List β} (h : Rel2 R l1 l2) :
    ∀ (p : Nat) (h1 : p < l1.length) (h2 : p < l2.length), R l1[p] l2[p] := by
  induction h with
  | nil => intro p h1; simp at h1
  | cons hab _ ih =>
    intro p h1 h2
    cases p with
    | zero => exact hab
    | succ p => exact ih p (by simpa using h1) (by simpa using h2)

theorem index_patterns (mic : Bool) (p : Nat) :
    match (maskPatterns mic)[p]? with
    | none => index (Gen.Funcs3.get_data_mask_functions mic) (p : Int) = .error .indexError
    | some pat => ∃ f, index (Gen.Funcs3.get_data_mask_functions mic) (p : Int) = .ok f ∧ IsMask f pat := by
  have hr := mask_functions mic
  have hl := rel2_length hr
  rw [index_nat]
  by_cases h : p < (maskPatterns mic).length
  · have h' : p < (Gen.Funcs3.get_data_mask_functions mic).length := by omega
    simp only [List.getElem?_eq_getElem h, List.getElem?_eq_getElem h']
    exact ⟨_, rfl, rel2_get hr p h' h⟩
  · have h' : ¬ p < (Gen.Funcs3.get_data_mask_functions mic).length := by omega
    simp [h, h']

theorem search_loop_then {β : Type} (init : Int) (upd : Option (Nat × Nat × Matrix) → Nat × Nat → Option (Nat × Nat × Matrix))
    (body : (Option (List (List Int)) × Option Int × Int) → (Int × (Int → Int → Bool)) → M (Option (List (List Int)) × Option Int × Int))
    (hbody : ∀ best (f : Int → Int → Bool) (pat k : Nat), IsMask f pat →
      body (bestSt init best) ((k : Int), f) = .ok (bestSt init (upd best (pat, k))))
    (fs : List (Int → Int → Bool)) (pats : List Nat) (hr : Rel2 IsMask fs pats)
    (K : (Option (List (List Int)) × Option Int × Int) → M β) :
    Gen.Py.bind (foldlM (enumerate fs) (none, none, init) body) K = K (bestSt init ((pats.zipIdx).foldl upd none)) := by
  have := search_loop init upd body hbody fs pats hr 0 none
  unfold enumerate
  rw [show ((none, none, init) : Option (List (List Int)) × Option Int × Int) = bestSt init none from rfl, this, bind_ok]

theorem ite_bind_same {α β : Type} (c : Bool) (X : M α) (y z : α) (K : α → M β) (h1 : c = true → X = .ok z) (h2 : c = false → y = z) :
    (if c then Gen.Py.bind X K else K y) = K z := by
  cases c
  · simp [h2 rfl]
  · simp [h1 rfl]

/-- the translation from the function matrix on: `F2` is the result of the translated `add_alignment_patterns` (before the dark
    module is set) -/
theorem best_py (m : Matrix) (n : Nat) (hs : Sq m n) (hn : 9 ≤ n)
    (hmax : ¬ n < 21 → ∀ fm p, (evaluateMask (applyMask m fm p) : Int) < 9223372036854775807)
    (proposed : Option Nat) (F2 : Matrix) (hF2 : Sq F2 n)
    (hX : Gen.Funcs2.add_alignment_patterns (mI (addFinderPatterns (makeMatrix n) n)) n n = .ok (mI F2)) :
    toR (Gen.Funcs3.find_and_apply_best_mask (mI m) n n (proposed.map Int.ofNat) (mI (Model.makeMatrix n)))
      = (Proofs.Mask.chosen m (if n < 21 then F2 else set2 F2 (n - 8) 8 1) proposed).map
          (fun r => (if proposed.isSome then mI r.2 else mI m, ((r.1 : Int), some (mI r.2)))) := by
  unfold Gen.Funcs3.find_and_apply_best_mask
  simp only []
  rw [add_finder_patterns_eq _ n (sq_makeMatrix n) (by omega), bind_ok, hX, bind_ok]
  have hmic : decide ((n : Int) < 21) = decide (n < 21) := by
    rw [Bool.eq_iff_iff]; simp
  simp only [beq_self_eq_true, Bool.true_and, hmic]
  generalize hFM : (if n < 21 then F2 else set2 F2 (n - 8) 8 1) = FM
  have hsFM : Sq FM n := by
    rw [← hFM]; split
    · exact hF2
    · exact sq_set2 hF2 _ _ _
  rw [ite_bind_same (!decide (n < 21)) _ _ (mI FM) _ ?h1 ?h2]
  case h1 =>
    intro hc
    have h21 : ¬ n < 21 := by simpa using hc
    rw [← hFM, if_neg h21]
    exact setItem2_cell hF2 (-8) 8 (n - 8) 8 1 (normIndex_neg n 8 (by omega) (by omega)) (normIndex_nat n 8 (by omega))
  case h2 =>
    intro hc
    have h21 : n < 21 := by simpa using hc
    rw [← hFM, if_pos h21]
  unfold Proofs.Mask.chosen
  simp only [hs.size]
  cases proposed with
  | some p =>
    simp only [Option.map_some]
    have hi := index_patterns (decide (n < 21)) p
    cases hp : (maskPatterns (decide (n < 21)))[p]? with
    | none =>
      rw [hp] at hi
      simp only [Int.ofNat_eq_natCast]
      rw [hi]; rfl
    | some pat =>
      rw [hp] at hi
      obtain ⟨f, hf1, hf2⟩ := hi
      simp only [Int.ofNat_eq_natCast]
      rw [hf1, bind_ok, apply_mask_fn m FM n pat hs hsFM f hf2, bind_ok]
      rfl
  | none =>
    simp only [Option.map_none]
    -- the copy `[ba[:] for ba in matrix]`
    have e1 : List.map (fun ba => slice ba none none) (mI m) = mI m := by simp
    by_cases h21 : n < 21
    · simp only [h21, decide_true, ↓reduceIte]
      rw [search_loop_then (-1) (Proofs.Mask.autoStep m FM) _ ?hbody _ _ (mask_functions true)]
      case hbody =>
        intro best f pat k hf
        have hc := sq_applyMask FM pat hs
        simp only []
        rw [e1, apply_mask_fn m FM n pat hs hsFM f hf, bind_ok, evaluate_micro_mask_eq _ n hc (by omega), bind_ok]
        rcases best with _ | ⟨bs, bk, bm⟩
        · simp [bestSt, Proofs.Mask.autoStep, Proofs.Mask.stepBest, hs.size, h21]
          omega
        · by_cases hgt : evaluateMicroMask (applyMask m FM pat) > bs <;> simp [bestSt, Proofs.Mask.autoStep, Proofs.Mask.stepBest, hs.size, h21, hgt]
      generalize List.foldl (Proofs.Mask.autoStep m FM) none (maskPatterns true).zipIdx = R
      rcases R with _ | ⟨s, k, bm⟩ <;> rfl
    · simp only [h21, decide_false, ↓reduceIte, Bool.false_eq_true]
      rw [search_loop_then 9223372036854775807 (Proofs.Mask.autoStep m FM) _ ?hbody _ _ (mask_functions false)]
      case hbody =>
        intro best f pat k hf
        have hc := sq_applyMask FM pat hs
        simp only []
        rw [e1, apply_mask_fn m FM n pat hs hsFM f hf, bind_ok,
          evaluate_mask_eq _ n hc (by omega), bind_ok]
        rcases best with _ | ⟨bs, bk, bm⟩
        · have hpos := hmax h21 FM pat
          simp [bestSt, Proofs.Mask.autoStep, Proofs.Mask.stepBest, hs.size, h21]
          omega
        · by_cases hgt : evaluateMask (applyMask m FM pat) < bs <;> simp [bestSt, Proofs.Mask.autoStep, Proofs.Mask.stepBest, hs.size, h21, hgt]
      generalize List.foldl (Proofs.Mask.autoStep m FM) none (maskPatterns false).zipIdx = R
      rcases R with _ | ⟨s, k, bm⟩ <;> rfl

theorem best_mask_eq (m : Matrix) (n : Nat) (hs : Sq m n) (hn : 9 ≤ n) (hal : n < 25 ∨ (n % 4 = 1 ∧ n ≤ 177))
    (hmax : ¬ n < 21 → ∀ fm p, (evaluateMask (applyMask m fm p) : Int) < 9223372036854775807)
    (proposed : Option Nat) :
    toR (Gen.Funcs3.find_and_apply_best_mask (mI m) n n (proposed.map Int.ofNat) (mI (Model.makeMatrix n)))
      = (Model.findAndApplyBestMask m proposed).map
          (fun r => (if proposed.isSome then mI r.2 else mI m, ((r.1 : Int), some (mI r.2)))) := by
  -- the function matrix: under `hal` the model does not fail at the alignment patterns
  have yF := add_finder_patterns_yields _ n (sq_makeMatrix n) (by omega)
  obtain ⟨F2, hA, yA⟩ := add_alignment_patterns_yields _ n yF.inv hal
  rw [Proofs.Mask.fabm_eq, hs.size, Proofs.Mask.functionMatrix_of_ok n F2 hA]
  exact best_py m n hs hn hmax proposed F2 yA.inv yA.eq

set_option linter.unusedVariables false in
/-- Micro QR Codes: no hypothesis on the scores (they are compared with −1) -/
theorem best_mask_micro (m : Matrix) (n : Nat) (hs : Sq m n) (hn : 9 ≤ n) (h21 : n < 21)
    (hbits : ∀ i j, get2 m i j ≤ 1) (proposed : Option Nat) :
    toR (Gen.Funcs3.find_and_apply_best_mask (mI m) n n (proposed.map Int.ofNat) (mI (Model.makeMatrix n)))
      = (Model.findAndApplyBestMask m proposed).map
          (fun r => (if proposed.isSome then mI r.2 else mI m, ((r.1 : Int), some (mI r.2)))) :=
  best_mask_eq m n hs hn (Or.inl (by omega)) (fun h => absurd h21 h) proposed

end Proofs.TieA3
