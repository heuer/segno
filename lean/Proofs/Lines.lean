/-
  The model of `matrix_to_lines` (Model/Lines.lean), for C10.  The inner loop `rowGo` carries a pending run
  in its state; `runsFrom` is the list of runs it yields with the one after the loop folded in, and what is known about the
  runs of a row (coverage, separation, bounds) is said about that list.  `rowsGo`, `attach`: the lines of a matrix as one
  group of runs per row.  At the end what EPS and PDF need besides: runs from column `b` are those from column 0 shifted,
  relative moves give back the absolute lines when the parities agree (`epsAbs_epsRel`), prefix sums as byte offsets.
-/
import Model.Lines
import Spec.Vector

namespace Proofs.Lines
open Model.Lines Spec.Vector

def dark01 (b : Nat) : Nat := if b = 0 then 0 else 1

/-- what the run `[a, b)` adds to the coverage of column `j` -/
def ind (a b j : Nat) : Nat := if a ≤ j ∧ j < b then 1 else 0

theorem ind_self (a j : Nat) : ind a a j = 0 := by unfold ind; split <;> omega

theorem coverAt_nil (j : Nat) : coverAt [] j = 0 := rfl

theorem coverAt_cons (s : Nat × Nat) (l : List (Nat × Nat)) (j : Nat) :
    coverAt (s :: l) j = ind s.1 s.2 j + coverAt l j := by
  unfold coverAt ind
  by_cases h : s.1 ≤ j ∧ j < s.2
  · simp [h]; omega
  · have : (decide (s.1 ≤ j) && decide (j < s.2)) = false := by
      by_cases h1 : s.1 ≤ j <;> by_cases h2 : j < s.2 <;> simp_all
    simp [this, h]

theorem coverAt_append (a b : List (Nat × Nat)) (j : Nat) : coverAt (a ++ b) j = coverAt a j + coverAt b j := by
  unfold coverAt; simp [List.filter_append]

/-- the dark cells of `bits` laid out from column `x` on: 1 iff `j` is the column of a dark bit -/
def darkAt : Nat → List Nat → Nat → Nat
  | _, [], _ => 0
  | x, b :: rest, j => (if j = x ∧ b ≠ 0 then 1 else 0) + darkAt (x + 1) rest j

theorem darkAt_outside (bits : List Nat) : ∀ x j, j < x ∨ x + bits.length ≤ j → darkAt x bits j = 0 := by
  induction bits with
  | nil => intros; rfl
  | cons b rest ih =>
    intro x j h
    simp only [List.length_cons] at h
    have h1 : ¬ (j = x ∧ b ≠ 0) := by omega
    simp [darkAt, h1, ih (x + 1) j (by omega)]

/-- the runs yielded from the state `(x1, x2, lb)` of the inner loop on, the one after the loop (`if last_bit: yield …`)
    included.  The pending run `[x1, x2)` shows when it is yielded and not before, so nothing said about these runs
    mentions the state the loop ends in.  The moves: a light module after a light one moves the empty pending run on, a
    light module after a dark one yields the pending run, a dark module extends it. -/
def runsFrom : Nat → Nat → Nat → List Nat → List (Nat × Nat)
  | _, _, 0, [] => []
  | x1, x2, _ + 1, [] => [(x1, x2)]
  | x1, x2, 0, 0 :: rest => runsFrom (x1 + 1) (x2 + 1) 0 rest
  | x1, x2, _ + 1, 0 :: rest => (x1, x2) :: runsFrom (x2 + 1) (x2 + 1) 0 rest
  | x1, x2, _, (b + 1) :: rest => runsFrom x1 (x2 + 1) (b + 1) rest

theorem rowGo_light0 (x1 x2 : Nat) (rest : List Nat) : rowGo x1 x2 0 (0 :: rest) = rowGo (x1 + 1) (x2 + 1) 0 rest := by
  simp [rowGo]

theorem rowGo_light (x1 x2 lb : Nat) (rest : List Nat) (h : lb ≠ 0) :
    rowGo x1 x2 lb (0 :: rest) = ((x1, x2) :: (rowGo (x2 + 1) (x2 + 1) 0 rest).1, (rowGo (x2 + 1) (x2 + 1) 0 rest).2) := by
  simp [rowGo, h]

theorem rowGo_dark (x1 x2 lb b : Nat) (rest : List Nat) (h : b ≠ 0) : rowGo x1 x2 lb (b :: rest) = rowGo x1 (x2 + 1) b rest := by
  simp [rowGo, h]

theorem rowGo_runsFrom (x1 x2 lb : Nat) (bits : List Nat) :
    (rowGo x1 x2 lb bits).1 ++ (if (rowGo x1 x2 lb bits).2.2.2 = 0 then [] else [((rowGo x1 x2 lb bits).2.1, (rowGo x1 x2 lb bits).2.2.1)])
      = runsFrom x1 x2 lb bits := by
  fun_induction runsFrom x1 x2 lb bits with
  | case1 => rfl
  | case2 => rfl
  | case3 x1 x2 rest ih => rw [rowGo_light0]; exact ih
  | case4 x1 x2 n rest ih => rw [rowGo_light _ _ _ _ (Nat.succ_ne_zero n), ← ih]; rfl
  | case5 x1 x2 lb b rest ih => rw [rowGo_dark _ _ _ _ _ (Nat.succ_ne_zero b)]; exact ih

theorem rowRuns_eq (x lb : Nat) (row : List Nat) : rowRuns x lb row = (runsFrom x x lb row, 0) := by
  rw [← rowGo_runsFrom]
  unfold rowRuns
  by_cases hz : (rowGo x x lb row).2.2.2 = 0 <;> simp [hz]

theorem rowRuns_lb (x lb : Nat) (row : List Nat) : (rowRuns x lb row).2 = 0 := by
  rw [rowRuns_eq]

/-- `[x1, x2)` is the pending (not yet yielded) run, empty whenever the last module was light: the runs cover it and
    the dark bits still to be read -/
theorem runsFrom_cover (x1 x2 lb : Nat) (bits : List Nat) (h1 : x1 ≤ x2) (h2 : lb = 0 → x1 = x2) (j : Nat) :
    coverAt (runsFrom x1 x2 lb bits) j = ind x1 x2 j + darkAt x2 bits j := by
  fun_induction runsFrom x1 x2 lb bits with
  | case1 x1 x2 => rw [h2 rfl, ind_self]; rfl
  | case2 x1 x2 n => rw [coverAt_cons, coverAt_nil]; rfl
  | case3 x1 x2 rest ih =>
    obtain rfl := h2 rfl
    rw [ih (Nat.le_refl _) (fun _ => rfl), ind_self, ind_self, darkAt]; simp
  | case4 x1 x2 n rest ih =>
    rw [coverAt_cons, ih (Nat.le_refl _) (fun _ => rfl), ind_self, darkAt]; simp
  | case5 x1 x2 lb b rest ih =>
    rw [ih (by omega) (fun h => by omega), darkAt]; unfold ind
    repeat' (first | omega | split)

theorem rowRuns_cover (x lb : Nat) (row : List Nat) (j : Nat) : coverAt (rowRuns x lb row).1 j = darkAt x row j := by
  rw [rowRuns_eq, runsFrom_cover x x lb row (Nat.le_refl _) (fun _ => rfl), ind_self, Nat.zero_add]

theorem darkAt_expand (row : List Nat) : ∀ x, (List.range row.length).map (fun k => darkAt x row (x + k)) = row.map dark01 := by
  induction row with
  | nil => intro x; rfl
  | cons b rest ih =>
    intro x
    rw [List.length_cons, List.range_succ_eq_map, List.map_cons, List.map_map, List.map_cons]
    congr 1
    · have := darkAt_outside rest (x + 1) x (.inl (by omega))
      simp [darkAt, this, dark01]
    · rw [← ih (x + 1)]
      apply List.map_congr_left
      intro k _
      simp [darkAt]
      congr 1; omega

/-- every run starts at or after `lo`, is well-formed, and the next one starts after a gap -/
def sep : Nat → List (Nat × Nat) → Prop
  | _, [] => True
  | lo, r :: rest => lo ≤ r.1 ∧ r.1 ≤ r.2 ∧ sep (r.2 + 1) rest

theorem sep_mono (l : List (Nat × Nat)) : ∀ lo lo', lo' ≤ lo → sep lo l → sep lo' l := by
  cases l with
  | nil => intros; trivial
  | cons r rest => intro lo lo' h hs; exact ⟨by have := hs.1; omega, hs.2.1, hs.2.2⟩

theorem runsFrom_sep (x1 x2 lb : Nat) (bits : List Nat) (h1 : x1 ≤ x2) : sep x1 (runsFrom x1 x2 lb bits) := by
  fun_induction runsFrom x1 x2 lb bits with
  | case1 => trivial
  | case2 x1 x2 n => exact ⟨Nat.le_refl _, h1, trivial⟩
  | case3 x1 x2 rest ih => exact sep_mono _ _ _ (by omega) (ih (by omega))
  | case4 x1 x2 n rest ih => exact ⟨Nat.le_refl _, h1, ih (Nat.le_refl _)⟩
  | case5 x1 x2 lb b rest ih => exact ih (by omega)

theorem rowRuns_sep (x lb : Nat) (row : List Nat) : sep x (rowRuns x lb row).1 := by
  rw [rowRuns_eq]; exact runsFrom_sep x x lb row (Nat.le_refl _)

theorem runsFrom_lt (x1 x2 lb : Nat) (bits : List Nat) (h1 : x1 ≤ x2) (h3 : lb ≠ 0 → x1 < x2) :
    ∀ r ∈ runsFrom x1 x2 lb bits, r.1 < r.2 := by
  fun_induction runsFrom x1 x2 lb bits with
  | case1 => simp
  | case2 x1 x2 n => simpa using h3 (by omega)
  | case3 x1 x2 rest ih => exact ih (by omega) (fun h => absurd rfl h)
  | case4 x1 x2 n rest ih =>
    exact fun r hr => (List.mem_cons.1 hr).elim (fun e => e ▸ h3 (by omega)) (ih (Nat.le_refl _) (fun h => absurd rfl h) r)
  | case5 x1 x2 lb b rest ih => exact ih (by omega) (fun _ => by omega)

theorem rowRuns_lt (x : Nat) (row : List Nat) : ∀ r ∈ (rowRuns x 0 row).1, r.1 < r.2 := by
  rw [rowRuns_eq]; exact runsFrom_lt x x 0 row (Nat.le_refl _) (fun h => absurd rfl h)

theorem runsFrom_bound (x1 x2 lb : Nat) (bits : List Nat) : ∀ r ∈ runsFrom x1 x2 lb bits, r.2 ≤ x2 + bits.length := by
  fun_induction runsFrom x1 x2 lb bits with
  | case1 => simp
  | case2 => simp
  | case3 x1 x2 rest ih => exact fun r hr => by have := ih r hr; simp only [List.length_cons]; omega
  | case4 x1 x2 n rest ih =>
    intro r hr
    rcases List.mem_cons.1 hr with rfl | hr
    · simp
    · have := ih r hr; simp only [List.length_cons]; omega
  | case5 x1 x2 lb b rest ih => exact fun r hr => by have := ih r hr; simp only [List.length_cons]; omega

theorem rowRuns_bound (x lb : Nat) (row : List Nat) : ∀ r ∈ (rowRuns x lb row).1, r.2 ≤ x + row.length := by
  rw [rowRuns_eq]; exact runsFrom_bound x x lb row

theorem sep_mem (l : List (Nat × Nat)) : ∀ lo, sep lo l → ∀ r ∈ l, lo ≤ r.1 ∧ r.1 ≤ r.2 := by
  induction l with
  | nil => intro lo _ r hr; simp at hr
  | cons a l ih =>
    intro lo hs r hr
    rcases List.mem_cons.mp hr with rfl | hr
    · exact ⟨hs.1, hs.2.1⟩
    · have := ih (a.2 + 1) hs.2.2 r hr
      have h1 := hs.1; have h2 := hs.2.1
      omega

theorem map_range_zero (n : Nat) (f : Nat → Nat) (h : ∀ k, k < n → f k = 0) : (List.range n).map f = List.replicate n 0 := by
  rw [List.eq_replicate_iff]
  refine ⟨by simp, ?_⟩
  intro v hv
  simp only [List.mem_map, List.mem_range] at hv
  obtain ⟨k, hk, rfl⟩ := hv
  exact h k hk

theorem rowCover_runs (b lb : Nat) (row : List Nat) :
    rowCover (b + row.length + b) (rowRuns b lb row).1 = List.replicate b 0 ++ row.map dark01 ++ List.replicate b 0 := by
  unfold rowCover
  rw [List.range_add, List.range_add, List.map_append, List.map_append, List.map_map, List.map_map]
  congr 1
  · congr 1
    · apply map_range_zero
      intro k hk
      rw [rowRuns_cover]; exact darkAt_outside _ _ _ (.inl hk)
    · rw [← darkAt_expand row b]
      apply List.map_congr_left
      intro k _
      simp only [Function.comp]
      exact rowRuns_cover b lb row (b + k)
  · apply map_range_zero
    intro k _
    simp only [Function.comp]
    rw [rowRuns_cover]; exact darkAt_outside _ _ _ (.inr (by omega))

theorem map_dark01 (row : List Nat) : row.map dark01 = row.map (fun x => if x == 0 then 0 else 1) := by
  apply List.map_congr_left
  intro x _
  unfold dark01
  by_cases h : x = 0 <;> simp [h]

theorem pageRow_inside (m : List (List Nat)) (size b i : Nat) (hi : i < m.length) (hlen : (m[i]).length = size) (his : i < size) :
    pageRow m size b (b + i) = List.replicate b 0 ++ (m[i]).map dark01 ++ List.replicate b 0 := by
  unfold pageRow
  have hc : (decide (b + i < b) || decide (b + i ≥ b + size)) = false := by
    simp only [Bool.or_eq_false_iff, decide_eq_false_iff_not]; omega
  have h2 : b + i - b = i := by omega
  have h3 : m.getD i [] = m[i] := by simp [List.getD, List.getElem?_eq_getElem hi]
  rw [map_dark01]
  simp only [hc, Bool.false_eq_true, if_false, h2, h3, List.length_map, hlen, Nat.sub_self, List.replicate_zero, List.append_nil]
  rw [List.take_of_length_le (by simp [hlen])]

/-- the runs of every row, with the `last_bit` carry-over exactly as `linesGo` threads it -/
def rowsGo (x : Nat) : Nat → List (List Nat) → List (List (Nat × Nat))
  | _, [] => []
  | lb, row :: rest => (rowRuns x lb row).1 :: rowsGo x (rowRuns x lb row).2 rest

/-- row groups → lines: group i gets y2 + (i+1)·inc2 -/
def attach (inc2 : Int) : Int → List (List (Nat × Nat)) → List (Nat × Int × Nat)
  | _, [] => []
  | y2, rs :: rest => rs.map (fun ab => (ab.1, y2 + inc2, ab.2)) ++ attach inc2 (y2 + inc2) rest

theorem linesGo_rows (x : Nat) (inc2 : Int) (m : List (List Nat)) : ∀ y2 lb,
    linesGo x inc2 y2 lb m = attach inc2 y2 (rowsGo x lb m) := by
  induction m with
  | nil => intros; rfl
  | cons row rest ih => intro y2 lb; simp [linesGo, rowsGo, attach, ih]

theorem rowsGo_length (x : Nat) (m : List (List Nat)) : ∀ lb, (rowsGo x lb m).length = m.length := by
  induction m with
  | nil => intros; rfl
  | cons row rest ih => intro lb; simp [rowsGo, ih]

theorem rowsGo_getElem (x : Nat) (m : List (List Nat)) : ∀ lb (i : Nat) (h : i < m.length) (h' : i < (rowsGo x lb m).length),
    (rowsGo x lb m)[i] = (rowRuns x (if i = 0 then lb else 0) (m[i])).1 := by
  induction m with
  | nil => intro lb i h; simp at h
  | cons row rest ih =>
    intro lb i h h'
    cases i with
    | zero => rfl
    | succ k =>
      simp only [rowsGo, List.getElem_cons_succ, rowRuns_lb]
      rw [ih 0 k (by simpa using h)]
      simp

theorem rowsGo_cover (x : Nat) (m : List (List Nat)) (lb i : Nat) (h : i < m.length) (h' : i < (rowsGo x lb m).length) (j : Nat) :
    coverAt ((rowsGo x lb m)[i]) j = darkAt x (m[i]) j := by
  rw [rowsGo_getElem x m lb i h h', rowRuns_cover]

theorem rowsGo_row (x : Nat) (m : List (List Nat)) (lb i : Nat) (h : i < m.length) (h' : i < (rowsGo x lb m).length) :
    (List.range (m[i]).length).map (fun k => coverAt ((rowsGo x lb m)[i]) (x + k)) = (m[i]).map dark01
    ∧ ∀ j, (j < x ∨ x + (m[i]).length ≤ j) → coverAt ((rowsGo x lb m)[i]) j = 0 := by
  simp only [rowsGo_cover x m lb i h h']
  exact ⟨darkAt_expand (m[i]) x, fun j => darkAt_outside _ _ j⟩

theorem rowsGo_sep (x : Nat) (m : List (List Nat)) (lb i : Nat) (h : i < (rowsGo x lb m).length) : sep x ((rowsGo x lb m)[i]) := by
  rw [rowsGo_getElem x m lb i (by rwa [rowsGo_length] at h) h]
  exact rowRuns_sep ..

theorem rowsGo_nonempty (x : Nat) (m : List (List Nat)) (lb i : Nat) (h : i + 1 < (rowsGo x lb m).length) :
    ∀ r ∈ (rowsGo x lb m)[i + 1], r.1 < r.2 := by
  rw [rowsGo_getElem x m lb (i + 1) (by rwa [rowsGo_length] at h) h, if_neg (Nat.succ_ne_zero i)]
  exact rowRuns_lt x _

/-- the runs found from column `x` on are those found from column 0, moved by `x` -/
def shiftRuns (b : Nat) (l : List (Nat × Nat)) : List (Nat × Nat) := l.map (fun ab => (ab.1 + b, ab.2 + b))

theorem runsFrom_shift (b x1 x2 lb : Nat) (bits : List Nat) :
    runsFrom (x1 + b) (x2 + b) lb bits = shiftRuns b (runsFrom x1 x2 lb bits) := by
  fun_induction runsFrom x1 x2 lb bits with
  | case1 => rfl
  | case2 => rfl
  | case3 x1 x2 rest ih => rw [runsFrom, Nat.add_right_comm x1, Nat.add_right_comm x2, ih]
  | case4 x1 x2 n rest ih => rw [runsFrom, Nat.add_right_comm x2, ih]; rfl
  | case5 x1 x2 lb b' rest ih => rw [runsFrom, Nat.add_right_comm x2, ih]

theorem rowRuns_shift (b lb : Nat) (row : List Nat) :
    rowRuns b lb row = (shiftRuns b (rowRuns 0 lb row).1, (rowRuns 0 lb row).2) := by
  have := runsFrom_shift b 0 0 lb row
  rw [Nat.zero_add] at this
  rw [rowRuns_eq, rowRuns_eq, this]

theorem rowsGo_shift (b : Nat) (m : List (List Nat)) : ∀ lb, rowsGo b lb m = (rowsGo 0 lb m).map (shiftRuns b) := by
  induction m with
  | nil => intro lb; rfl
  | cons row rest ih =>
    intro lb
    simp only [rowsGo, List.map_cons]
    rw [rowRuns_shift b lb row]
    simp only [ih]

/-- the vertical move is printed as `int(y1 - y)`, which is exact when all y have the parity of the pen -/
theorem epsAbs_epsRel (runs : List (Int × Int × Int)) : ∀ px py2, (∀ r ∈ runs, (r.2.1 - py2) % 2 = 0) →
    epsAbs px py2 (epsRel px py2 runs) = runs := by
  induction runs with
  | nil => intros; rfl
  | cons r rest ih =>
    intro px py2 h
    obtain ⟨x1, y, x2⟩ := r
    have hy : (y - py2) % 2 = 0 := h (x1, y, x2) (by simp)
    simp only [epsRel, epsAbs]
    have e1 : px + (x1 - px) = x1 := by omega
    have e2 : py2 + 2 * ((y - py2) / 2) = y := by omega
    have e4 : x1 + (x2 - x1) = x2 := by omega
    rw [e1, e2, e4, ih]
    intro r hr
    have := h r (by simp [hr])
    omega

/-- after a module that counts as dark there is a run: a light module yields the pending one at once, even if it is empty -/
theorem runsFrom_ne_nil (x1 x2 lb : Nat) (bits : List Nat) (h : lb ≠ 0) : runsFrom x1 x2 lb bits ≠ [] := by
  fun_induction runsFrom x1 x2 lb bits with
  | case1 => exact absurd rfl h
  | case2 => exact List.cons_ne_nil _ _
  | case3 => exact absurd rfl h
  | case4 => exact List.cons_ne_nil _ _
  | case5 x1 x2 lb b rest ih => exact ih (by omega)

/-- the first row always has a run (`last_bit = 1`) -/
theorem rowRuns_ne_nil (x lb : Nat) (row : List Nat) (hlb : lb ≠ 0) : (rowRuns x lb row).1 ≠ [] := by
  rw [rowRuns_eq]; exact runsFrom_ne_nil x x lb row hlb

theorem attach_parity (inc2 : Int) (h2 : inc2 % 2 = 0) (rows : List (List (Nat × Nat))) : ∀ y0, ∀ t ∈ attach inc2 y0 rows,
    (t.2.1 - y0) % 2 = 0 := by
  induction rows with
  | nil => intro y0 t ht; simp [attach] at ht
  | cons rs rest ih =>
    intro y0 t ht
    simp only [attach, List.mem_append, List.mem_map] at ht
    rcases ht with ⟨ab, _, rfl⟩ | ht
    · simp; omega
    · have := ih (y0 + inc2) t ht; omega

theorem prefixSums_length (l : List Nat) : ∀ a, (prefixSums a l).length = l.length := by
  induction l with
  | nil => intro a; rfl
  | cons p r ih => intro a; simp [prefixSums, ih]

/-- prefix sums of the piece lengths are the byte offsets of the pieces in the concatenation -/
theorem drop_prefixSums (pieces : List (List Nat)) (post : List Nat) : ∀ (pre : List Nat) (i : Nat) (h : i < pieces.length),
    (pre ++ pieces.flatten ++ post).drop ((prefixSums pre.length (pieces.map List.length))[i]'(by
        rw [prefixSums_length]; simpa using h))
      = (pieces.drop (i + 1)).flatten ++ post := by
  induction pieces with
  | nil => intro pre i h; simp at h
  | cons p rest ih =>
    intro pre i h
    cases i with
    | zero =>
      simp [prefixSums]
    | succ k =>
      have hk : k < rest.length := by simpa using h
      have := ih (pre ++ p) k hk
      simp only [List.flatten_cons, List.map_cons, prefixSums, List.getElem_cons_succ, List.drop_succ_cons]
      simp only [List.length_append] at this
      rw [← List.append_assoc]
      exact this

end Proofs.Lines
