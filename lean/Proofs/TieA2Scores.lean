/-
  Proofs.TieA2Scores — `mask_scores` (translated, Gen/Funcs2.lean: one nested loop over the matrix that carries eight
  locals, the two calls of the nested function `n3_pattern_occurrences` per row, the float expression of N4 in exact
  rational arithmetic) against `Model.maskScores` (N1 … N4 as separate sums over rows, columns and 2 × 2 blocks).

  `outerSt` / `innerSt` are the locals of the two translated loops before row i / before column k of row i, in closed form
  (`foldlM_range_closed`: each round takes the state at j to the state at j + 1); at the end they are `pyScores`, the scores as
  Python sums them.  The closed forms are then the sums of the model (`lineScore_eq`: Python's run scan started at "previous
  bit −1" is the model's `n1Line` started at "previous bit 2", on every line of naturals: both marks are gone after the first
  module; re-indexing of the N2 sum; N4).  No part needs the modules to be 0 / 1.
-/
import Proofs.TieA2Matrix
import Proofs.TieA2N3
import Mathlib.Tactic.Ring

namespace Proofs.TieA2
open Gen.Py Model

def rowL (m : Matrix) (i : Nat) : List Nat := (m.getD i #[]).toList
def colL (m : Matrix) (i : Nat) : List Nat := (List.range m.size).map (fun j => get2 m j i)

/-- Python's run-length scan of N1: (previous bit, counter, score) -/
def runStep (st : Int × Int × Int) (b : Nat) : Int × Int × Int :=
  if (b : Int) = st.1 then (st.1, st.2.1 + 1, st.2.2)
  else ((b : Int), 1, if st.2.1 ≥ 5 then st.2.2 + (st.2.1 - 2) else st.2.2)

def runScan (l : List Nat) : Int × Int × Int := l.foldl runStep (-1, 0, 0)

/-- the N2 test of the inner loop at (i, j) -/
def n2At (m : Matrix) (i j : Nat) : Bool :=
  decide (1 ≤ i) && decide (1 ≤ j) && decide (get2 m i j = get2 m i (j - 1)) && decide (get2 m i (j - 1) = get2 m (i - 1) j)
    && decide (get2 m (i - 1) j = get2 m (i - 1) (j - 1))

def isum (f : Nat → Int) (k : Nat) : Int := ((List.range k).map f).foldl (· + ·) 0

theorem isum_succ (f : Nat → Int) (k : Nat) : isum f (k + 1) = isum f k + f k := by
  simp [isum, List.range_succ, List.foldl_append]

def n2Sum (m : Matrix) (i k : Nat) : Int := isum (fun j => if n2At m i j then (3 : Int) else 0) k

/-- N1 score of one line as Python computes it: the scan plus the last run -/
def lineScore (l : List Nat) : Int :=
  (runScan l).2.2 + (if (runScan l).2.1 ≥ 5 then (runScan l).2.1 - 2 else 0)

/-- the locals of the outer loop of `mask_scores` before row i: (dark, last row, column buffer, N1, N2, N3) -/
def outerSt (m : Matrix) (n i : Nat) : Int × Option (List Int) × List Int × Int × Int × Int :=
  (isum (fun r => Int.ofNat (sumNat (rowL m r))) i,
   if i = 0 then none else some (toI (rowL m (i - 1))),
   if i = 0 then List.replicate n 0 else toI (colL m (i - 1)),
   isum (fun r => lineScore (rowL m r) + lineScore (colL m r)) i,
   isum (fun r => n2Sum m r n) i,
   isum (fun r => Int.ofNat (n3Occurrences (rowL m r)) + Int.ofNat (n3Occurrences (colL m r))) i)

/-- the locals of the inner loop in row i before column k, `o` being the locals of the outer loop before that row: (previous
    bit of the column scan, dark, run of the column scan, run of the row scan, column buffer, previous bit of the row scan,
    N1, N2).  The row scan runs along row i, the column scan down column i. -/
def innerSt (m : Matrix) (i : Nat) (o : Int × Option (List Int) × List Int × Int × Int × Int) (k : Nat) :
    Int × Int × Int × Int × List Int × Int × Int × Int :=
  ((runScan ((colL m i).take k)).1, o.1 + Int.ofNat (sumNat ((rowL m i).take k)), (runScan ((colL m i).take k)).2.1,
   (runScan ((rowL m i).take k)).2.1, toI ((colL m i).take k) ++ o.2.2.1.drop k, (runScan ((rowL m i).take k)).1,
   o.2.2.2.1 + (runScan ((rowL m i).take k)).2.2 + (runScan ((colL m i).take k)).2.2, o.2.2.2.2.1 + n2Sum m i k)

theorem index_rowL {m : Matrix} {n : Nat} (hs : Sq m n) (i : Nat) (hi : i < n) : index (mI m) (i : Int) = .ok (toI (rowL m i)) :=
  index_row hs i i (normIndex_nat n i hi)

theorem rowL_length {m : Matrix} {n : Nat} (hs : Sq m n) (i : Nat) (hi : i < n) : (rowL m i).length = n := by
  have hlt : i < m.size := by rw [hs.size]; exact hi
  simp [rowL, getD_row m i hlt, hs.rows i hlt]

theorem colL_length {m : Matrix} {n : Nat} (hs : Sq m n) (i : Nat) : (colL m i).length = n := by
  simp [colL, hs.size]

theorem take_succ_getD (l : List Nat) (j : Nat) (hj : j < l.length) : l.take (j + 1) = l.take j ++ [l.getD j 0] := by
  rw [List.take_add_one]
  simp [hj]

theorem runScan_snoc (l : List Nat) (b : Nat) : runScan (l ++ [b]) = runStep (runScan l) b := by
  simp [runScan, List.foldl_append]

theorem sumNat_snoc (l : List Nat) (b : Nat) : sumNat (l ++ [b]) = sumNat l + b := by
  simp [sumNat, List.foldl_append]

theorem rowL_getD {m : Matrix} (i j : Nat) : (rowL m i).getD j 0 = get2 m i j := by
  unfold rowL get2
  generalize m.getD i #[] = r
  simp [List.getD, Array.getD]
  by_cases h : j < r.size <;> simp [h]

/-- `base`: Python keeps the score of a scan as part of a running total (the row scan and the column scan of the inner loop
    add to the same local). -/
theorem run_update (st : Int × Int × Int) (base : Int) (a : Nat) :
    (if (Int.ofNat a == st.1) = true then (st.2.1 + 1, base)
      else ((1 : Int), if decide (st.2.1 ≥ 5) = true then base + (st.2.1 - 2) else base))
      = ((runStep st a).2.1, base + ((runStep st a).2.2 - st.2.2)) := by
  simp only [runStep, Int.ofNat_eq_natCast, beq_iff_eq, decide_eq_true_eq]
  by_cases h1 : (a : Int) = st.1 <;> by_cases h3 : st.2.1 ≥ 5 <;> simp [h1, h3]

theorem colL_getD {m : Matrix} {n : Nat} (hs : Sq m n) (i j : Nat) (hj : j < n) : (colL m i).getD j 0 = get2 m j i := by
  simp [colL, hs.size, hj, List.getD]

theorem runStep_fst (st : Int × Int × Int) (b : Nat) : (runStep st b).1 = (b : Int) := by
  unfold runStep
  by_cases h : (b : Int) = st.1 <;> simp [h]

theorem index_rowL_at {m : Matrix} {n : Nat} (hs : Sq m n) {i j : Nat} (hi : i < n) (hj : j < n) :
    index (toI (rowL m i)) (j : Int) = .ok (Int.ofNat (get2 m i j)) := by
  rw [index_toI _ j (by rw [rowL_length hs i hi]; exact hj), rowL_getD]

theorem rowL_take_succ {m : Matrix} {n : Nat} (hs : Sq m n) {i j : Nat} (hi : i < n) (hj : j < n) :
    (rowL m i).take (j + 1) = (rowL m i).take j ++ [get2 m i j] := by
  rw [take_succ_getD _ _ (by rw [rowL_length hs i hi]; exact hj), rowL_getD]

theorem colL_take_succ {m : Matrix} {n : Nat} (hs : Sq m n) (i : Nat) {j : Nat} (hj : j < n) :
    (colL m i).take (j + 1) = (colL m i).take j ++ [get2 m j i] := by
  rw [take_succ_getD _ _ (by rw [colL_length hs i]; exact hj), colL_getD hs i j hj]

theorem buffer_set (p : List Nat) (b : Nat) (c : List Int) (j : Nat) (hp : p.length = j) (hc : j < c.length) :
    setItem (toI p ++ c.drop j) (j : Int) (Int.ofNat b) = .ok (toI (p ++ [b]) ++ c.drop (j + 1)) := by
  have hl : (toI p).length = j := by rw [toI_length, hp]
  rw [setItem_eq_of_norm _ _ j _ (normIndex_nat _ _ (by rw [List.length_append, hl, List.length_drop]; omega)),
    List.set_append_right _ _ (by omega), hl, Nat.sub_self, List.drop_eq_getElem_cons hc, List.set_cons_zero, toI_append]
  simp

theorem outerSt_col_length {m : Matrix} {n : Nat} (hs : Sq m n) (i : Nat) : (outerSt m n i).2.2.1.length = n := by
  unfold outerSt
  split <;> simp [colL_length hs]

/-- N4 of `mask_scores`: the float expression `10 * int(abs(dark / size² * 100 - 50) / 5)`, in exact rational
    arithmetic, is the integer formula of the model -/
theorem n4_q {β : Type} (d n : Nat) (hn : 1 ≤ n) (k : Int → M β) :
    Gen.Py.bind ((Q.ofInt (d : Int)).div (Q.ofInt ((n : Int) ^ 2))) (fun t15 =>
      Gen.Py.bind ((((t15.mul (Q.ofInt 100)).sub (Q.ofInt 50)).abs).div (Q.ofInt 5)) (fun t16 =>
        k (10 * t16.toInt)))
      = k (Int.ofNat (10 * ((if 20 * d ≥ 10 * (n * n) then 20 * d - 10 * (n * n) else 10 * (n * n) - 20 * d) / (n * n)))) := by
  have hT : 0 < n * n := Nat.mul_pos hn hn
  have hT' : ((n : Int) ^ 2) = ((n * n : Nat) : Int) := by push_cast; ring
  rw [hT']
  generalize n * n = T at hT
  have hne : ¬ ((T : Int) = 0) := by omega
  have hpos : ¬ ((T : Int) < 0) := by omega
  simp only [Q.div, Q.ofInt, Q.mul, Q.sub, Q.abs, Q.toInt, hne, hpos, if_false, bind_ok]
  have h5 : ¬ ((5 : Int) = 0) := by decide
  have h5' : ¬ ((5 : Int) < 0) := by decide
  simp only [h5, h5', if_false, bind_ok]
  -- `Q` has computed |100·d − 50·T| / (5·T): the numerator is 5 times the model's deviation, and the 5 cancels
  have hdev : ((d : Int) * ((1 : Nat) : Int) * 100 * ((1 : Nat) : Int) - 50 * ((1 * (T : Int).natAbs * 1 : Nat) : Int)).natAbs
      = 5 * (if 20 * d ≥ 10 * T then 20 * d - 10 * T else 10 * T - 20 * d) := by
    split_ifs <;> omega
  have hden : (1 * (T : Int).natAbs * 1 * 1 * Int.natAbs 5) = 5 * T := by
    have : Int.natAbs 5 = 5 := rfl
    rw [this]; simp; omega
  rw [hdev, hden]
  generalize (if 20 * d ≥ 10 * T then 20 * d - 10 * T else 10 * T - 20 * d) = dev
  simp only [Int.ofNat_eq_natCast, Int.mul_one, Nat.cast_one]
  congr 1
  have e : ((5 * dev : Nat) : Int).tdiv ((5 * T : Nat) : Int) = (((5 * dev) / (5 * T) : Nat) : Int) := by
    rw [Int.tdiv_eq_ediv_of_nonneg (by omega)]
    exact (Int.natCast_ediv _ _).symm
  rw [e, Nat.mul_div_mul_left _ _ (by omega : 0 < 5)]
  push_cast
  rfl

/-- Python's scan and the model's run in lock-step on ANY line of naturals once a first module has been read: the two
    "no previous bit" marks (−1 / 2) are both left behind by the first step, with a run of length 1 -/
theorem scan_rel (l : List Nat) (p : Nat) (c s : Nat) :
    (l.foldl runStep ((p : Int), (c : Int), (s : Int))).2.1 = ((l.foldl Proofs.Mask.n1Step (s, p, c)).2.2 : Nat) ∧
    (l.foldl runStep ((p : Int), (c : Int), (s : Int))).2.2 = ((l.foldl Proofs.Mask.n1Step (s, p, c)).1 : Nat) := by
  induction l generalizing p c s with
  | nil => exact ⟨rfl, rfl⟩
  | cons b t ih =>
    simp only [List.foldl_cons]
    by_cases hbp : b = p
    · have e1 : runStep ((p : Int), (c : Int), (s : Int)) b = ((p : Int), ((c + 1 : Nat) : Int), (s : Int)) := by
        simp [runStep, hbp]
      have e2 : Proofs.Mask.n1Step (s, p, c) b = (s, p, c + 1) := by simp [Proofs.Mask.n1Step, hbp]
      rw [e1, e2]
      exact ih p (c + 1) s
    · have hbp' : ¬ ((b : Int) = (p : Int)) := by omega
      have e1 : runStep ((p : Int), (c : Int), (s : Int)) b
          = ((b : Int), ((1 : Nat) : Int), (((if c ≥ 5 then s + (c - 2) else s) : Nat) : Int)) := by
        simp only [runStep, hbp', if_false]
        split_ifs <;> first | rfl | omega | (congr 2; omega)
      have e2 : Proofs.Mask.n1Step (s, p, c) b = ((if c ≥ 5 then s + (c - 2) else s), b, 1) := by simp [Proofs.Mask.n1Step, hbp]
      rw [e1, e2]
      exact ih b 1 _

/-- on EVERY list of naturals: a leading module 2, the model's "no previous bit" mark, opens a run of length 1 on both sides -/
theorem lineScore_eq (l : List Nat) : lineScore l = Int.ofNat (n1Line l) := by
  rw [Proofs.Mask.n1Line_eq_foldl]
  unfold lineScore runScan Proofs.Mask.n1Fin
  cases l with
  | nil => rfl
  | cons x t =>
    have e1 : runStep (-1, 0, 0) x = ((x : Int), ((1 : Nat) : Int), ((0 : Nat) : Int)) := by
      have : ¬ ((x : Int) = -1) := by omega
      simp [runStep, this]
    have e2 : Proofs.Mask.n1Step (0, 2, 0) x = (0, x, 1) := by
      by_cases h : x = 2
      · subst h; rfl
      · simp [Proofs.Mask.n1Step, h]
    rw [List.foldl_cons, List.foldl_cons, e1, e2]
    obtain ⟨h1, h2⟩ := scan_rel t x 1 0
    rw [h1, h2]
    simp only [Int.ofNat_eq_natCast]
    split_ifs <;> first | rfl | omega

theorem isum_ofNat (f : Nat → Nat) (k : Nat) : isum (fun r => Int.ofNat (f r)) k = Int.ofNat (sumNat ((List.range k).map f)) := by
  induction k with
  | zero => rfl
  | succ k ih =>
    rw [isum_succ, ih, List.range_succ, List.map_append]
    simp [sumNat, List.foldl_append]

theorem isum_add (f g : Nat → Int) (k : Nat) : isum (fun r => f r + g r) k = isum f k + isum g k := by
  induction k with
  | zero => rfl
  | succ k ih => rw [isum_succ, isum_succ, isum_succ, ih]; omega

theorem isum_shift (f : Nat → Int) (k : Nat) (h0 : f 0 = 0) : isum f (k + 1) = isum (fun r => f (r + 1)) k := by
  induction k with
  | zero => simp [isum, h0]
  | succ k ih => rw [isum_succ, ih, isum_succ]


/-- the four scores as the translated loops compute them -/
def pyScores (m : Matrix) (n : Nat) : Int × Int × Int × Int :=
  (isum (fun r => lineScore (rowL m r) + lineScore (colL m r)) n,
   isum (fun r => n2Sum m r n) n,
   isum (fun r => Int.ofNat (n3Occurrences (rowL m r)) + Int.ofNat (n3Occurrences (colL m r))) n,
   Int.ofNat (10 * ((let d := sumNat ((List.range n).map (fun r => sumNat (rowL m r)))
      if 20 * d ≥ 10 * (n * n) then 20 * d - 10 * (n * n) else 10 * (n * n) - 20 * d) / (n * n))))

theorem mask_scores_py (m : Matrix) (n : Nat) (hs : Sq m n) (hn : 1 ≤ n) :
    Gen.Funcs2.mask_scores (mI m) n n = .ok (pyScores m n) := by
  unfold Gen.Funcs2.mask_scores
  have hz : zeros (n : Int) = .ok (List.replicate n 0) := by simp [zeros]
  simp -zeta only [beq_self_eq_true, if_true, hz, bind_ok]
  refine foldlM_range_closed n (outerSt m n) ?_ (fun i hi => ?_) ?_
  · simp [outerSt, isum]
  · rw [index_rowL hs i hi, bind_ok]
    have hc0 := outerSt_col_length hs i
    have hlast : (outerSt m n i).2.1 = if i = 0 then none else some (toI (rowL m (i - 1))) := rfl
    generalize ho : outerSt m n i = o at hc0 hlast
    refine foldlM_range_closed n (innerSt m i o) ?_ (fun j hj => ?_) ?_
    · simp [innerSt, runScan, sumNat, n2Sum, isum]
    · unfold innerSt
      simp -zeta only []
      rw [index_rowL_at hs hi hj, bind_ok, index_rowL hs j hj, bind_ok, index_rowL_at hs hj hi, bind_ok,
        buffer_set _ _ _ j (by rw [List.length_take, colL_length hs i]; omega) (by omega), bind_ok,
        bind_eq_of_eq (n2At m i j)]
      · simp only [run_update, rowL_take_succ hs hi hj, colL_take_succ hs i hj, runScan_snoc, sumNat_snoc, n2Sum, isum_succ]
        -- whether or not the N2 test succeeds, this is the state one column further
        cases n2At m i j <;>
          simp only [runStep_fst, Int.ofNat_eq_natCast, Nat.cast_add, if_true, if_false, Bool.false_eq_true, Except.ok.injEq,
            Prod.mk.injEq, true_and] <;> omega
      · -- the N2 test: Python's nested `if`s on `last_row`, `j` and the previous bit of the row scan are the conjunction `n2At`
        rw [hlast]
        rcases i with _ | i
        · simp [n2At]
        rcases j with _ | j
        · simp [n2At]
        have hne : (!(toI (rowL m i)).isEmpty) = true := by
          simp [← List.length_eq_zero_iff, rowL_length hs i (by omega)]; omega
        have hjne : ((((j + 1 : Nat) : Int) != 0) = true) := by simp; omega
        have e1 : (((j + 1 : Nat) : Int) - 1) = (j : Int) := by omega
        simp only [Nat.succ_ne_zero, if_false, Nat.add_sub_cancel, if_pos hne, if_pos hjne, e1,
          rowL_take_succ hs hi (Nat.lt_of_succ_lt hj), runScan_snoc, runStep_fst,
          index_rowL_at hs (Nat.lt_of_succ_lt hi) hj, index_rowL_at hs (Nat.lt_of_succ_lt hi) (Nat.lt_of_succ_lt hj), bind_ok]
        have e : ∀ x y : Nat, ((x : Int) == (y : Int)) = decide (x = y) := fun x y => by
          rw [Bool.eq_iff_iff, beq_iff_eq, decide_eq_true_eq]; omega
        simp only [n2At, Int.ofNat_eq_natCast, e, Nat.add_sub_cancel, Nat.le_add_left, decide_true, Bool.true_and]
        cases decide (get2 m (i + 1) (j + 1) = get2 m (i + 1) j) <;> cases decide (get2 m (i + 1) j = get2 m i (j + 1)) <;> rfl
    · -- after the last column: the two N3 counts and the last runs of the two N1 scans
      have tr : (rowL m i).take n = rowL m i := by rw [← rowL_length hs i hi, List.take_length]
      have tc : (colL m i).take n = colL m i := by rw [← colL_length hs i, List.take_length]
      have dc : o.2.2.1.drop n = [] := by rw [← hc0, List.drop_length]
      have e3r := n3_occurrences_eq (rowL m i)
      have e3c := n3_occurrences_eq (colL m i)
      rw [rowL_length hs i hi] at e3r
      rw [colL_length hs i] at e3c
      subst ho
      simp only [innerSt, tr, tc, dc, List.append_nil, e3r, e3c, bind_ok]
      simp only [outerSt, isum_succ, Nat.add_sub_cancel, Nat.succ_ne_zero, if_false, Except.ok.injEq, Prod.mk.injEq, true_and]
      refine ⟨?_, by omega⟩
      generalize isum (fun r => lineScore (rowL m r) + lineScore (colL m r)) i = S
      simp only [lineScore, ge_iff_le, decide_eq_true_eq]
      split_ifs <;> omega
  · simp only [outerSt, isum_ofNat]
    exact n4_q _ n hn (fun x => .ok (_, _, _, x))


theorem rowL_bits {m : Matrix} (hbits : ∀ i j, get2 m i j ≤ 1) (r : Nat) : ∀ b ∈ rowL m r, b ≤ 1 := by
  intro b hb
  obtain ⟨j, hj, rfl⟩ := List.getElem_of_mem hb
  have h := hbits r j
  rw [← rowL_getD] at h
  have e : (rowL m r).getD j 0 = (rowL m r)[j] := by simp [List.getD, hj]
  rw [e] at h
  exact h

theorem isum_zero (k : Nat) : isum (fun _ => 0) k = 0 := by
  induction k with
  | zero => rfl
  | succ k ih => rw [isum_succ, ih]; rfl

theorem n2At_succ (m : Matrix) (i j : Nat) :
    (if n2At m (i + 1) (j + 1) then (3 : Int) else 0) =
      Int.ofNat (let a := get2 m i j
        if a == get2 m i (j + 1) && a == get2 m (i + 1) j && a == get2 m (i + 1) (j + 1) then 3 else 0) := by
  unfold n2At
  simp only [Nat.add_sub_cancel]
  -- both tests say that the four modules of the block are equal
  generalize get2 m i j = a
  generalize get2 m i (j + 1) = b
  generalize get2 m (i + 1) j = c
  generalize get2 m (i + 1) (j + 1) = d
  have h : (decide (1 ≤ i + 1) && decide (1 ≤ j + 1) && decide (d = c) && decide (c = b) && decide (b = a))
      = (a == b && a == c && a == d) := by
    rw [Bool.eq_iff_iff]
    simp only [Bool.and_eq_true, decide_eq_true_eq, beq_iff_eq]
    omega
  rw [h]
  cases (a == b && a == c && a == d) <;> rfl

theorem pyScores_eq (m : Matrix) (n : Nat) (hs : Sq m n) :
    pyScores m n = (Int.ofNat (maskScores m).1, Int.ofNat (maskScores m).2.1, Int.ofNat (maskScores m).2.2.1,
      Int.ofNat (maskScores m).2.2.2) := by
  unfold pyScores maskScores
  simp only [hs.size]
  have hrows : (List.range n).map (fun i => (m.getD i #[]).toList) = (List.range n).map (rowL m) := rfl
  have hcols : (List.range n).map (column m) = (List.range n).map (colL m) := rfl
  rw [hrows, hcols]
  refine Prod.ext ?_ (Prod.ext ?_ (Prod.ext ?_ ?_))
  · -- N1
    simp only [List.map_map, lineScore_eq]
    rw [isum_add, isum_ofNat, isum_ofNat]
    simp only [Int.ofNat_eq_natCast, Function.comp_def]
    push_cast
    rfl
  · -- N2
    simp only []
    cases n with
    | zero => rfl
    | succ k =>
      have z0 : ∀ j, n2At m 0 j = false := by intro j; simp [n2At]
      have zc : ∀ i, n2At m i 0 = false := by intro i; simp [n2At]
      have hrow : ∀ i, n2Sum m (i + 1) (k + 1) = Int.ofNat (sumNat ((List.range k).map (fun j =>
          let a := get2 m i j
          if a == get2 m i (j + 1) && a == get2 m (i + 1) j && a == get2 m (i + 1) (j + 1) then 3 else 0))) := by
        intro i
        unfold n2Sum
        rw [isum_shift _ _ (by simp [zc])]
        simp only [n2At_succ]
        exact isum_ofNat _ k
      have h0 : n2Sum m 0 (k + 1) = 0 := by
        unfold n2Sum
        simp only [z0, Bool.false_eq_true, if_false]
        exact isum_zero _
      rw [isum_shift _ _ h0]
      simp only [hrow]
      rw [isum_ofNat]
      simp only [Nat.add_sub_cancel]
  · -- N3
    simp only [List.map_map]
    rw [isum_add, isum_ofNat, isum_ofNat]
    simp only [Int.ofNat_eq_natCast, Function.comp_def]
    push_cast
    rfl
  · -- N4
    simp only [List.map_map, Function.comp_def]

theorem mask_scores_eq (m : Matrix) (n : Nat) (hs : Sq m n) (hn : 1 ≤ n) :
    Gen.Funcs2.mask_scores (mI m) n n
      = .ok (Int.ofNat (maskScores m).1, Int.ofNat (maskScores m).2.1, Int.ofNat (maskScores m).2.2.1,
          Int.ofNat (maskScores m).2.2.2) := by
  rw [mask_scores_py m n hs hn, pyScores_eq m n hs]

theorem evaluate_mask_eq (m : Matrix) (n : Nat) (hs : Sq m n) (hn : 1 ≤ n) :
    Gen.Funcs2.evaluate_mask (mI m) n n = .ok (Int.ofNat (evaluateMask m)) := by
  unfold Gen.Funcs2.evaluate_mask
  rw [mask_scores_eq m n hs hn, bind_ok, Proofs.Mask.evaluateMask_parts]
  simp only [sumL, List.foldl_cons, List.foldl_nil, Int.ofNat_eq_natCast]
  congr 1
  push_cast
  omega

end Proofs.TieA2
