/-
  What Proofs/C14Route.lean needs below the level of plans: how a computation ends relative to a class `P` of codec errors
  (`EndsP`, `EnvP`), what a serialiser hands over (`ShapeOK`), the dispatch of `save`, `save` into a buffer followed by a
  data-URI step as ONE plan, the kernel checks over the signature tables that the routes rest on (`reserved_not_options`,
  `inlineForced_typed`, `uriDefaults_typed`, `png_pass_defaults`, `png_pass_types`), that the command line hands over no
  parameter name of `save` (`cli_kwargs_free`), and the loop of `QRCodeSequence.save` (`seqSaveGo_clean`).
-/
import Proofs.C14RouteDefs
import Proofs.C14Cli
import Proofs.C14SerRead

namespace Proofs.C14Route
open Gen (PyV)
open Model Model.Cli Model.Routes Proofs.C14Ser Proofs.Routes
open Proofs.Except (RaisesOnly)

/-- a result, ValueError, or an error of the class `P` -/
def EndsP {α : Type} (P : PyErr → Prop) (r : R α) : Prop :=
  (∃ x, r = .ok x) ∨ r = .error .valueError ∨ ∃ x, r = .error x ∧ P x

/-- the runtime services of an environment raise only errors of the class `P` (codec, decode) / ValueError (gzip) -/
structure EnvP (env : Env) (P : PyErr → Prop) : Prop where
  codec : ∀ e s, EndsP P (env.codec e s)
  decode : ∀ e b, EndsP P (env.decode e b)
  gzip : ∀ l, env.gzipCheck l = .ok () ∨ env.gzipCheck l = .error .valueError

/-- what the serialiser of a plan hands over -/
def ShapeOK (key : String) (so : SerOut) : Prop :=
  (key = "svg" → ∃ s e, so = .text s (some e)) ∧ (key ∈ binaryKinds → ∃ b, so = .bytes b) ∧ (key ∈ textKinds → ∃ s, so = .text s none)

theorem endsP_iff {α : Type} {P : PyErr → Prop} {r : R α} : EndsP P r ↔ RaisesOnly (fun e => e = .valueError ∨ P e) r := by
  cases r <;> simp [EndsP, RaisesOnly]

theorem routeClean_iff {α : Type} {r : R α} :
    RouteClean r ↔ RaisesOnly (fun e => e = .valueError ∨ e = .unicodeError ∨ e = .lookupError) r := by
  cases r <;> simp [RouteClean, RaisesOnly]

theorem writableBin_raises (env : Env) (P : PyErr → Prop) (he : EnvP env P) (so : SerOut)
    (hso : (∃ b, so = .bytes b) ∨ ∃ s e, so = .text s (some e)) : RaisesOnly (fun e => e = .valueError ∨ P e) (writableBin env so) := by
  rcases hso with ⟨b, rfl⟩ | ⟨s, e, rfl⟩
  · exact .ok b
  · exact endsP_iff.1 (he.codec e s)

theorem writable_file_raises (env : Env) (P : PyErr → Prop) (he : EnvP env P) (so : SerOut) :
    RaisesOnly (fun e => e = .valueError ∨ P e) (writable env .file so) := by
  cases so with
  | bytes b => exact .ok _
  | text s enc =>
    cases enc with
    | some e => exact (endsP_iff.1 (he.codec e s)).bind fun _ _ => .ok _
    | none => exact (endsP_iff.1 (he.codec env.defaultEnc s)).bind fun _ _ => .ok _

theorem ShapeOK.bin {key : String} {so : SerOut} (hsh : ShapeOK key so) (hk : key = "svg" ∨ key ∈ binaryKinds) :
    (∃ b, so = .bytes b) ∨ ∃ s e, so = .text s (some e) := by
  rcases hk with hk | hk
  · exact Or.inr (hsh.1 hk)
  · exact Or.inl (hsh.2.1 hk)

theorem reserved_not_options : ∀ key ∈ kinds, ∀ k ∈ saveReserved, ∀ p ∈ optTypes key, p.1 ≠ k := by decide +kernel

theorem dispatchOf_cases (out : OutArg) (kind : Option Str) :
    (∃ f s k, dispatchOf out kind = dispatch validKeys f s k) ∨ (kind = none ∧ ∃ b, out = .stream b none) := by
  cases kind with
  | some k => exact Or.inl ⟨_, _, _, rfl⟩
  | none =>
    cases out with
    | path n => exact Or.inl ⟨_, _, _, rfl⟩
    | stream b nm =>
      cases nm with
      | some n => exact Or.inl ⟨_, _, _, rfl⟩
      | none => exact Or.inr ⟨rfl, b, rfl⟩

theorem dispatchOf_error (out : OutArg) (kind : Option Str) (e : PyErr) (h : dispatchOf out kind = .error e) :
    e = .valueError ∨ (kind = none ∧ ∃ b, out = .stream b none) := by
  exact (dispatchOf_cases out kind).imp_left fun ⟨f, s, k, hd⟩ => dispatch_error (hd ▸ h)

theorem dispatchKey_gz (f : Str) (s : Bool) (k : Option Str) (h : (dispatchKey f s k).2 = true) : (dispatchKey f s k).1 = "svg" := by
  unfold dispatchKey at h ⊢
  cases k <;> simp only [] at h ⊢ <;> simp only [h, if_true]

theorem dispatchOf_gz (out : OutArg) (kind : Option Str) (key : String) (h : dispatchOf out kind = .ok (key, true)) : key = "svg" := by
  rcases dispatchOf_cases out kind with ⟨f, s, k, hd⟩ | ⟨rfl, b, rfl⟩
  · have hk := (dispatch_ok (hd ▸ h)).1
    exact (congrArg Prod.fst hk).symm.trans (dispatchKey_gz f s k (congrArg Prod.snd hk))
  · cases h

theorem any_of_mem {key k : String} {ty : Ty} {v : PyV} (hm : (k, ty) ∈ optTypes key) (ht : hasType ty v = true) :
    (optTypes key).any (fun p => p.1 == (k, v).1 && hasType p.2 (k, v).2) = true :=
  List.any_eq_true.2 ⟨(k, ty), hm, by simp [ht]⟩

theorem svg_encoding_default : ((((serializerDefaults "svg").getD []).find? (·.1 == "encoding")).map (·.2)).getD PyV.none = .str "utf-8" := by
  decide +kernel

theorem encoding_str (kw : Config) (hdoc : DocumentedSer "svg" kw) : ∃ e, (cget kw "encoding").getD (.str "utf-8") = .str e := by
  have ht := val_typed "svg" kw hdoc "encoding" .text (by decide)
  have hv : val "svg" kw "encoding" = (cget kw "encoding").getD (.str "utf-8") := by
    unfold val
    rw [svg_encoding_default]
  rw [hv] at ht
  exact text_str ht

theorem inlineForced_typed : ∀ e ∈ inlineForced, (optTypes "svg").any (fun p => p.1 == e.1 && hasType p.2 e.2) = true := by decide +kernel

theorem uriDefaults_typed : ∀ e ∈ uriDefaults, (optTypes "svg").any (fun p => p.1 == e.1 && hasType p.2 e.2) = true := by decide +kernel

theorem save_bind_svgUri (env : Env) (K : Config) (hf : Free saveReserved K) (enc : PyV) (mn oc : Bool) :
    save env (.stream true none) (some "svg".toList) K >>= toSvgUri enc mn oc
      = execute env { key := "svg", kw := K, target := .buffer, post := .svgUri enc mn oc } := by
  rw [save_free _ _ _ _ hf, dispatch_svg_kind]
  exact (execute_buffer env "svg" K (.svgUri enc mn oc)).symm

theorem save_bind_pngUri (env : Env) (K : Config) (hf : Free saveReserved K) :
    save env (.stream true none) (some "png".toList) K >>= toPngUri
      = execute env { key := "png", kw := K, target := .buffer, post := .pngUri } := by
  rw [save_free _ _ _ _ hf, dispatch_png_kind]
  exact (execute_buffer env "png" K .pngUri).symm

theorem png_pass_defaults : ∀ k ∈ pngPasses,
    dflt asPngDataUriSig.params k = ((((serializerDefaults "png").getD []).find? (·.1 == k)).map (·.2)).getD PyV.none := by decide +kernel

theorem png_pass_types : ∀ k ∈ pngPasses, ∃ ty, (k, ty) ∈ optTypes "png" := by
  intro k hk
  simp only [pngPasses, List.mem_cons, List.not_mem_nil, or_false] at hk
  rcases hk with rfl | rfl | rfl
  · exact ⟨.scale, by decide⟩
  · exact ⟨.border, by decide⟩
  · exact ⟨.level, by decide⟩

theorem terminal_doc (key : String) (hk : key = "ans" ∨ key = "compact") (border : PyV) (hb : hasType .border border = true) :
    DocumentedSer key [("border", border)] := by
  rcases hk with rfl | rfl <;>
    exact ⟨by decide, fun e he => by rw [List.mem_singleton.1 he]; exact any_of_mem (by decide) hb⟩

theorem documented_cpop (key : String) (kw : Config) (k : String) (hd : DocumentedSer key kw) : DocumentedSer key (cpop kw k) :=
  ⟨hd.1, fun e he => hd.2 e (List.mem_filter.1 he).1⟩

/-- `build_config` never hands over a keyword that names a parameter of `QRCode.save` / `writers.save` itself: no list of
    `_EXT_TO_KW_MAPPING` contains one (kernel check of the regenerated table) and nothing else is passed (`Props.C12.kwargs_supported`) -/
theorem cli_kwargs_free (parsed : Config) (out : Str) : Free saveReserved (cliKwargs Gen.EXT_TO_KW_MAPPING parsed out) := by
  intro k hk
  cases hc : cget (cliKwargs Gen.EXT_TO_KW_MAPPING parsed out) k with
  | none => rfl
  | some v =>
    exfalso
    have hs := Props.C12.kwargs_supported Gen.EXT_TO_KW_MAPPING (mainConfig parsed) out (k, v) (cget_mem hc)
    have htab : ∀ row ∈ Gen.EXT_TO_KW_MAPPING, ∀ k ∈ row.2, k ∉ saveReserved := by decide +kernel
    unfold supportedKeywords at hs
    cases hf : Gen.EXT_TO_KW_MAPPING.find? (·.1 == configExt out) with
    | none => simp [hf] at hs
    | some row =>
      simp only [hf, Option.map_some, Option.getD_some, List.contains_eq_mem, decide_eq_true_eq] at hs
      exact htab row (List.mem_of_find?_eq_some hf) k hs hk

theorem seqSaveGo_clean (m : Nat) (out : OutArg) (kind : Option Str) (kw : Config) :
    ∀ (envs : List Env) (n : Nat), (∀ env ∈ envs, ∀ n, RouteClean (save env (seqOut out m n) kind kw)) →
      RouteClean (seqSaveGo m out kind kw n envs)
  | [], _, _ => Or.inl ⟨[], rfl⟩
  | env :: more, n, hall =>
    routeClean_iff.2 <| (routeClean_iff.1 (hall env List.mem_cons_self n)).bind fun _ _ =>
      (routeClean_iff.1 (seqSaveGo_clean m out kind kw more (n + 1) fun e he => hall e (List.mem_cons_of_mem _ he))).bind fun _ _ => .ok _

end Proofs.C14Route
