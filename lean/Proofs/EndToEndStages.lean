/-
  `encode` / `_encode` taken apart into their stages: the data bit stream `_encode` builds has the length
  `bit_length_with_overhead` computed (`written_bitLength`), so for `encode` the stages (`Proofs.Sequence.Run`)
  come with a stream that fits the capacity (`encode_run`).
-/
import Spec.Decode
import Spec.Sizing
import Model.Encoder
import Proofs.Sizing
import Proofs.ArgsLemmas
import Proofs.EncodeStages
import Proofs.Stream
import Proofs.StreamParse

namespace Proofs.EndToEnd
open Model Proofs.Except Proofs.Sequence

theorem eciPart_length (s : Segment) (eci : Bool) (f : String → Option Nat) (e : List Nat)
    (h : Proofs.StreamParse.eciPart s eci f = .ok e) :
    e.length = if (Proofs.Sizing.info eci s).eci then 12 else 0 := by
  unfold Proofs.StreamParse.eciPart at h
  have hc : (Proofs.Sizing.info eci s).eci
      = (eci && s.mode == Gen.MODE_BYTE && s.encoding != some Gen.DEFAULT_BYTE_ENCODING) := rfl
  rw [hc]
  split at h
  · next c =>
    rw [if_pos c]
    split at h
    · simp only [pure, Except.pure, Except.ok.injEq] at h
      rw [← h]; simp [Proofs.Roundtrip.appendBits_length]
    · cases h
  · next c =>
    rw [if_neg c]
    simp only [pure, Except.pure, Except.ok.injEq] at h
    rw [← h]; rfl

theorem modePart_length (mode : Nat) (v : Int) (m : List Nat) (h : Proofs.StreamParse.modePart mode v = .ok m) :
    m.length = Spec.modeBits v + (if v > 0 && mode == 13 then 4 else 0) := by
  unfold Proofs.StreamParse.modePart at h
  unfold Spec.modeBits
  by_cases hv : v > 0
  · -- QR Code: four bits, and the subset indicator for hanzi
    rw [if_pos (by simpa using (by omega : ¬ v < 1))] at h
    cases h
    by_cases h13 : mode = 13 <;> simp [hv, h13, Gen.MODE_HANZI, Proofs.Roundtrip.appendBits_length]
  · -- Micro QR: `v + 3` bits, which is none for M1
    rw [if_neg (by simpa using (by omega : v < 1))] at h
    simp only [hv, decide_false, Bool.false_and, Bool.false_eq_true, if_false, Nat.add_zero]
    split at h
    · split at h
      · cases h; exact Proofs.Roundtrip.appendBits_length _ _
      · cases h
    · rename_i h3
      cases h
      simp only [Gen.VERSION_M1, gt_iff_lt, Int.not_lt] at h3
      simp only [List.length_nil]
      omega

theorem writeSegment_length (s : Segment) (v : Int) (eci : Bool) (f : String → Option Nat) (bits : List Nat)
    (hw : writeSegment s v eci f = .ok bits) :
    ∃ w, cciLen s.mode (if v > 0 then Gen.version_range v else v) = some w ∧ bits.length = w + Proofs.Sizing.segShare v eci s := by
  have hr : (if v < 1 then v else Gen.version_range v) = (if v > 0 then Gen.version_range v else v) := by
    split <;> split <;> first | rfl | omega
  rw [Proofs.StreamParse.writeSegment_eq, hr] at hw
  obtain ⟨e, he, hw⟩ := bind_ok.1 hw
  obtain ⟨m, hm, hw⟩ := bind_ok.1 hw
  split at hw
  · rename_i w hc
    cases hw
    refine ⟨w, hc, ?_⟩
    simp only [List.length_append, Proofs.Roundtrip.appendBits_length, eciPart_length s eci f e he,
      modePart_length _ _ _ hm, Proofs.Sizing.segShare]
    have : (Proofs.Sizing.info eci s).mode = s.mode := rfl
    rw [this]
    omega
  · cases hw

theorem written_bitLength (v : Int) (eci : Bool) (f : String → Option Nat) (sa : Option (Nat × Nat × Nat)) :
    ∀ (segs : List Segment) (segBits : List (List Nat)), segs.mapM (fun s => writeSegment s v eci f) = .ok segBits →
      bitLengthWithOverhead segs v eci sa.isSome = some (saHeader sa ++ segBits.flatten).length
  | [], segBits, hw => by
    rw [List.mapM_nil, pure_eq_ok] at hw
    cases hw
    rw [List.flatten_nil, List.append_nil, saHeader_length]
    cases sa <;> simp [bitLengthWithOverhead, sumNat, pure, bind]
  | s :: rest, segBits, hw => by
    obtain ⟨b, bs, hwb, hwr, rfl⟩ := mapM_ok_cons.1 hw
    obtain ⟨w, hc, hl⟩ := writeSegment_length s v eci f b hwb
    rw [Proofs.Sizing.bitLength_cons, hc, written_bitLength v eci f sa rest bs hwr]
    simp only [Option.bind_some, Option.map_some, List.flatten_cons, List.length_append, hl, Option.some.injEq]
    omega

theorem _root_.Proofs.Sequence.Run.fits {segs : List Segment} {v : Int} {mask : Option Nat} {eci : Bool}
    {f : String → Option Nat} {sa : Option (Nat × Nat × Nat)} {c : Code} (r : Run segs v mask eci f sa c)
    (hfit : Proofs.EncodeStages.FitsAt segs v eci sa.isSome c.error) :
    (saHeader sa ++ r.segBits.flatten).length ≤ r.tail.cap := by
  obtain ⟨cap, bl, hcap, hbl, hle⟩ := hfit
  rw [written_bitLength v eci f sa segs r.segBits r.hw] at hbl
  rw [r.tail.hcap] at hcap
  cases hcap; cases hbl
  exact hle

theorem encode_run (parts : List Part) (error : Option Nat) (version : Option Int) (mode : Option Nat)
    (mask : Option Nat) (eci : Bool) (micro : Option Bool) (boost : Bool) (f : String → Option Nat) (c : Code)
    (h : encode parts error version mode mask eci micro boost f = .ok c) :
    prepareData parts = .ok c.segments ∧ (eci = true → 1 ≤ c.version) ∧
      ∃ r : Run c.segments c.version mask eci f none c, r.segBits.flatten.length ≤ r.tail.cap := by
  have a := Proofs.EncodeStages.encode_accepted h
  obtain ⟨-, ⟨r⟩⟩ := (encodeCore_iff ..).1 a.core
  obtain ⟨need, cap, hneed, hcap, hle⟩ := Proofs.Sizing.encode_never_truncates _ _ _ _ _ _ _ _ _ _ h
  refine ⟨a.prep, fun he => ?_, r, r.fits ⟨cap, need, hcap, hneed, hle⟩⟩
  -- with ECI `micro` is not `True`, so the version search is the one for QR Codes, and the version finally
  -- used is not below the one found
  obtain ⟨g, hfind, hv⟩ := a.found
  rw [Proofs.ArgsLemmas.micro_of_eci micro eci a.combo.micro_ne_true he] at hfind
  have hg := (Proofs.EncodeStages.findVersion_qr _ _ _ _ _ hfind).1
  rcases (Proofs.EncodeStages.pickVersion_ok_iff ..).1 hv with ⟨-, rfl⟩ | ⟨-, hle'⟩ <;> omega

end Proofs.EndToEnd
