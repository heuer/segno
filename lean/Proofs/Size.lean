/-
  Proofs.Size — the side of a symbol (`Spec.size`) as a linear function of the version, in the form `omega` reads.
-/
import Spec.Geometry

namespace Proofs.Size
open Spec

theorem size_qr (v : Int) (hv : 1 ≤ v) : ((size v : Nat) : Int) = 17 + 4 * v := by
  unfold size; rw [if_pos (by omega)]; omega

theorem size_micro (v : Int) (h1 : -3 ≤ v) (h2 : v < 1) : ((size v : Nat) : Int) = 17 + 2 * v := by
  unfold size; rw [if_neg (by omega)]; omega

theorem size_cases (v : Int) (h : -3 ≤ v) :
    (1 ≤ v ∧ ((size v : Nat) : Int) = 17 + 4 * v) ∨ (v < 1 ∧ ((size v : Nat) : Int) = 17 + 2 * v) := by
  by_cases hv : 1 ≤ v
  · exact .inl ⟨hv, size_qr v hv⟩
  · exact .inr ⟨by omega, size_micro v h (by omega)⟩

theorem le_size_qr (v : Int) (hv : 1 ≤ v) : 21 ≤ size v := by
  have := size_qr v hv; omega

theorem le_size_micro (v : Int) (h1 : -3 ≤ v) (h2 : v < 1) : 11 ≤ size v := by
  have := size_micro v h1 h2; omega

theorem size_lt_21_iff (v : Int) : size v < 21 ↔ v < 1 := by
  unfold size; split <;> omega

end Proofs.Size
