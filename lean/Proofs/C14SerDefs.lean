/-
  Proofs.C14SerDefs — the vocabulary of Props/C14Serializers.lean (definitions only, no Mathlib):

    * `SymbolShaped`      : what a matrix handed to a serialiser looks like (a square 0 / 1 matrix of one of the 44 symbol sizes
                            with at least one dark module);
    * `Ty`, `hasType`, `optTypes`, `DocumentedSer` : the DOCUMENTED option domain of every serialiser, keyword by keyword
                            (docstring of `QRCode.save`, segno/__init__.py), over tagged Python values `Gen.PyV`;
    * `val`, `numV`, `colV`, … : the obvious typed reading of a keyword map, `serRead` : the typed document model each
                            serialiser call amounts to (the table that `Props.C14Ser.serializer_reads` proves);
    * `Malformed`         : the refusals the documentation names, per kind (the table of `serializer_refuses_exactly`);
    * outcome predicates.
-/
import Model.RoutesVec
import Proofs.ColourGrammar
import Spec.Geometry

namespace Proofs.C14Ser
open Gen (PyV)
open Model Model.Cli Model.Routes Model.RoutesDocs Model.RoutesVec Model.RasterDocs

/-! ### the matrix -/

/-- a matrix as `QRCode.matrix` holds it: square, of the size of one of the 44 versions (M1 … M4, 1 … 40), rows of 0 / 1
    values, at least one dark module (every symbol has finder patterns) -/
structure SymbolShaped (M : List (List Nat)) (w h : Nat) : Prop where
  square : h = w
  size : ∃ v : Int, -3 ≤ v ∧ v ≤ 40 ∧ w = Spec.size v
  rows : M.length = h
  cols : ∀ r ∈ M, r.length = w
  bits : ∀ r ∈ M, ∀ x ∈ r, x ≤ 1
  dark : ∃ r ∈ M, ∃ x ∈ r, x ≠ 0

/-! ### documented value types -/

/-- the documented types of serialiser options -/
inductive Ty where
  /-- "Integer or float indicating the size of a single module" -/
  | scale
  /-- "Integer indicating the size of the quiet zone", `None` = default; a float that is negative or has a fractional part
      belongs to the domain as a value that must be REFUSED ("negative or fractional borders"); a float with an integral
      value ≥ 0 (`border=2.0`) does not belong to it (finding: TypeError / struct.error in the raster writers) -/
  | border
  /-- `None`, a string (colour name or hexadecimal notation), a tuple of ints, `(r, g, b, <float alpha>)` -/
  | colour
  /-- a module colour: `False` = undefined (use dark / light), else a colour -/
  | typeColour
  | flag            -- a `bool`
  | text            -- a `str`
  | optText         -- `None` or a `str`
  /-- `compresslevel`: "1 is fastest … 9 is slowest … 0 is no compression" -/
  | level
  /-- `dpi`: `None` or an int -/
  | dpi
  /-- `svgversion`: `None` or a number ("If specified (a float)") -/
  | svgversion
  /-- `dark` / `light` of `write_txt`: a `str` (printed as it is); `None` — what the command line hands over for "transparent" —
      is printed as `str(None)` -/
  | txtText
  deriving DecidableEq, Repr

/-- a colour VALUE of the documented types (well-formed or not) that the keyword universe can express: tuples travel as
    `PyV.other "t:r,g,b[,…]"` (non-negative ints, any length) / `"f:r,g,b,permille"` (float alpha in 1/1000) -/
def isColour : PyV → Bool
  | .none => true
  | .str _ => true
  | .other t => (tupleColor t).isSome
  | _ => false

def hasType : Ty → PyV → Bool
  | .scale, v => isNumber v
  | .border, .none => true
  | .border, .int _ => true
  | .border, v => refusedFloat v
  | .colour, v => isColour v
  | .typeColour, .bool false => true
  | .typeColour, v => isColour v
  | .flag, .bool _ => true
  | .flag, _ => false
  | .text, .str _ => true
  | .text, _ => false
  | .optText, .none => true
  | .optText, .str _ => true
  | .optText, _ => false
  | .level, .int i => decide (0 ≤ i ∧ i ≤ 9)
  | .level, _ => false
  | .dpi, .none => true
  | .dpi, .int _ => true
  | .dpi, _ => false
  | .svgversion, .none => true
  | .svgversion, .int _ => true
  | .svgversion, .float _ d => d != 0
  | .svgversion, _ => false
  | .txtText, .none => true
  | .txtText, .str _ => true
  | .txtText, _ => false

def moduleColours : List String :=
  ["finder_dark", "finder_light", "data_dark", "data_light", "version_dark", "version_light", "format_dark", "format_light",
   "alignment_dark", "alignment_light", "timing_dark", "timing_light", "separator", "dark_module", "quiet_zone"]

def colourOpts : List (String × Ty) := [("dark", .colour), ("light", .colour)] ++ moduleColours.map (fun k => (k, .typeColour))

/-- the serialisers: the twelve keys of `writers._VALID_SERIALIZERS` and `compact` (`write_terminal_compact`) -/
def kinds : List String := ["svg", "png", "eps", "txt", "pdf", "ans", "pbm", "pam", "ppm", "tex", "xbm", "xpm", "compact"]

/-- keyword options of every serialiser with their documented types (docstring of `QRCode.save`) -/
def optTypes (key : String) : List (String × Ty) :=
  if key == "svg" then
    colourOpts ++ [("scale", .scale), ("border", .border), ("xmldecl", .flag), ("svgns", .flag), ("title", .optText), ("desc", .optText),
      ("svgid", .optText), ("svgclass", .optText), ("lineclass", .optText), ("omitsize", .flag), ("unit", .optText), ("encoding", .text),
      ("svgversion", .svgversion), ("nl", .flag), ("draw_transparent", .flag)]
  else if key == "png" then colourOpts ++ [("scale", .scale), ("border", .border), ("compresslevel", .level), ("dpi", .dpi)]
  else if key == "eps" then [("scale", .scale), ("border", .border), ("dark", .colour), ("light", .colour)]
  else if key == "txt" then [("border", .border), ("dark", .txtText), ("light", .txtText)]
  else if key == "pdf" then [("scale", .scale), ("border", .border), ("dark", .colour), ("light", .colour), ("compresslevel", .level)]
  else if key == "ans" then [("border", .border)]
  else if key == "compact" then [("border", .border)]
  else if key == "pbm" then [("scale", .scale), ("border", .border), ("plain", .flag)]
  else if key == "pam" then [("scale", .scale), ("border", .border), ("dark", .colour), ("light", .colour)]
  else if key == "ppm" then colourOpts ++ [("scale", .scale), ("border", .border)]
  else if key == "tex" then [("scale", .scale), ("border", .border), ("dark", .optText), ("unit", .text), ("url", .optText)]
  else if key == "xbm" then [("scale", .scale), ("border", .border), ("name", .text)]
  else if key == "xpm" then [("scale", .scale), ("border", .border), ("dark", .colour), ("light", .colour), ("name", .text)]
  else []

/-- **the documented option domain**: `key` is a serialiser, every keyword of the call is an option of that serialiser and
    its value has the documented type (the value itself may be malformed: scale 0, border -1, colour "#12" …) -/
def DocumentedSer (key : String) (kw : Config) : Prop :=
  key ∈ kinds ∧ ∀ e ∈ kw, (optTypes key).any (fun p => p.1 == e.1 && hasType p.2 e.2) = true

instance (key : String) (kw : Config) : Decidable (DocumentedSer key kw) := by
  unfold DocumentedSer; exact inferInstance

/-! ### the typed reading of a keyword map -/

/-- the value parameter `k` receives: the keyword if given, else the default of the signature (Gen.Sigs) -/
def val (key : String) (kw : Config) (k : String) : PyV :=
  (cget kw k).getD (((serializerDefaults key).getD []).find? (·.1 == k) |>.map (·.2) |>.getD .none)

/-- the keyword map completed with the defaults (what `completeKw` returns) -/
def completed (key : String) (kw : Config) : Config :=
  ((serializerDefaults key).getD []).map (fun d => (d.1, (cget kw d.1).getD d.2))

/-- a number as the raster writers see it (`int(scale)`, `check_valid_border`) -/
def numV : PyV → Num
  | .int i => .int i
  | .float n d => .float (decide (n < 0)) (n.natAbs / d) (decide (n.natAbs % d ≠ 0))
  | _ => .int 1

def optNumV : PyV → Option Num
  | .none => none
  | v => some (numV v)

def colV (v : PyV) : ColorArg := (colorOf v).getD .none

def typeColV : PyV → Option ColorArg
  | .bool false => none
  | v => some (colV v)

def typeOptsV (v : String → PyV) : TypeOpts ColorArg :=
  { finder_dark := typeColV (v "finder_dark"), finder_light := typeColV (v "finder_light"),
    data_dark := typeColV (v "data_dark"), data_light := typeColV (v "data_light"),
    version_dark := typeColV (v "version_dark"), version_light := typeColV (v "version_light"),
    format_dark := typeColV (v "format_dark"), format_light := typeColV (v "format_light"),
    alignment_dark := typeColV (v "alignment_dark"), alignment_light := typeColV (v "alignment_light"),
    timing_dark := typeColV (v "timing_dark"), timing_light := typeColV (v "timing_light"),
    separator := typeColV (v "separator"), dark_module := typeColV (v "dark_module"), quiet_zone := typeColV (v "quiet_zone") }

def flagV : PyV → Bool
  | .bool b => b
  | _ => false

def strV : PyV → String
  | .str s => s
  | _ => ""

/-- `str(x)` of the `dark` / `light` arguments of `write_txt` -/
def txtV (v : PyV) : List Char := (txtStrOf v).getD []

def optStrV : PyV → Option String
  | .str s => some s
  | _ => none

/-- `None` or an `int` border (vector writers) -/
def intBorderV : PyV → Option Int
  | .int i => some i
  | _ => none

def scaleV (svc : Services) (v : PyV) : Svg.Scale := (svgScaleOf svc v).getD (.int 1)

def svgVersionV (svc : Services) (v : PyV) : Option Svg.SvgVersion := (svgVersionOf svc v).getD none

def dpiV (svc : Services) (v : PyV) : Option Dpi := (dpiOf svc v).getD none

def levelV : PyV → Int
  | .int i => i
  | _ => 9

/-- the options of `write_svg` -/
def svgOptsV (svc : Services) (w h : Nat) (v : String → PyV) : Svg.Opts :=
  let t := sizeTexts svc w h (intBorderV (v "border")) (v "scale")
  { scale := scaleV svc (v "scale"), border := intBorderV (v "border"), xmldecl := flagV (v "xmldecl"), svgns := flagV (v "svgns"),
    title := optStrV (v "title"), desc := optStrV (v "desc"), svgid := optStrV (v "svgid"), svgclass := optStrV (v "svgclass"),
    lineclass := optStrV (v "lineclass"), omitsize := flagV (v "omitsize"), unit := optStrV (v "unit"), encoding := optStrV (v "encoding"),
    svgversion := svgVersionV svc (v "svgversion"), nl := flagV (v "nl"), drawTransparent := flagV (v "draw_transparent"),
    widthText := t.1, heightText := t.2 }

def epsOptsV (svc : Services) (vs : VecServices) (w h : Nat) (v : String → PyV) : VectorDocs.EpsOpts :=
  let t := sizeTexts svc w h (intBorderV (v "border")) (v "scale")
  { scale := scaleV svc (v "scale"), border := intBorderV (v "border"), dark := .arg (colV (v "dark")), light := .arg (colV (v "light")),
    date := vs.epsDate, widthText := t.1, heightText := t.2 }

def pdfOptsV (svc : Services) (vs : VecServices) (w h : Nat) (v : String → PyV) : VectorDocs.PdfOpts :=
  let t := sizeTexts svc w h (intBorderV (v "border")) (v "scale")
  { scale := scaleV svc (v "scale"), border := intBorderV (v "border"), dark := .arg (colV (v "dark")), light := .arg (colV (v "light")),
    date := vs.pdfDate, widthText := t.1, heightText := t.2, chan := vs.chan }

def texOptsV (svc : Services) (vs : VecServices) (v : String → PyV) : Tex.Opts :=
  { scale := scaleV svc (v "scale"), border := intBorderV (v "border"), dark := optStrV (v "dark"), unit := strV (v "unit"),
    url := optStrV (v "url"), date := vs.texDate,
    mul := match v "scale" with
      | .float n d => fun k => svc.mulStr k n d
      | _ => fun _ => "" }

/-- the compressed IDAT payload: `zlib.compress(<scanlines>, compresslevel)` (service `deflate`) -/
def pngCompV (svc : Services) (M : List (List Nat)) (w h : Nat) (v : String → PyV) : List Nat :=
  match savePng svc.setOrder M w h (some (colV (v "dark"))) (some (colV (v "light"))) (typeOptsV v) (numV (v "scale")) (optNumV (v "border")) with
  | .ok out => svc.deflate (levelV (v "compresslevel")) out.idat
  | .error _ => []

/-- the whole PNG file of the request (`none` = `struct.error`: a value does not fit a 32-bit field) -/
def pngFileV (svc : Services) (M : List (List Nat)) (w h : Nat) (v : String → PyV) : R (Option (List Nat)) :=
  savePngFile svc.setOrder M w h (some (colV (v "dark"))) (some (colV (v "light"))) (typeOptsV v) (numV (v "scale")) (optNumV (v "border"))
    (dpiV svc (v "dpi")) (pngCompV svc M w h v)

/-- **what a serialiser call amounts to**: the typed whole-document model applied to the values read from the keyword map.
    A refused float border makes the four vector writers raise ValueError in their first statements. -/
def serRead (svc : Services) (vs : VecServices) (M : List (List Nat)) (w h : Nat) (rest : String → Config → R SerOut)
    (key : String) (kw : Config) : R SerOut :=
  let v := val key kw
  if key == "pbm" then bytesOut (pbmDoc M w h (numV (v "scale")) (optNumV (v "border")) (flagV (v "plain")))
  else if key == "ppm" then
    bytesOut (savePpm M w h (some (colV (v "dark"))) (some (colV (v "light"))) (typeOptsV v) (numV (v "scale")) (optNumV (v "border")))
  else if key == "pam" then
    bytesOut (pamDoc M w h (numV (v "scale")) (optNumV (v "border")) (some (colV (v "dark"))) (some (colV (v "light"))))
  else if key == "xbm" then textOut (xbmDoc M w h (numV (v "scale")) (optNumV (v "border")) (strV (v "name")).toList)
  else if key == "xpm" then
    textOut (xpmDoc M w h (numV (v "scale")) (optNumV (v "border")) (some (colV (v "dark"))) (some (colV (v "light"))) (strV (v "name")).toList)
  else if key == "txt" then textOut (txtDoc M w h (optNumV (v "border")) (txtV (v "dark")) (txtV (v "light")))
  else if key == "ans" then textOut (ansiDoc M w h (optNumV (v "border")))
  else if key == "compact" then textOut (compactDoc M w h (optNumV (v "border")))
  else if key == "png" then
    match pngFileV svc M w h v with
    | .error e => .error e
    | .ok (some bs) => .ok (.bytes bs)
    | .ok none => rest "png" (completed "png" kw)
  else if key == "svg" then
    if refusedFloat (v "border") then .error .valueError
    else svgDoc M w h { dark := colV (v "dark"), light := colV (v "light"), to := typeOptsV v, o := svgOptsV svc w h v }
  else if key == "eps" then
    if refusedFloat (v "border") then .error .valueError
    else (VectorDocs.writeEps M w h (epsOptsV svc vs w h v)).map (fun s => .text s.toList none)
  else if key == "pdf" then
    if refusedFloat (v "border") then .error .valueError
    else (VectorDocs.pdfContent M w h (pdfOptsV svc vs w h v)).map (fun p =>
      .bytes (VectorDocs.pdfFile p (svc.deflate (levelV (v "compresslevel")) (VectorDocs.asciiBytes p.content)) vs.pdfDate))
  else if key == "tex" then
    if refusedFloat (v "border") then .error .valueError
    else (Tex.writeTex M w h (texOptsV svc vs v)).map (fun s => .text s.toList none)
  else .error .keyError

/-! ### the refusals the documentation names -/

/-- `int(scale) <= 0`: the raster writers convert the scale to an int first ("note: int(1.6) == 1") -/
def scaleRefusedRaster (v : PyV) : Bool := decide ((numV v).toInt ≤ 0)

/-- `scale <= 0` (writers that accept a float scale) -/
def scaleRefusedVector : PyV → Bool
  | .int i => decide (i ≤ 0)
  | .float n _ => decide (n ≤ 0)
  | _ => false

/-- a negative or fractional border -/
def borderRefused : PyV → Bool
  | .int i => decide (i < 0)
  | v => refusedFloat v

/-- a negative `dpi` -/
def dpiNegative : PyV → Bool
  | .int i => decide (i < 0)
  | _ => false

/-- the colour does not match the documented grammar (`Props.C14.specMeaning`: CSS3 colour name in any letter case, #RGB, #RGBA,
    #RRGGBB, #RRGGBBAA with optional #, 3- or 4-tuple of 8-bit values, float alpha in 0 … 1); `None` is well-formed -/
def malformed (c : ColorArg) : Bool := (Proofs.ColourGrammar.meaning c).isNone

/-- a well-formed colour without transparency, as the writers without alpha channel judge it (`_color_to_rgb`): no alpha value,
    or one that prints as 1.0 with two decimals — the ints 254 and 255, the float 1.0 (quirk: 254 counts as opaqueCol) -/
def opaqueCol (c : ColorArg) : Bool :=
  match Proofs.ColourGrammar.meaning c with
  | some (.exact x) => decide (254 ≤ x.a)
  | some (.approx _ _ _ k) => k == 1000
  | _ => false

/-- the effective border of a request: given, or the default of the symbol size -/
def borderNat (w h : Nat) : PyV → Nat
  | .int i => i.toNat
  | _ => (Gen.get_default_border_size w h).toNat

/-- the colour objects that get a `<path>` in the SVG document (the keys of `coordinates` when the paths are written):
    two colours — the dark colour and, unless it is `None` or equal to the dark colour AS A PYTHON VALUE, the colour of the quiet
    zone; several colours — the first object of every class of equal values among the colours of the modules that occur;
    `None` is removed unless `draw_transparent` -/
def svgPainted (M : List (List Nat)) (w h : Nat) (cm : List (Nat × ColorArg)) (drawTransparent : Bool) (b : Nat) : List ColorArg :=
  let qz := (cmGet cm Gen.TYPE_QUIET_ZONE).getD .none
  let multi := Svg.isMulticolor cm
  let needBg := !multi && qz != .none
  let lines := if multi then (match Svg.colorfulLines M w h b cm with | .ok l => l | .error _ => [])
    else Svg.plainLines M b ((cmGet cm Gen.TYPE_DATA_DARK).getD .none)
  let coords := Svg.accumulate Svg.pyKey lines
  let coords := if needBg then Svg.dictSet Svg.pyKey coords qz [(0, 0, ((w + 2 * b : Nat) : Int))] else coords
  let coords := if !drawTransparent then Svg.dictDel Svg.pyKey coords .none else coords
  coords.map (·.obj)

/-- **the refusal table**: what the documentation says a serialiser refuses, for a request of the documented types -/
def Malformed (M : List (List Nat)) (w h : Nat) (key : String) (kw : Config) : Prop :=
  let v := val key kw
  let dark := colV (v "dark")
  let light := colV (v "light")
  let rasterSB := scaleRefusedRaster (v "scale") = true ∨ borderRefused (v "border") = true
  let vectorSB := scaleRefusedVector (v "scale") = true ∨ borderRefused (v "border") = true
  if key == "pbm" ∨ key == "xbm" then rasterSB
  else if key == "txt" ∨ key == "ans" ∨ key == "compact" then borderRefused (v "border") = true
  else if key == "pam" then rasterSB ∨ dark = .none ∨ malformed dark = true ∨ malformed light = true
  else if key == "xpm" then rasterSB ∨ (dark ≠ .none ∧ opaqueCol dark = false) ∨ (light ≠ .none ∧ opaqueCol light = false)
  else if key == "ppm" then rasterSB ∨ ∃ e ∈ makeColormap w h dark light (typeOptsV v), opaqueCol e.2 = false
  else if key == "png" then
    rasterSB ∨ dpiNegative (v "dpi") = true ∨ ∃ e ∈ makeColormap w h dark light (typeOptsV v), malformed e.2 = true
  else if key == "eps" ∨ key == "pdf" then
    vectorSB ∨ (Svg.isBlack dark = false ∧ opaqueCol dark = false) ∨ (light ≠ .none ∧ opaqueCol light = false)
  else if key == "tex" then vectorSB
  else if key == "svg" then
    vectorSB ∨ (optStrV (v "unit") ≠ none ∧ optStrV (v "unit") ≠ some "" ∧ flagV (v "omitsize") = true)
      ∨ ∃ c ∈ svgPainted M w h (makeColormap w h dark light (typeOptsV v)) (flagV (v "draw_transparent")) (borderNat w h (v "border")),
          c ≠ .none ∧ malformed c = true
  else False

instance (M : List (List Nat)) (w h : Nat) (key : String) (kw : Config) : Decidable (Malformed M w h key kw) := by
  unfold Malformed; dsimp only; exact inferInstance

/-! ### the same conditions on the typed arguments of the document models -/

/-- a border of the documented domain as the raster models see it: absent, an `int`, or a float that is fractional or negative -/
def BorderOK (border : Option Num) : Prop :=
  ∀ x, border = some x → (∃ i, x = .int i) ∨ x.isFractional = true ∨ x.isNegative = true

/-- `scale <= 0` for the writers that accept a float scale -/
def scaleBad : Svg.Scale → Bool
  | .int i => decide (i ≤ 0)
  | .float _ pos _ => !pos

/-- `border < 0` for an `int` border -/
def borderBad : Option Int → Bool
  | some i => decide (i < 0)
  | none => false

/-- a negative `dpi` (`if dpi: … if dpi < 0: raise ValueError`) -/
def dpiBad : Option Dpi → Bool
  | some d => d.truthy && decide (d.int < 0)
  | none => false

/-- the size of a symbol -/
def SymbolSize (w : Nat) : Prop := ∃ v : Int, -3 ≤ v ∧ v ≤ 40 ∧ w = Spec.size v

/-! ### outcomes -/

/-- the value fits the 32-bit fields of the PNG container (`struct.pack('>I', …)`): width, height, pixels per metre, chunk lengths.
    Not a property of the argument types: `dpi=200000000` ends in `struct.error` in the real code as well. -/
def PngFits (svc : Services) (M : List (List Nat)) (w h : Nat) (kw : Config) : Prop :=
  pngFileV svc M w h (val "png" kw) ≠ .ok none

/-- a serialiser call ends in a document or in ValueError -/
def Clean {α : Type} (r : R α) : Prop := (∃ x, r = .ok x) ∨ r = .error .valueError

end Proofs.C14Ser
