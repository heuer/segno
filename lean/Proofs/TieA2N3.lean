/-
  Proofs.TieA2N3 — `mask_scores.n3_pattern_occurrences` (translated, Gen/Funcs2.lean) against `Model.n3Occurrences`:
  the `while idx != -1` loop over `seq.find(n3_pattern, idx + 4)` and the model's `go` run in lock-step, and the
  declared fuel `len(seq) + 1` of the translation always suffices (each further hit lies at least 4 to the right).
-/
import Gen.Funcs2
import Proofs.TieA2
import Model.Encoder
import Proofs.Mask

namespace Proofs.TieA2
open Gen.Py Model

theorem findSome_guard_eq_find (l : List Nat) (p q : Nat → Bool) (f : Nat → Nat) (h : ∀ k ∈ l, q k = p k) :
    l.findSome? (fun k => if q k then some (f k) else none) = (l.find? p).map f := by
  induction l with
  | nil => rfl
  | cons a l ih =>
    have ha : q a = p a := h a (by simp)
    have ih' := ih (fun k hk => h k (by simp [hk]))
    rw [List.findSome?_cons, List.find?_cons, ha]
    cases hp : p a
    · simpa using ih'
    · simp

theorem n3Pattern_toI : ([1, 0, 1, 1, 1, 0, 1] : List Int) = toI Model.n3Pattern := rfl

theorem window_beq (seq : List Nat) (a : Nat) :
    (((toI seq).drop a).take 7 == toI Model.n3Pattern) = ((seq.drop a).take 7 == Model.n3Pattern) := by
  have hinj : ∀ x y : Nat, Int.ofNat x = Int.ofNat y → x = y := fun x y h => Int.ofNat.inj h
  rw [← toI_drop, ← toI_take, Bool.eq_iff_iff]
  simp only [beq_iff_eq, toI]
  exact List.map_inj_right hinj

/-- the encoding of the result of `find`: an index, or `-1` -/
def encIdx : Option Nat → Int
  | some i => (i : Int)
  | none => -1

theorem find_n3 (seq : List Nat) (start : Nat) :
    Gen.Py.find (toI seq) [1, 0, 1, 1, 1, 0, 1] (start : Int) = encIdx (Model.findPattern seq start) := by
  rw [n3Pattern_toI]
  unfold Gen.Py.find Model.findPattern
  simp only [toI_length]
  have hlen : Model.n3Pattern.length = 7 := rfl
  rw [hlen]
  by_cases hs : (start : Int) > (seq.length : Int)
  · rw [if_pos hs]
    have : seq.length + 1 - start - 7 + 0 = 0 := by omega
    rw [this]
    rfl
  · rw [if_neg hs]
    rw [clip_nat, Nat.min_eq_left (by omega)]
    have hr : seq.length + 1 - start - 7 + 0 = seq.length + 1 - 7 - start := by omega
    rw [hr]
    have key := findSome_guard_eq_find (List.range (seq.length + 1 - 7 - start))
      (fun k => ((toI seq).drop (start + k)).take 7 == toI Model.n3Pattern)
      (fun k => decide (start + k + 7 ≤ seq.length) && ((seq.drop (start + k)).take 7 == Model.n3Pattern))
      (fun k => start + k)
      (by
        intro k hk
        have hk' : k < seq.length + 1 - 7 - start := List.mem_range.mp hk
        have : decide (start + k + 7 ≤ seq.length) = true := decide_eq_true (by omega)
        simp only [this, Bool.true_and]
        exact (window_beq seq (start + k)).symm)
    rw [key]
    cases List.find? (fun k => ((toI seq).drop (start + k)).take 7 == toI Model.n3Pattern)
        (List.range (seq.length + 1 - 7 - start)) with
    | none => rfl
    | some k => rfl

theorem findPattern_bounds (seq : List Nat) (start i : Nat) (h : Model.findPattern seq start = some i) :
    start ≤ i ∧ i + 7 ≤ seq.length :=
  let ⟨h1, h2, _⟩ := Proofs.Mask.findPattern_some h
  ⟨h1, h2.lt⟩

theorem any_toI (l : List Nat) : (toI l).any (fun x => x != 0) = anyNonZero l := by
  unfold toI anyNonZero
  rw [List.any_map]
  congr 1
  funext a
  simp only [Function.comp]
  rw [Bool.eq_iff_iff]
  simp only [bne_iff_ne, ne_eq]
  constructor
  · intro h h'; exact h (by subst h'; rfl)
  · intro h h'; exact h (by exact Int.ofNat.inj h')

/-- enough fuel for the translation: each further hit lies at least 4 to the right of the current one -/
def n3Inv (len fuel : Nat) : Option Nat → Prop
  | some i => i + 7 ≤ len ∧ (len - 7 - i) / 4 + 2 ≤ fuel
  | none => 1 ≤ fuel

theorem n3_loop (seq : List Nat) (body : (Int × Int) → M (Gen.Py.Step (Int × Int) Int))
    (hsome : ∀ c i : Nat, i + 7 ≤ seq.length → body ((c : Int), (i : Int))
      = .ok (.next (((if Proofs.Mask.hitM seq i then c + 40 else c : Nat) : Int), encIdx (Model.findPattern seq (i + 4)))))
    (hnone : ∀ c : Int, body (c, (-1 : Int)) = .ok (.brk (c, (-1 : Int)))) :
    ∀ (fuel : Nat) (idx? : Option Nat) (count : Nat), n3Inv seq.length fuel idx? →
      Gen.Py.whileM fuel ((count : Int), encIdx idx?) body
        = .ok (.fin (((Model.n3Occurrences.go seq seq.length fuel idx? count : Nat) : Int), (-1 : Int))) := by
  intro fuel
  induction fuel with
  | zero =>
    intro idx? count hinv
    cases idx? with
    | none => simp only [n3Inv] at hinv; omega
    | some i => simp only [n3Inv] at hinv; omega
  | succ f ih =>
    intro idx? count hinv
    cases idx? with
    | none =>
      rw [Proofs.Mask.n3Occurrences_go_none]
      show Gen.Py.whileM (f + 1) ((count : Int), (-1 : Int)) _ = _
      rw [Gen.Py.whileM, hnone]
    | some i =>
      simp only [n3Inv] at hinv
      obtain ⟨hi, hfuel⟩ := hinv
      rw [Proofs.Mask.n3Occurrences_go_some]
      show Gen.Py.whileM (f + 1) ((count : Int), (i : Int)) _ = _
      rw [Gen.Py.whileM, hsome count i hi]
      simp only
      apply ih
      cases hfp : Model.findPattern seq (i + 4) with
      | none => simp only [n3Inv]; omega
      | some j =>
        obtain ⟨h1, h2⟩ := findPattern_bounds seq (i + 4) j hfp
        simp only [n3Inv]
        refine ⟨h2, ?_⟩
        omega

/-- the `while` loop of `n3_pattern_occurrences` with its declared fuel, for any body that does what the source does on a hit
    (`hsome`) and at the end of the search (`hnone`): it ends with `Model.n3Occurrences` -/
theorem n3_while {β : Type} (seq : List Nat) (body : (Int × Int) → M (Gen.Py.Step (Int × Int) Int))
    (K : Gen.Py.Done (Int × Int) Int → M β)
    (hsome : ∀ c i : Nat, i + 7 ≤ seq.length → body ((c : Int), (i : Int))
      = .ok (.next (((if Proofs.Mask.hitM seq i then c + 40 else c : Nat) : Int), encIdx (Model.findPattern seq (i + 4)))))
    (hnone : ∀ c : Int, body (c, (-1 : Int)) = .ok (.brk (c, (-1 : Int)))) :
    Gen.Py.bind (Gen.Py.whileM (seq.length + 1) ((0 : Int), encIdx (Model.findPattern seq 0)) body) K
      = K (.fin (((Model.n3Occurrences seq : Nat) : Int), (-1 : Int))) := by
  have hinv : n3Inv seq.length (seq.length + 1) (Model.findPattern seq 0) := by
    cases hfp : Model.findPattern seq 0 with
    | none => simp only [n3Inv]; omega
    | some j =>
      obtain ⟨h1, h2⟩ := findPattern_bounds seq 0 j hfp
      simp only [n3Inv]
      refine ⟨h2, ?_⟩
      omega
  have := n3_loop seq body hsome hnone (seq.length + 1) (Model.findPattern seq 0) 0 hinv
  rw [show (((0 : Nat) : Int)) = (0 : Int) from rfl] at this
  rw [this]
  rfl

theorem n3_occurrences_eq (seq : List Nat) :
    Gen.Funcs2.n3_pattern_occurrences [1, 0, 1, 1, 1, 0, 1] (seq.length : Int) (toI seq)
      = .ok (Int.ofNat (Model.n3Occurrences seq)) := by
  unfold Gen.Funcs2.n3_pattern_occurrences
  have hfuel : ((Int.ofNat (toI seq).length) + (1 : Int)).toNat = seq.length + 1 := by
    rw [toI_length]
    show ((seq.length : Int) + 1).toNat = seq.length + 1
    omega
  have h0 : Gen.Py.find (toI seq) [1, 0, 1, 1, 1, 0, 1] (0 : Int) = encIdx (Model.findPattern seq 0) := find_n3 seq 0
  simp only [hfuel, h0]
  rw [n3_while seq _ _ ?hsome ?hnone]
  · rfl
  · -- a hit at `i`: the two slices are the four modules before and after it, the test is `hitM`
    intro c i hi
    have hne : (!((i : Int) == (-1 : Int))) = true := by
      rw [Bool.not_eq_true', beq_eq_false_iff_ne]; omega
    simp only [hne, if_true]
    have hfind : Gen.Py.find (toI seq) [1, 0, 1, 1, 1, 0, 1] ((i : Int) + 4) = encIdx (Model.findPattern seq (i + 4)) := by
      have := find_n3 seq (i + 4)
      rwa [show (((i + 4 : Nat) : Int)) = (i : Int) + 4 by push_cast; rfl] at this
    rw [hfind]
    have h0 : ((i : Int) == 0) = (i == 0) := by
      rw [Bool.eq_iff_iff]; simp only [beq_iff_eq]; omega
    have h7 : ((i : Int) == (seq.length : Int) - 7) = (i + 7 == seq.length) := by
      rw [Bool.eq_iff_iff]; simp only [beq_iff_eq]; omega
    -- the two slices are `seq[i - 4 : i]` and `seq[i + 7 : i + 11]`, cut off at the ends of the sequence
    rw [h0, h7, show max ((i : Int) - 4) 0 = ((i - 4 : Nat) : Int) by omega,
      show min (i : Int) (seq.length : Int) = ((min i seq.length : Nat) : Int) by omega,
      show max ((i : Int) + 7) 0 = ((i + 7 : Nat) : Int) by omega,
      show min ((i : Int) + 7 + 4) (seq.length : Int) = ((min (i + 7 + 4) seq.length : Nat) : Int) by omega,
      slice_nat, slice_nat, ← toI_drop, ← toI_take, ← toI_drop, ← toI_take, any_toI, any_toI]
    have hhit : ((i == 0 || i + 7 == seq.length)
        || (!anyNonZero ((seq.drop (i - 4)).take (min i seq.length - (i - 4)))
          || !anyNonZero ((seq.drop (i + 7)).take (min (i + 7 + 4) seq.length - (i + 7))))) = Proofs.Mask.hitM seq i := by
      unfold Proofs.Mask.hitM
      simp only [Bool.or_assoc]
    rw [hhit]
    cases Proofs.Mask.hitM seq i
    · rfl
    · simp only [if_true]
      push_cast
      rfl
  · intro c; simp

end Proofs.TieA2
