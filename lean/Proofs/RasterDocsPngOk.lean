/-
  The chunk contents `Model.savePng` produces satisfy what the container reader demands
  (`OutOK`), and the colour table the container reader builds shows every sample as `Proofs.Png.readColour` does.
-/
import Proofs.RasterDocsPngContainer
import Proofs.PngIndex
import Proofs.PngTwoTone

namespace Proofs.RasterDocs

open Model Spec Proofs.Png

theorem paletteFrom_grey (P0 : List PColor) (clrMap : List (Nat × PColor)) (p : PaletteInfo)
    (hp : paletteFrom P0 clrMap = .ok p) (hnd : P0.Nodup) (hsorted : P0.Pairwise (fun a b => keyLe a b = true)) (hg : p.isGrey = true) :
    p.depth = 1 ∧ (p.isTransparent = true → p.transIdx < 2) := by
  obtain ⟨_, rfl⟩ | ⟨rest, T, rfl, _, rfl⟩ | ⟨rfl, rfl⟩ | ⟨rfl, rfl⟩ | ⟨rfl, rfl⟩ := paletteFrom_ok P0 clrMap p hp hnd hsorted
  · cases hg
  · cases hg
  all_goals exact ⟨rfl, fun _ => by dsimp only; omega⟩

theorem palette_indexed (setOrder : List PColor → List PColor) (hset : SetOrderOK setOrder) (clrMap : List (Nat × PColor))
    (p : PaletteInfo) (hp : buildPalette setOrder clrMap = .ok p) (hlen : clrMap.length ≤ 16) (hne : clrMap ≠ []) (hg : p.isGrey = false) :
    ∃ n, 0 < n ∧ (plteBytes p).length = 3 * n ∧ n ≤ 2 ^ p.depth ∧ (trnsBytes p).length ≤ n := by
  have hp' : paletteFrom (palette0 setOrder clrMap) clrMap = .ok p := hp
  have hl : (palette0 setOrder clrMap).length ≤ 16 := Nat.le_trans (length_palette0_le setOrder hset clrMap) hlen
  obtain ⟨_, hpl, _, hle, _, _⟩ := paletteFrom_facts (palette0 setOrder clrMap) clrMap p hp'
    (nodup_palette0 setOrder hset clrMap) (sorted_palette0 setOrder clrMap) hl
  have hpos : 0 < (palette0 setOrder clrMap).length := by
    obtain ⟨e, rest, rfl⟩ : ∃ e rest, clrMap = e :: rest := by
      cases clrMap with
      | nil => exact absurd rfl hne
      | cons e rest => exact ⟨e, rest, rfl⟩
    have : e.2 ∈ palette0 setOrder (e :: rest) := (mem_palette0 setOrder hset _ e.2).2 (by simp)
    exact List.length_pos_of_mem this
  refine ⟨p.palette.length, by omega, ?_, hle, ?_⟩
  · simp only [plteBytes, hg, Bool.false_eq_true, if_false]
    exact length_flatMap_rgb3 _
  · unfold trnsBytes
    simp only [hg, Bool.not_false, if_true]
    split
    · rw [List.length_map]; exact List.length_filter_le _ _
    · split
      · simp; omega
      · simp

theorem savePng_outOK (setOrder : List PColor → List PColor) (hset : SetOrderOK setOrder) (M : List (List Nat)) (w h : Nat)
    (dark light : Option ColorArg) (o : TypeOpts ColorArg) (scale : Num) (border : Option Num) (out : PngOut)
    (hw : 0 < w) (hh : 0 < h) (hs : savePng setOrder M w h dark light o scale border = .ok out)
    (hwl : out.width < 4294967296) (hhl : out.height < 4294967296) : OutOK out := by
  unfold savePng at hs
  obtain ⟨clrMap, p, b, idx, hparse, hpal, _, _, hspos, _, _, hout⟩ := writePng_ok setOrder M w h _ scale border out hs
  have hcmlen := makeColormap_length w h (dark.getD (.str "#000")) (light.getD (.str "#fff")) o
  have hlen : clrMap.length ≤ 16 := by rw [parseColormap_length _ _ hparse]; omega
  have hne : clrMap ≠ [] := by
    intro h0
    have hl := parseColormap_length _ _ hparse
    rw [h0] at hl
    -- the quiet zone entry is never dropped
    have hq := Proofs.Colormap.colormap_quiet_zone w h (dark.getD (.str "#000")) (light.getD (.str "#fff")) o
    generalize makeColormap w h _ _ o = cm at hq hl
    cases cm with
    | nil => cases hq
    | cons _ _ => cases hl
  have hd := (buildPalette_facts setOrder hset clrMap p hpal hlen).depth
  have hp' : paletteFrom (palette0 setOrder clrMap) clrMap = .ok p := hpal
  subst hout
  refine ⟨Nat.mul_pos (by omega) hspos, Nat.mul_pos (by omega) hspos, hwl, hhl, hd, ?_, ?_, ?_⟩
  · cases p.isGrey <;> simp
  · intro hc
    have hg : p.isGrey = true := by cases hgr : p.isGrey <;> simp [hgr] at hc ⊢
    obtain ⟨hd1, htr⟩ := paletteFrom_grey _ _ p hp' (nodup_palette0 setOrder hset clrMap) (sorted_palette0 setOrder clrMap) hg
    refine ⟨by simp [plteBytes, hg], ?_⟩
    unfold trnsBytes
    simp only [hg, Bool.not_true, Bool.false_eq_true, if_false]
    by_cases ht : p.isTransparent = true
    · right
      have := htr ht
      refine ⟨p.transIdx, ?_, ?_⟩
      · simp only [ht, if_true]
        have e1 : p.transIdx / 256 % 256 = 0 := by omega
        have e2 : p.transIdx % 256 = p.transIdx := by omega
        rw [e1, e2]
      · simp only [hd1]; omega
    · left; simp [ht]
  · intro hc
    have hg : p.isGrey = false := by cases hgr : p.isGrey <;> simp [hgr] at hc ⊢
    exact palette_indexed setOrder hset clrMap p hpal hlen hne hg

theorem getD_take_drop {α : Type} (l : List α) (a k j : Nat) (d : α) (hj : j < k) : ((l.drop a).take k).getD j d = l.getD (a + j) d := by
  simp only [List.getD_eq_getElem?_getD, List.getElem?_take, hj, if_true, List.getElem?_drop]

theorem tableOf_eq (o : PngOut) (hc : o.ctype ≠ 0) : tableOf o = plteOfBytes o.plte o.trns := by
  apply List.ext_getElem?
  intro i
  unfold tableOf plteOfBytes
  simp only [List.getElem?_map, List.getElem?_zipIdx, chunks_getElem?, hc, if_false, Nat.zero_add]
  by_cases hi : i < o.plte.length / 3
  · simp only [hi, if_true, Option.map_some]
    have h0 := getD_take_drop o.plte (i * 3) 3 0 0 (by decide)
    have h1 := getD_take_drop o.plte (i * 3) 3 1 0 (by decide)
    have h2 := getD_take_drop o.plte (i * 3) 3 2 0 (by decide)
    simp only [Nat.add_zero] at h0
    rw [h0, h1, h2, Nat.mul_comm i 3]
    have hr : (List.range (o.plte.length / 3))[i]? = some i := by simp [hi]
    simp [hr]
  · simp [hi]

theorem pngColour_container (o : PngOut) (ok : OutOK o) (ppm : Nat) (comp : List Nat) (k : Nat) :
    L.pngColour (containerOf o ppm comp) k = readColour o.depth o.ctype o.plte o.trns k := by
  unfold L.pngColour readColour specPng Png.img
  rcases ok.ctype with hc | hc
  · obtain ⟨_, ht⟩ := ok.grey hc
    rcases ht with ht | ⟨v, ht, _⟩
    · simp [containerOf, hc, ht]
    · simp [containerOf, hc, ht]
  · have hc0 : o.ctype ≠ 0 := by omega
    simp [containerOf, hc, tableOf_eq o hc0]

end Proofs.RasterDocs
