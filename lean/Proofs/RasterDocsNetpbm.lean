/-
  The list-level Netpbm readers (Spec/RasterL.lean) applied to the whole files the
  model writes (Model/RasterDocs.lean): PBM, raw (P4) and plain (P1).  First what the other formats share with it: the
  black-and-white picture of a grid (`bwPicture`) and reading back rows packed into bytes (`packed_rows_read`, also XBM).
-/
import Proofs.RasterDocsBase

namespace Proofs.RasterDocs

open Model Model.RasterDocs Spec Proofs.Raster

/-- the picture of a 0 / 1 grid in black (dark) and white (light) -/
def bwPicture (g : List (List Nat)) : List (List (Option RGBA)) :=
  g.map (fun row => row.map (fun v => some (if v ≠ 0 then black else white)))

theorem map_bw_bits (g : List (List Nat)) (hg : ∀ r ∈ g, ∀ v ∈ r, v ≤ 1) : g.map (fun row => row.map L.bw) = bwPicture g := by
  unfold bwPicture
  apply List.map_congr_left
  intro r hr
  apply List.map_congr_left
  intro v hv
  exact bw_bit v (hg r hr v hv)

/-- shared by PBM P4 and XBM, which differ only in the order of the bits within a byte -/
theorem packed_rows_read (pk : List Nat → List Nat) (unpk : Nat → List Nat → List Nat)
    (hun : ∀ r : List Nat, (∀ v ∈ r, v ≤ 1) → unpk r.length (pk r) = r)
    (W H k : Nat) (rows : List (List Nat)) (hH : rows.length = H) (hW : ∀ r ∈ rows, r.length = W)
    (hk : ∀ r ∈ rows, (pk r).length = k) (hbits : ∀ r ∈ rows, ∀ v ∈ r, v ≤ 1) :
    (L.chunks k H (rows.flatMap pk)).map (fun row => (unpk W row).map L.bw) = bwPicture rows := by
  rw [← hH, ← map_bw_bits rows hbits]
  apply chunks_read pk _ _ k rows hk
  intro r hr
  show (unpk W (pk r)).map L.bw = r.map L.bw
  rw [← hW r hr, hun r (hbits r hr)]

theorem scaleTo255_byte (v : Nat) (hv : v ≤ 255) : L.scaleTo255 255 v = some v := by
  unfold L.scaleTo255
  have h1 : ¬ v > 255 := by omega
  have h2 : v * 255 % 255 = 0 := Nat.mul_mod_left _ _
  simp [h1, h2]

theorem pbmHeader_eq (t : List Nat) (plain : Bool) (W H : Nat) (raster : List Nat) :
    pbmHeader (35 :: t) plain W H ++ raster =
      80 :: (if plain then 49 else 52) :: 10 :: 35 :: (t ++ 10 :: (decBytes W ++ 32 :: (decBytes H ++ 10 :: raster))) := by
  cases plain <;> simp [pbmHeader, ascii]

theorem readNum_pbm_header (t : List Nat) (ht : ∀ c ∈ t, c ≠ 10 ∧ c ≠ 13) (W H : Nat) (raster : List Nat) :
    L.readNum (10 :: 35 :: (t ++ 10 :: (decBytes W ++ 32 :: (decBytes H ++ 10 :: raster)))) = some (W, 32 :: (decBytes H ++ 10 :: raster))
    ∧ L.readNum (32 :: (decBytes H ++ 10 :: raster)) = some (H, 10 :: raster) := by
  constructor
  · rw [readNum_ws 10 _ (by decide), readNum_comment t _ ht, readNum_dec W 32 _ (by decide)]
  · rw [readNum_ws 32 _ (by decide), readNum_dec H 10 _ (by decide)]

theorem pbmDoc_eq {w h : Nat} {scale : Num} {border : Option Num} {b : Nat} (a : Admitted w h scale border b)
    (M : List (List Nat)) (hM : WellFormed M w h) (plain : Bool) :
    pbmDoc M w h scale border plain =
      .ok (pbmHeader (35 :: commentTail) plain ((w + 2 * b) * scale.toInt.toNat) ((h + 2 * b) * scale.toInt.toNat)
            ++ (if plain then (grid M w h scale.toInt.toNat b).flatMap plainRow else (grid M w h scale.toInt.toNat b).flatMap (packRow 1))) := by
  simp only [pbmDoc, validSB_ok a, createdBy_eq, matrixIter_ok a M hM, a.okRange, bind, Except.bind, pure, Except.pure]

theorem decBytes_bit (v : Nat) (hv : v ≤ 1) : decBytes v = [48 + v] := by
  have : v = 0 ∨ v = 1 := by omega
  rcases this with rfl | rfl <;> rfl

theorem plainRow_bits (row : List Nat) (hrow : ∀ v ∈ row, v ≤ 1) : plainRow row = row.map (48 + ·) ++ [10] := by
  unfold plainRow
  congr 1
  induction row with
  | nil => rfl
  | cons v r ih =>
    simp only [List.flatMap_cons, List.map_cons]
    rw [decBytes_bit v (hrow v (by simp)), ih (fun x hx => hrow x (by simp [hx]))]
    rfl

theorem plain_row_facts (r : List Nat) (hr : ∀ v ∈ r, v ≤ 1) :
    ((r.map (48 + ·) ++ [10]).any (fun c => !(c == 48 || c == 49 || isWs c))) = false
    ∧ ((r.map (48 + ·) ++ [10]).filter (fun c => c == 48 || c == 49)).map (· - 48) = r := by
  have hmem : ∀ c ∈ r.map (48 + ·), (c == 48 || c == 49) = true := by
    intro c hc
    simp only [List.mem_map] at hc
    obtain ⟨v, hv, rfl⟩ := hc
    have : v = 0 ∨ v = 1 := by have := hr v hv; omega
    rcases this with rfl | rfl <;> decide
  constructor
  · rw [List.any_eq_false]
    intro x hx
    simp only [List.mem_append, List.mem_singleton] at hx
    rcases hx with hx | rfl
    · have := hmem x hx
      simp only [Bool.or_eq_true, beq_iff_eq] at this
      rcases this with rfl | rfl <;> decide
    · decide
  · rw [List.filter_append, List.filter_eq_self.2 hmem]
    have h10 : List.filter (fun c => c == 48 || c == 49) [10] = [] := by decide
    rw [h10, List.append_nil, List.map_map]
    have : ((fun x => x - 48) ∘ fun x => 48 + x) = (id : Nat → Nat) := by funext x; simp
    rw [this, List.map_id]

theorem plain_raster_ok (rows : List (List Nat)) (hrows : ∀ r ∈ rows, ∀ v ∈ r, v ≤ 1) :
    ((10 :: rows.flatMap plainRow).any (fun c => !(c == 48 || c == 49 || isWs c))) = false
    ∧ ((10 :: rows.flatMap plainRow).filter (fun c => c == 48 || c == 49)).map (· - 48) = rows.flatten := by
  have hbody : ((rows.flatMap plainRow).any (fun c => !(c == 48 || c == 49 || isWs c))) = false
      ∧ ((rows.flatMap plainRow).filter (fun c => c == 48 || c == 49)).map (· - 48) = rows.flatten := by
    induction rows with
    | nil => constructor <;> rfl
    | cons r rest ih =>
      have h1 := plain_row_facts r (hrows r (by simp))
      have h2 := ih (fun x hx => hrows x (by simp [hx]))
      rw [List.flatMap_cons, plainRow_bits r (hrows r (by simp))]
      constructor
      · rw [List.any_append, h1.1, h2.1]; rfl
      · rw [List.filter_append, List.map_append, h1.2, h2.2]; rfl
  constructor
  · rw [List.any_cons, hbody.1]; decide
  · have h10 : (10 == 48 || 10 == 49) = false := by decide
    rw [List.filter_cons]
    simp only [h10, Bool.false_eq_true, if_false]
    exact hbody.2

theorem readPbm_rows (plain : Bool) (rows : List (List Nat)) (W H : Nat) (g : Rect rows W H) (hbits : ∀ r ∈ rows, ∀ v ∈ r, v ≤ 1) :
    L.readPbm (pbmHeader (35 :: commentTail) plain W H ++ (if plain then rows.flatMap plainRow else rows.flatMap (packRow 1)))
      = .ok { w := W, h := H, px := bwPicture rows } := by
  rw [pbmHeader_eq]
  have hws : (!isWs 10) = false := by decide
  cases plain
  · have hnum := readNum_pbm_header commentTail commentTail_ok W H (rows.flatMap (packRow 1))
    have hrowlen : ∀ r ∈ rows, (packRow 1 r).length = (W + 7) / 8 := by
      intro r hr
      rw [packRow_length, g.rowLen r hr]
      omega
    have hlen : (rows.flatMap (packRow 1)).length = (W + 7) / 8 * H := by
      rw [length_flatMap_const _ _ _ hrowlen, g.len]
    simp only [L.readPbm, Bool.false_eq_true, if_false, List.headD_cons, hnum.1, hnum.2, g.w0, g.h0, Bool.or_self, List.drop_succ_cons,
      List.drop_zero, List.isEmpty_cons, hlen, bne_self_eq_false, hws, beq_self_eq_true, if_true, Bool.false_and]
    rw [packed_rows_read (packRow 1) (unpackRow 1) unpack_pack1 _ _ _ _ g.len g.rowLen hrowlen hbits]
  · have hnum := readNum_pbm_header commentTail commentTail_ok W H (rows.flatMap plainRow)
    have hraster := plain_raster_ok rows hbits
    have hflat : rows.flatten.length = W * H := by
      have := length_flatMap_const (fun r : List Nat => r) _ rows g.rowLen
      rw [g.len] at this
      simpa [List.flatMap_id'] using this
    have hk2 : (49 == 52) = false := by decide
    have hch := chunks_flatten _ rows g.rowLen
    rw [g.len] at hch
    simp only [L.readPbm, if_true, List.headD_cons, hnum.1, hnum.2, g.w0, g.h0, Bool.or_self, hk2, hws, Bool.false_eq_true, if_false,
      hraster.1, hraster.2, hflat, bne_self_eq_false, Bool.and_false, hch, map_bw_bits _ hbits]

theorem pbm_doc {w h : Nat} {scale : Num} {border : Option Num} {b : Nat} (a : Admitted w h scale border b)
    (M : List (List Nat)) (hM : WellFormed M w h) (hbits : Bits M) (hw : 0 < w) (hh : 0 < h) (plain : Bool) :
    ∃ doc, pbmDoc M w h scale border plain = .ok doc
      ∧ L.readPbm doc = .ok { w := (w + 2 * b) * scale.toInt.toNat, h := (h + 2 * b) * scale.toInt.toNat,
                              px := bwPicture (grid M w h scale.toInt.toNat b) } :=
  ⟨_, pbmDoc_eq a M hM plain, readPbm_rows plain _ _ _ (grid_rect M b hw hh a.pos) (grid_bits M w h _ b hbits)⟩

end Proofs.RasterDocs
