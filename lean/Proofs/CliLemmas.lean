/-
  A file name `stem.ext` whose extension has no dot splits at that dot (`afterLastDot`,
  `splitLastDot`); ASCII lower-casing neither makes nor removes a dot.
-/
import Model.Cli

namespace Proofs.CliLemmas
open Model.Cli

theorem afterLastDot_append (stem ext : Str) (h : '.' ∉ ext) :
    afterLastDot (stem ++ '.' :: ext) = ext := by
  induction stem with
  | nil => simp [afterLastDot, h]
  | cons c rest ih => simp [afterLastDot, ih]

theorem afterLastDot_noDot (s : Str) (h : '.' ∉ s) : afterLastDot s = s := by
  induction s with
  | nil => rfl
  | cons c rest ih =>
    simp only [List.mem_cons, not_or] at h
    have h2 : ¬ c = '.' := fun e => h.1 e.symm
    simp [afterLastDot, h.2, h2]

theorem splitLastDot_noDot (s : Str) (h : '.' ∉ s) : splitLastDot s = none := by
  induction s with
  | nil => rfl
  | cons c rest ih =>
    simp only [List.mem_cons, not_or] at h
    have h2 : ¬ c = '.' := fun e => h.1 e.symm
    simp [splitLastDot, ih h.2, h2]

theorem splitLastDot_append (stem ext : Str) (h : '.' ∉ ext) :
    splitLastDot (stem ++ '.' :: ext) = some (stem, '.' :: ext) := by
  induction stem with
  | nil => simp [splitLastDot, splitLastDot_noDot ext h]
  | cons c rest ih => simp [splitLastDot, ih]

theorem lowerC_eq_dot (c : Char) : lowerC c = '.' ↔ c = '.' := by
  constructor
  · intro he
    unfold lowerC at he
    split at he <;> first | exact he | (exact absurd he (by decide))
  · intro he; subst he; rfl

theorem dot_mem_lower (s : Str) : '.' ∈ lower s ↔ '.' ∈ s := by
  simp only [lower, List.mem_map, lowerC_eq_dot, exists_eq_right]

theorem dot_not_mem_of_lower_eq {ext ext' : Str} (hd : '.' ∉ ext) (hc : lower ext' = lower ext) : '.' ∉ ext' :=
  fun h => hd ((dot_mem_lower ext).1 (hc ▸ (dot_mem_lower ext').2 h))

end Proofs.CliLemmas
