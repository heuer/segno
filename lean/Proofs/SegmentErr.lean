/-
  Proofs.SegmentErr — `makeSegment` / `prepareData` (the model of `make_segment` / `prepare_data`) end in
  segments or in ValueError: no other outcome, for every input.
-/
import Proofs.Modes

namespace Proofs.SegmentErr
open Model Proofs.Modes
open Proofs.Except (RaisesOnly)

macro "close_mapm" h:ident heq:ident : tactic => `(tactic| (
  cases $h:ident
  refine mapM_err _ ?_ _ _ $heq:ident
  intro a e' ha
  repeat' split at ha
  all_goals first | (cases ha; rfl) | (cases ha; done)))

/-- read off the decomposition `makeSegment = segModeOf >>= segBody`: the mode check and the bits are chains of `if`s whose
    leaves are values or ValueError -/
theorem makeSegment_err (d : List Nat) (m : Option Nat) (enc : String) :
    RaisesOnly (· = .valueError) (makeSegment d m enc) := by
  rw [makeSegment_eq]
  refine .bind ?_ fun sm _ => .map ?_ _
  · cases m with
    | none => exact .ok _
    | some m => exact .ite (.error rfl) (.ok _)
  · have groups (g : Nat × Nat → R (List Nat)) (hg : ∀ p, RaisesOnly (· = .valueError) (g p)) :
        RaisesOnly (· = .valueError) (((pairs d).mapM g).map List.flatten) :=
      .map (.mapM fun p _ => hg p) _
    exact .ite (.error rfl) <| .ite (.ok _) <| .ite (.ok _) <| .ite (.ok _) <| .ite
      (groups _ fun p => by rw [hanziGroup_guard]; exact .ite (.ok _) (.error rfl))
      (groups _ fun p => by rw [kanjiGroup_guard]; exact .ite (.ok _) (.error rfl))

theorem prepareData_err (ps : List Part) : RaisesOnly (· = .valueError) (prepareData ps) :=
  .foldlM (fun _ _ _ => .bind (makeSegment_err _ _ _) fun _ _ => .ok _) []

end Proofs.SegmentErr
