/-
  The finished matrix read by the reference reader: data bits, header, function patterns.
-/
import Spec.Decode
import Model.Encoder
import Proofs.EndToEndHeader

namespace Proofs.EndToEnd
open Model Proofs.Placement2

theorem microSymbol_facts (v lvl : Int) (s : Nat) (h : Spec.microSymbolNumber v lvl = some s) :
    s < 8 ∧ Spec.microSymbol s = (v, lvl) := by
  unfold Spec.microSymbolNumber at h
  have hm := List.mem_of_find?_eq_some h
  have hp := List.find?_some h
  exact ⟨List.mem_range.mp hm, eq_of_beq hp⟩

/-- what the stages leave in the matrix: `m1` is the placement, `m2` its masked copy, later stages keep it square and binary
    and write only into format resp. version cells -/
structure ChainFacts {v : Int} {e : Option Nat} {mask : Option Nat} {mk : Nat} {bits : List Nat} {m4 : Matrix}
    (ch : Chain v e mask mk bits m4) (fm : Matrix) : Prop where
  mk_lt : mk < (maskPatterns (decide (v < 1))).length
  m2_eq : ch.m2 = applyMask ch.m1 fm ((maskPatterns (decide (v < 1))).getD mk 0)
  placed1 : Placed v ch.m1
  placed : Placed v ch.m2
  sq2 : Proofs.Placement.Sq ch.m2 (Spec.size v)
  sq3 : Proofs.Placement.Sq ch.m3 (Spec.size v)
  sq4 : Proofs.Placement.Sq m4 (Spec.size v)
  bin4 : ∀ a b, a < Spec.size v → b < Spec.size v → get2 m4 a b ≤ 1
  keep : ∀ a b, Spec.kind v a b ≠ .version → get2 m4 a b = get2 ch.m3 a b
  outside : ∀ a b, ¬ inVersionArea (Spec.size v) a b → get2 m4 a b = get2 ch.m3 a b

theorem chain_basic (v : Int) (e : Option Nat) (mask : Option Nat) (mk : Nat) (bits : List Nat) (m4 : Matrix)
    (ch : Chain v e mask mk bits m4) (h1 : -3 ≤ v) (h2 : v ≤ 40) (hb : ∀ b ∈ bits, b ≤ 1)
    (hlen : bits.length = (Spec.dataCoords v).length) :
    ∃ fm, functionMatrix (Spec.size v) = .ok fm ∧ ChainFacts ch fm := by
  have P1 := placed_m1 v bits ch.m0 ch.m1 h1 h2 hb hlen ch.hm0 ch.hm1
  obtain ⟨fm, hfm⟩ := functionMatrix_ok _ _ ch.hm0
  have hsz1 : ch.m1.size = Spec.size v := P1.sq.1
  obtain ⟨hmk, hm2eq⟩ := mask_inv ch.m1 fm mask mk ch.m2 (by rw [hsz1]; exact hfm) ch.hm2
  rw [hsz1, decide_eq_decide.2 (Proofs.Size.size_lt_21_iff v)] at hmk hm2eq
  have P2 : Placed v ch.m2 := by rw [hm2eq]; exact placed_mask v ch.m1 fm _ h1 h2 hfm P1
  have hsq2 : Proofs.Placement.Sq ch.m2 (Spec.size v) := P2.sq
  have hbin2 : ∀ a b, a < Spec.size v → b < Spec.size v → get2 ch.m2 a b ≤ 1 := by
    intro a b ha hb'
    cases hd : Spec.isData v a b with
    | true => exact P2.data a b ha hb' hd
    | false => rw [P2.other a b ha hb' hd]; exact skelCell_le_one_of_not_data 0 (by decide) v a b hd
  obtain ⟨hsq3, hbin3⟩ := format_step ch.m2 ch.m3 v e mk h1 h2 hsq2 ch.hm3
  obtain ⟨hsq4, hbin4, hk4, hc4⟩ := version_step ch.m3 m4 v h1 h2 hsq3 ch.hm4
  exact ⟨fm, hfm, hmk, hm2eq, P1, P2, hsq2, hsq3, hsq4,
    fun a b ha hb' => hbin4 a b (hbin3 a b (hbin2 a b ha hb')), hk4, hc4⟩

theorem chain_data (v : Int) (e : Option Nat) (mask : Option Nat) (mk : Nat) (bits : List Nat) (m4 : Matrix)
    (ch : Chain v e mask mk bits m4) (h1 : -3 ≤ v) (h2 : v ≤ 40) (hb : ∀ b ∈ bits, b ≤ 1)
    (hlen : bits.length = (Spec.dataCoords v).length) :
    Spec.readDataBits v mk m4 = bits := by
  obtain ⟨fm, hfm, st⟩ := chain_basic v e mask mk bits m4 ch h1 h2 hb hlen
  rw [Props.C01.readDataBits_ignores_function_cells v mk m4 ch.m3
      (fun i j hk => st.keep i j (by rw [hk]; decide)),
    Props.C01.readDataBits_ignores_function_cells v mk ch.m3 ch.m2
      (fun i j hk => Props.C02.format_info_touches_only_format_cells ch.m2 ch.m3 v e mk i j h1 h2 st.sq2 ch.hm3
        (by rw [hk]; exact ⟨by decide, by decide⟩)),
    st.m2_eq]
  exact Props.C01.placement_roundtrip v bits fm ch.m0 ch.m1 mk h1 h2 hb hlen hfm ch.hm0 ch.hm1 st.mk_lt

/-- every fixed function module has its ISO value: outside the encoding region `m2` is the skeleton, and the
    later stages touch only format / version cells and the dark module, which `add_format_info` sets -/
theorem chain_fn (v : Int) (e : Option Nat) (mask : Option Nat) (mk : Nat) (bits : List Nat) (m4 : Matrix)
    (ch : Chain v e mask mk bits m4) (h1 : -3 ≤ v) (h2 : v ≤ 40) (hb : ∀ b ∈ bits, b ≤ 1)
    (hlen : bits.length = (Spec.dataCoords v).length) (cap : Nat) (hcap : capacity v e = some cap) :
    Spec.functionPatternsOk v m4 = none := by
  obtain ⟨fm, -, st⟩ := chain_basic v e mask mk bits m4 ch h1 h2 hb hlen
  unfold Spec.functionPatternsOk
  simp only [List.findSome?_eq_none_iff, List.mem_range]
  intro i hi j hj
  cases hfx : Spec.fixedValue v i j with
  | none => rfl
  | some x =>
    -- a cell of a kind that no stage after masking writes: m4 = m3 = m2 there, and m2 off the data cells is the skeleton
    have hgen : Spec.kind v i j ≠ .darkmodule → Spec.kind v i j ≠ .format → Spec.kind v i j ≠ .version →
        Spec.kind v i j ≠ .data → Spec.cell m4 i j = x := by
      intro n1 n2 n3 n4
      have hd : Spec.isData v i j = false := by
        unfold Spec.isData
        cases hk : Spec.kind v i j <;> first | rfl | exact absurd hk n4
      show get2 m4 i j = x
      rw [st.keep i j n3]
      have := Props.C02.format_info_touches_only_format_cells ch.m2 ch.m3 v e mk i j h1 h2 st.sq2 ch.hm3 ⟨n2, n1⟩
      show get2 ch.m3 i j = x
      rw [show get2 ch.m3 i j = get2 ch.m2 i j from this, st.placed.other i j hi hj hd]
      unfold skelCell
      cases hk : Spec.kind v i j
      all_goals first | exact absurd hk n1 | exact absurd hk n2 | exact absurd hk n3 | exact absurd hk n4 | skip
      all_goals (simp only [hfx]; rfl)
    have hcell : Spec.cell m4 i j = x := by
      cases hk : Spec.kind v i j
      case darkmodule =>
        have hv : 1 ≤ v := by
          apply Decidable.byContradiction
          intro hv
          exact kind_micro_not_dark v (by omega) i j hk
        obtain ⟨hi8, hj8⟩ := (kind_dark_iff v hv i j).mp hk
        obtain ⟨x', rfl, hx'⟩ := (Proofs.Stream.level_facts hcap).2 hv
        have hmk8 : mk < 8 := by have := st.mk_lt; rwa [Proofs.EncodeStages.maskPatterns_length, decide_eq_false (by omega)] at this
        have hdark := (Props.C02.format_written_qr ch.m2 ch.m3 v x' mk hv h2 hx' hmk8 st.sq2 ch.hm3).2.2
        unfold Spec.fixedValue at hfx
        simp only [hk, Option.some.injEq] at hfx
        show get2 m4 i j = x
        rw [st.keep i j (by rw [hk]; decide), ← hfx]
        have : i = Spec.size v - 8 := by omega
        rw [this, hj8]
        exact hdark
      case data | format | version =>
        unfold Spec.fixedValue at hfx
        simp only [hk] at hfx
        cases hfx
      all_goals exact hgen (by rw [hk]; decide) (by rw [hk]; decide) (by rw [hk]; decide) (by rw [hk]; decide)
    simp [hcell]

theorem bch_facts (K : Nat) (hK : K < 32) :
    Spec.bch15 K >>> 10 = K ∧ Spec.bch15 K ^^^ 0x5412 < 2 ^ 15 ∧ Spec.bch15 K ^^^ 0x4445 < 2 ^ 15 := by
  have := List.all_eq_true.mp bch_table K (List.mem_range.mpr hK)
  simp only [Bool.and_eq_true, beq_iff_eq, decide_eq_true_eq] at this
  exact ⟨this.1.1, this.1.2, this.2⟩

theorem xor_cancel (a b : Nat) : (a ^^^ b) ^^^ b = a := by
  rw [Nat.xor_assoc, Nat.xor_self, Nat.xor_zero]

theorem fmt_not_version (n k : Nat) (hn : 21 ≤ n) :
    ¬ inVersionArea n (Spec.fmtPos1 k).1 (Spec.fmtPos1 k).2 ∧ ¬ inVersionArea n (Spec.fmtPos2 n k).1 (Spec.fmtPos2 n k).2
      ∧ ¬ inVersionArea n (n - 8) 8 := by
  unfold inVersionArea Spec.fmtPos1 Spec.fmtPos2
  refine ⟨?_, ?_, by omega⟩
  · repeat' split
    all_goals (simp only; omega)
  · split <;> (simp only; omega)

/-- the reader reports the version, level and mask of the chain: both format copies hold the BCH word
    (the version writes lie elsewhere), and from version 7 on the version cells hold the Golay word -/
theorem chain_header (v : Int) (e : Option Nat) (mask : Option Nat) (mk : Nat) (bits : List Nat) (m4 : Matrix)
    (ch : Chain v e mask mk bits m4) (h1 : -3 ≤ v) (h2 : v ≤ 40) (hb : ∀ b ∈ bits, b ≤ 1)
    (hlen : bits.length = (Spec.dataCoords v).length) (cap : Nat) (hcap : capacity v e = some cap) :
    Spec.readHeader m4 = .ok { version := v, level := lvlKey e, mask := mk } := by
  obtain ⟨fm, -, st⟩ := chain_basic v e mask mk bits m4 ch h1 h2 hb hlen
  have hsz4 : m4.size = Spec.size v := st.sq4.1
  have hall1 := all_square m4 _ st.sq4
  have hall2 := all_binary m4 _ st.sq4 st.bin4
  by_cases hv : v < 1
  · obtain ⟨s, hs⟩ := (Proofs.Stream.level_facts hcap).1 hv
    obtain ⟨hs8, hsym⟩ := microSymbol_facts v (lvlKey e) s hs
    have hmk4 : mk < 4 := by have := st.mk_lt; rwa [Proofs.EncodeStages.maskPatterns_length, decide_eq_true hv] at this
    have h43 : m4 = ch.m3 := by
      have := ch.hm4
      rw [Props.C02.version_info_noop ch.m3 v (by omega)] at this
      exact (Except.ok.inj this).symm
    have hfmt := Props.C02.format_written_micro ch.m2 ch.m3 v e mk s h1 hv hmk4 st.sq2 hs ch.hm3
    -- the 15 cells hold `bch15 K ^^^ mask` with K = s * 4 + mk (QR: x * 8 + mk), a word below 2 ^ 15, so `readWord` returns
    -- it; the reader xors the mask away (`hx`) and shifts the ten check bits out (`b1`); omega splits K
    obtain ⟨b1, -, b3⟩ := bch_facts (s * 4 + mk) (by omega)
    have hw : Spec.readWord m4 Spec.fmtPosMicro 15 = Spec.formatWordMicro s mk :=
      readWord_eq m4 _ _ 15 b3 (fun k hk => by rw [h43]; exact hfmt k hk)
    have hx : Spec.formatWordMicro s mk ^^^ 0x4445 = Spec.bch15 (s * 4 + mk) := xor_cancel _ _
    refine readHeader_micro m4 v (lvlKey e) mk _ hall1 hall2 ?_ ?_ hw ?_ ?_ hsz4.symm ?_
    · rw [hsz4]; exact (Proofs.Size.size_lt_21_iff v).2 hv
    · rw [hsz4]
      have : v = -3 ∨ v = -2 ∨ v = -1 ∨ v = 0 := by omega
      rcases this with rfl | rfl | rfl | rfl <;> decide
    · rw [hx, b1]
    · rw [hx, b1, Nat.shiftRight_eq_div_pow, show (s * 4 + mk) / 2 ^ 2 = s by omega]; exact hsym
    · rw [hx, b1]; omega
  · have hv1 : 1 ≤ v := by omega
    obtain ⟨x, rfl, hx4⟩ := (Proofs.Stream.level_facts hcap).2 hv1
    have hmk8 : mk < 8 := by have := st.mk_lt; rwa [Proofs.EncodeStages.maskPatterns_length, decide_eq_false hv] at this
    have hn21 := Proofs.Size.le_size_qr v hv1
    have hnv := Proofs.Size.size_qr v hv1
    obtain ⟨f1, f2, f3⟩ := Props.C02.format_written_qr ch.m2 ch.m3 v x mk hv1 h2 hx4 hmk8 st.sq2 ch.hm3
    obtain ⟨b1, b2, -⟩ := bch_facts (x * 8 + mk) (by omega)
    have hw1 : Spec.readWord m4 Spec.fmtPos1 15 = Spec.formatWordQR x mk :=
      readWord_eq m4 _ _ 15 b2 (fun k hk => by
        show get2 m4 _ _ = _
        rw [st.outside _ _ (fmt_not_version (Spec.size v) k hn21).1]; exact f1 k hk)
    have hw2 : Spec.readWord m4 (Spec.fmtPos2 m4.size) 15 = Spec.formatWordQR x mk := by
      rw [hsz4]
      exact readWord_eq m4 _ _ 15 b2 (fun k hk => by
        show get2 m4 _ _ = _
        rw [st.outside _ _ (fmt_not_version (Spec.size v) k hn21).2.1]; exact f2 k hk)
    have hdark : Spec.cell m4 (m4.size - 8) 8 = 1 := by
      rw [hsz4]
      show get2 m4 _ _ = _
      rw [st.outside _ _ (fmt_not_version (Spec.size v) 0 hn21).2.2]; exact f3
    have hx : Spec.formatWordQR x mk ^^^ 0x5412 = Spec.bch15 (x * 8 + mk) := xor_cancel _ _
    have hres := readHeader_qr m4 v.toNat x mk _ hall1 hall2 (by rw [hsz4]; omega) (by rw [hsz4]; omega)
      (by rw [hsz4]; omega) (by rw [hsz4]; omega) hw1 hw2 hdark (by rw [hx, b1])
      (by rw [hx, b1, Nat.shiftRight_eq_div_pow]; omega) (by rw [hx, b1]; omega)
      (by
        intro h7
        have hv7 : 7 ≤ v := by omega
        obtain ⟨g1, g2⟩ := Props.C02.version_written ch.m3 m4 v hv7 h2 st.sq3 ch.hm4
        have hg : Spec.golay18 v.toNat < 2 ^ 18 := by
          have := List.all_eq_true.mp golay_table v.toNat (List.mem_range.mpr (by omega))
          simpa using this
        rw [hsz4]
        exact ⟨readWord_eq m4 _ _ 18 hg g1, readWord_eq m4 _ _ 18 hg g2⟩)
    rw [hres]
    have e1 : ((v.toNat : Nat) : Int) = v := by omega
    rw [e1]
    rfl

end Proofs.EndToEnd
