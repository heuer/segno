/-
  Proofs.SequenceRoundtripSeq — all symbols of a Structured Append sequence made for a requested
  symbol count: symbol i carries chunk i (`sequence_cut`); nothing is cut when the message consists of
  whole characters (`sequence_core`), as the data of a kanji / hanzi content part does.
-/
import Props.C08
import Proofs.SequenceRoundtrip

namespace Proofs.SequenceRoundtrip
open Model Proofs.Sequence Proofs.Except

theorem makeSegment_double_even (data : List Nat) (mode : Option Nat) (enc : String) (s : Segment)
    (h : makeSegment data mode enc = .ok s) (hdbl : s.mode = 8 ∨ s.mode = 13) : data.length % 2 = 0 := by
  obtain ⟨sm, -, hb⟩ := Proofs.Modes.makeSegment_ok_body data mode enc s h
  exact Proofs.Modes.segBody_even data enc sm s hb ((Proofs.Modes.segBody_ok data enc sm s hb).1 ▸ hdbl)

theorem single_part_whole (parts : List Part) (msg : List Nat) (segs : List Segment) (s0 : Segment)
    (hcontent : parts.map (·.data) = [msg]) (hprep : prepareData parts = .ok segs) (hs0 : segs.head? = some s0) :
    csOf s0.mode ∣ msg.length := by
  match parts, hcontent with
  | [p], hcontent =>
    simp only [List.map_cons, List.map_nil, List.cons.injEq, and_true] at hcontent
    rw [Proofs.Modes.prepareData_single] at hprep
    obtain ⟨s, hs, h2⟩ := bind_ok.1 hprep
    rw [pure_eq_ok] at h2
    subst h2
    simp only [List.head?_cons, Option.some.injEq] at hs0
    subst hs0
    rw [hcontent] at hs
    unfold csOf
    split
    · rename_i hc
      have := makeSegment_double_even msg p.mode p.encoding s hs (by
        simp only [Bool.or_eq_true, beq_iff_eq] at hc
        exact hc)
      exact Nat.dvd_of_mod_eq_zero this
    · exact Nat.one_dvd _

theorem chunk_mem (d : List Nat) (num cs : Nat) (c : List Nat) (hc : c ∈ divideIntoChunks d num cs) :
    ∀ b ∈ c, b ∈ d := by
  unfold divideIntoChunks at hc
  simp only [List.mem_map, List.mem_range] at hc
  obtain ⟨i, -, rfl⟩ := hc
  intro b hb
  exact List.mem_of_mem_drop (List.mem_of_mem_take hb)

/-- the reference reader reads `c` as a valid symbol (the reported header, valid RS blocks, intact function
    patterns, zero remainder bits) whose data starts with the Structured Append header
    (i, last, parity) and continues with `payload` -/
def SymbolCarries (c : Code) (i last parity : Nat) (payload : List Nat) : Prop :=
  ∃ d p, Spec.decode c.matrix = .ok d
    ∧ d.header = { version := c.version, level := lvlKey c.error, mask := c.mask }
    ∧ d.badBlocks = 0 ∧ d.fnBad = none ∧ Spec.allZero d.blocks.remainder = true
    ∧ d.parsed = .ok p ∧ p.sa = some (i, last, parity)
    ∧ (p.segments.map (·.bytes)).flatten = payload

/-- symbol i carries chunk i, and the chunks make up the message cut to whole characters (of the mode of the
    first prepared segment) -/
theorem sequence_cut (parts : List Part) (msg : List Nat) (msgEnc : String) (error : Option Nat)
    (version : Option Int) (mask : Option Nat) (boost : Bool) (k : Int) (f : String → Option Nat) (cs : List Code)
    (hmsg : ∀ b ∈ msg, b < 256)
    (h : encodeSequenceAux parts msg msgEnc error version mask false boost (some k) f = .ok (true, cs)) :
    (version = none → cs.length = k.toNat)
    ∧ 1 ≤ cs.length ∧ cs.length ≤ 16
    ∧ ∃ segs s0, prepareData parts = .ok segs ∧ segs.head? = some s0
    ∧ ∃ payloads : List (List Nat), payloads.length = cs.length
        ∧ payloads.flatten = msg.take (msg.length / csOf s0.mode * csOf s0.mode)
        ∧ ∀ i (hi : i < cs.length), SymbolCarries cs[i] i (cs.length - 1) (Spec.xorAll msg) (payloads.getD i []) := by
  have hfits := Props.C08.each_symbol_fits_partial _ _ _ _ _ _ _ _ _ _ _ h
  obtain ⟨h1, h16, hcount, -, hver⟩ := encodeSequenceAux_count h
  obtain ⟨segs, mode, chunks, v, parity, sr⟩ := encodeSequenceAux_sa h
  obtain ⟨hpar, hparlt⟩ := Props.C08.parity_is_xor _ _ _ _ _ _ _ _ _ _ _ sr.plan
  have pl := planSequence_ok sr.plan
  obtain ⟨s0, hs0, hmode⟩ := pl.head
  have hflat : chunks.flatten = msg.take (msg.length / csOf s0.mode * csOf s0.mode) := by
    rw [pl.chunks_eq, hmode, divideIntoChunks_flatten msg _ (csOf s0.mode) (sr.len ▸ h1)]
  refine ⟨fun hvn => ?_, h1, h16, segs, s0, sr.prep, hs0, chunks, sr.len.symm, hflat, ?_⟩
  · have := hcount k rfl hvn
    omega
  · intro i hi
    have hic : i < chunks.length := sr.len ▸ hi
    obtain ⟨segs', hs', henc⟩ := sr.symbol i hi
    obtain ⟨hcv, hcsg, -⟩ := encodeCore_ok _ _ _ _ _ _ _ _ _ henc
    have hv : 1 ≤ v := by rw [← hcv]; exact (hver _ (List.getElem_mem _)).1
    obtain ⟨bl, cap, hbl, hcap, hle⟩ := hfits cs[i] (List.getElem_mem _)
    rw [hcv, hcsg] at hbl
    rw [hcv] at hcap
    have hd : ∀ b ∈ chunks[i], b < 256 := by
      intro b hb
      exact hmsg b (chunk_mem msg _ (csOf mode) chunks[i] (by rw [← pl.chunks_eq]; exact List.getElem_mem _) b hb)
    obtain ⟨d, hdec, hhdr, hfn, hbad, hrem, p, hp1, hp2, hp3⟩ :=
      sa_symbol_final chunks[i] mode msgEnc segs' _ v mask boost f i (cs.length - 1) parity cs[i]
        hd (by omega) (by omega) (hparlt hmsg) hv hs' ⟨cap, bl, hcap, hbl, hle⟩ henc
    refine ⟨d, p, hdec, hhdr, hbad, hfn, hrem, hp1, ?_, ?_⟩
    · rw [hp2, hpar]
    · rw [hp3, List.getD_eq_getElem?_getD, List.getElem?_eq_getElem hic]
      rfl

/-- when the message consists of whole characters (`hwhole`), nothing is cut -/
theorem sequence_core (parts : List Part) (msg : List Nat) (msgEnc : String) (error : Option Nat)
    (version : Option Int) (mask : Option Nat) (boost : Bool) (k : Int) (f : String → Option Nat) (cs : List Code)
    (hmsg : ∀ b ∈ msg, b < 256)
    (hwhole : ∀ segs s0, prepareData parts = .ok segs → segs.head? = some s0 → csOf s0.mode ∣ msg.length)
    (h : encodeSequenceAux parts msg msgEnc error version mask false boost (some k) f = .ok (true, cs)) :
    (version = none → cs.length = k.toNat)
    ∧ 1 ≤ cs.length ∧ cs.length ≤ 16
    ∧ ∃ payloads : List (List Nat), payloads.length = cs.length ∧ payloads.flatten = msg
        ∧ ∀ i (hi : i < cs.length), SymbolCarries cs[i] i (cs.length - 1) (Spec.xorAll msg) (payloads.getD i []) := by
  obtain ⟨hn, h1, h16, segs, s0, hprep, hs0, payloads, hlen, hflat, hsym⟩ :=
    sequence_cut parts msg msgEnc error version mask boost k f cs hmsg h
  rw [Nat.div_mul_cancel (hwhole segs s0 hprep hs0), List.take_length] at hflat
  exact ⟨hn, h1, h16, payloads, hlen, hflat, hsym⟩

end Proofs.SequenceRoundtrip
