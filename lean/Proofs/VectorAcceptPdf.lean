/-
  C10: the judge's PDF content interpreter (`Spec.Vector.pdfRun`) on the operators the
  model emits (`Model.Lines.pdfOps`, optionally preceded by the scale matrix).
-/
import Proofs.VectorAcceptGrid

namespace Proofs.VectorAccept
open Spec.Vector Model.Lines Proofs.Lines

theorem num_nat (n : Nat) : num? (toString n) = some ((n : Int) : Rat) := num_int n

/-- the states the interpreters pass through on the model's programs: nothing saved, no clip path, nothing painted yet -/
def mkM (st : List Rat) (gs : GState) (p : PathSt) : Machine :=
  { stack := st, gs := gs, saved := [], path := p, clip := false, paints := [] }

theorem num_m : num? "m" = none := by decide +kernel
theorem num_l : num? "l" = none := by decide +kernel
theorem num_cm : num? "cm" = none := by decide +kernel
theorem num_S : num? "S" = none := by decide +kernel

section steps
variable {st : List Rat} {gs : GState} {p : PathSt}

theorem pdfStep_num {t : String} {q : Rat} (h : num? t = some q) : pdfStep (mkM st gs p) t = .ok (mkM (q :: st) gs p) := by
  unfold pdfStep; simp [h, mkM]

theorem pdfStep_m {x y : Rat} : pdfStep (mkM (y :: x :: st) gs p) "m" = .ok (mkM st gs (p.moveTo (x, y) (gs.ctm.app (x, y)))) := by
  unfold pdfStep; simp [num_m, pop2, mkM]; rfl

theorem pdfStep_l {x y : Rat} {p' : PathSt} (hl : p.lineTo (x, y) (gs.ctm.app (x, y)) = .ok p') :
    pdfStep (mkM (y :: x :: st) gs p) "l" = .ok (mkM st gs p') := by
  unfold pdfStep; simp [num_l, pop2, mkM]
  show (_ <$> p.lineTo (x, y) (gs.ctm.app (x, y))) = _
  rw [hl]; rfl

theorem pdfStep_cm {a d e f : Rat} : pdfStep (mkM (f :: e :: d :: 0 :: 0 :: a :: st) gs p) "cm"
    = .ok (mkM st { gs with ctm := gs.ctm.comp { sx := a, sy := d, tx := e, ty := f } } p) := by
  unfold pdfStep; simp [num_cm, mkM]

theorem pdfStep_S {rs : List Rect} (h : strokeRects (gs.lw * absQ gs.ctm.sy / 2) p.done = .ok rs) :
    pdfStep (mkM st gs p) "S" = .ok { mkM st gs {} with paints := [Paint.stroke rs gs.strokeC] } := by
  unfold pdfStep; simp [num_S, Machine.strokeNow, mkM, h]; rfl

end steps

def pdfLineToks (t : Nat × Int × Nat) : List String :=
  [toString t.1, showHalf t.2.1, "m", toString t.2.2, showHalf t.2.1, "l"]

theorem pdf_line (gs : GState) (p : PathSt) (t : Nat × Int × Nat) :
    ∃ p', TokRun pdfStep (pdfLineToks t) (mkM [] gs p) (mkM [] gs p') ∧ p'.done = p.done ++ [subC gs.ctm t] := by
  obtain ⟨p', h1, _, _, h3⟩ := moveTo_lineTo_done p (((t.1 : Int) : Rat), half t.2.1) (gs.ctm.app (((t.1 : Int) : Rat), half t.2.1))
    (((t.2.2 : Int) : Rat), half t.2.1) (gs.ctm.app (((t.2.2 : Int) : Rat), half t.2.1))
  exact ⟨p', .cons (pdfStep_num (num_nat t.1)) (.cons (pdfStep_num (num_showHalf t.2.1)) (.cons pdfStep_m
    (.cons (pdfStep_num (num_nat t.2.2)) (.cons (pdfStep_num (num_showHalf t.2.1)) (.cons (pdfStep_l h1) .nil))))), h3⟩

theorem pdf_lines (gs : GState) (lines : List (Nat × Int × Nat)) : ∀ p : PathSt,
    ∃ p', TokRun pdfStep ((lines.map pdfLineToks).flatten) (mkM [] gs p) (mkM [] gs p')
      ∧ p'.done = p.done ++ lines.map (subC gs.ctm) := by
  induction lines with
  | nil => intro p; exact ⟨p, .nil, by simp⟩
  | cons t rest ih =>
    intro p
    obtain ⟨p1, h1, d1⟩ := pdf_line gs p t
    obtain ⟨p2, h2, d2⟩ := ih p1
    exact ⟨p2, h1.append h2, by rw [d2, d1]; simp⟩

theorem num_one : num? "1" = some (1 : Rat) := by decide +kernel
theorem num_zero : num? "0" = some (0 : Rat) := by decide +kernel

theorem pdf_cm (c0 : Xf) (p : PathSt) (ta td te tf : String) (a d e f : Rat)
    (ha : num? ta = some a) (hd : num? td = some d) (he : num? te = some e) (hf : num? tf = some f) :
    TokRun pdfStep [ta, "0", "0", td, te, tf, "cm"] (mkM [] { ctm := c0 } p)
      (mkM [] { ctm := c0.comp { sx := a, sy := d, tx := e, ty := f } } p) :=
  .cons (pdfStep_num ha) (.cons (pdfStep_num num_zero) (.cons (pdfStep_num num_zero) (.cons (pdfStep_num hd)
    (.cons (pdfStep_num he) (.cons (pdfStep_num hf) (.cons pdfStep_cm .nil))))))

theorem pdf_run (c0 c : Xf) (te tf : String) (e f : Rat) (he : num? te = some e) (hf : num? tf = some f)
    (hc : c = c0.comp { sx := 1, sy := 1, tx := e, ty := f }) (lines : List (Nat × Int × Nat)) (rs : List Rect)
    (hrs : strokeRects (1 * absQ c.sy / 2) (lines.map (subC c)) = .ok rs) :
    TokRun pdfStep (["1", "0", "0", "1", te, tf, "cm"] ++ ((lines.map pdfLineToks).flatten ++ ["S"])) (mkM [] { ctm := c0 } {})
      { mkM [] { ctm := c } {} with paints := [Paint.stroke rs black] } := by
  obtain ⟨p', h2, d2⟩ := pdf_lines { ctm := c } lines {}
  have hd : p'.done = lines.map (subC c) := by rw [d2]; rfl
  exact (hc ▸ pdf_cm c0 {} "1" "1" te tf 1 1 e f num_one num_one he hf).append
    (h2.append (.cons (pdfStep_S (hd ▸ hrs)) .nil))

theorem pdfOps_eq (m : List (List Nat)) (b : Nat) :
    pdfOps m b = ["1", "0", "0", "1", toString b, showHalf (2 * ((m.length : Int) + (b : Int)) - 1), "cm"]
      ++ (((matrixToLines m 0 0 (-2)).map pdfLineToks).flatten ++ ["S"]) := by
  unfold pdfOps
  simp only [List.append_assoc]
  rfl

theorem pdfRun_of_tokRun (toks : List String) (m : Machine) (h : TokRun pdfStep toks {} m)
    (hst : m.stack = []) (hp : m.path.done = []) : pdfRun toks = .ok m.paints.reverse := by
  unfold pdfRun
  rw [h]
  simp only [bind, Except.bind]
  simp [hst, hp]
  rfl

/-- the transform `scale(s)` -/
abbrev cS (s : Rat) : Xf := { sx := s, sy := s, tx := 0, ty := 0 }

/-- PDF: the judge accepts `pre` followed by the model's operators, where `pre` sets the transform `scale(s)` -/
theorem pdf_accept (m : List (List Nat)) (b : Nat) (s : Rat) (hs : 0 < s) (hsq : ∀ row ∈ m, row.length = m.length)
    (pre : List String)
    (hrun : TokRun pdfStep pre {} (mkM [] { ctm := cS s } {})) :
    (do
      let paints ← pdfRun (pre ++ pdfOps m b)
      judgePaints { m := m, size := m.length, b := b, s := s, dark := some black, light := none }
        (some (((m.length + 2 * b : Nat) : Rat) * s, ((m.length + 2 * b : Nat) : Rat) * s)) true (((m.length + 2 * b : Nat) : Rat) * s) 0
        paints) = .ok (segsFrom b (rowsGo b 1 m)) := by
  have hops := pdf_run (cS s) _ _ _ _ _ (num_nat b)
    (num_showHalf (2 * ((m.length : Int) + (b : Int)) - 1)) rfl (matrixToLines m 0 0 (-2)) _ (strokeRects_subC _ _ _)
  rw [← pdfOps_eq] at hops
  rw [pdfRun_of_tokRun _ _ (hrun.append hops) rfl rfl]
  simp only [bind, Except.bind, List.reverse_cons, List.reverse_nil, List.nil_append]
  apply judgePaints_lines m b s hs hsq
  · -- line width 1 under `scale(s)`: half width s/2
    simp only [Xf.comp]
    rw [Rat.mul_one s, absQ_of_pos hs]; grind
  · intro j
    simp only [Xf.comp, Int.natCast_add, Rat.intCast_add]; grind
  · -- row i is drawn at y = (size + b − ½) − i of a page of height size + 2b: from the top that is b + i + ½
    intro i
    unfold half
    simp only [Xf.comp, Int.natCast_add, Rat.intCast_add, Rat.intCast_mul, Rat.intCast_sub, Rat.intCast_neg,
      Rat.natCast_add, Rat.natCast_mul, Rat.intCast_natCast]
    grind

-- the two prefixes `write_pdf` produces: `s 0 0 s 0 0 cm` (scale ≠ 1) and nothing (scale = 1)

theorem comp_id_scale (s : Rat) : ({} : Xf).comp (cS s) = cS s := by
  simp [Xf.comp, Rat.one_mul, Rat.mul_zero, Rat.add_zero]

theorem pdf_scale_prefix (st : String) (s : Rat) (hst : num? st = some s) :
    TokRun pdfStep [st, "0", "0", st, "0", "0", "cm"] {} (mkM [] { ctm := cS s } {}) :=
  comp_id_scale s ▸ pdf_cm {} {} st st "0" "0" s s 0 0 hst hst num_zero num_zero

theorem pdf_noprefix : TokRun pdfStep [] {} (mkM [] { ctm := cS 1 } {}) := rfl

end Proofs.VectorAccept
