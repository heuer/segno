/-
  Proofs.PlacementSkeleton — the ISO skeleton (function patterns at their values, data cells 2) as rows of module
  values: its cell function, a form of it written for evaluation by the kernel, and model matrices read as rows.
  Declares in `Proofs.Placement2`, beside Proofs/Placement2.lean, which joins this file and Proofs/PlacementZigzag.lean.
-/
import Spec.Decode
import Model.Encoder
import Proofs.Placement
import Proofs.Align

namespace Proofs.Placement2
open Proofs.Placement (get2_set2_sq)
open Proofs.Align (cdist)

abbrev Rows := List (List Nat)

def toRows (m : Model.Matrix) : Rows := m.toList.map Array.toList

def m0L (n : Nat) : Model.R Rows :=
  (Model.addAlignmentPatterns (Model.addFinderPatterns (Model.makeMatrix n) n) n).map toRows

theorem map_m0 (n : Nat) :
    (Model.addAlignmentPatterns (Model.addFinderPatterns (Model.makeMatrix n) n) n).map toRows = m0L n := rfl

open Spec in
/-- value of a module of the skeleton: fixed function modules have their ISO value, reserved format /
    version cells are light, the dark module holds `d`, data cells hold 2 -/
def skelCell (d : Nat) (v : Int) (i j : Nat) : Nat :=
  match Spec.kind v i j with
  | .data => 2
  | .format => 0
  | .version => 0
  | .darkmodule => d
  | _ => (Spec.fixedValue v i j).getD 9

def skelRows (d : Nat) (v : Int) : Rows :=
  let n := Spec.size v
  (List.range n).map (fun i => (List.range n).map (fun j => skelCell d v i j))

/-!
`countOK` (Proofs/Placement2.lean) is evaluated by the kernel, the cell function on every module of the border bands and of the
rows and columns that meet an alignment pattern. On literals `Nat.blt a b` is one step away from the kernel's built-in
`Nat.ble`, while `decide (a < b)` reaches it only through the `Decidable` instances; so `kindF` and `skelCellF` are
`Spec.kind` and `skelCell` rewritten on `Nat.blt`, `Nat.ble`, `Nat.beq` and `cond`, with the symbol size, the two version
tests and the alignment coordinates as parameters (closed terms at every call, so evaluated once per version). -/

theorem blt_eq (a b : Nat) : Nat.blt a b = decide (a < b) := by
  rw [Bool.eq_iff_iff, Nat.blt_eq, decide_eq_true_eq]

theorem ble_eq (a b : Nat) : Nat.ble a b = decide (a ≤ b) := by
  rw [Bool.eq_iff_iff, Nat.ble_eq, decide_eq_true_eq]

theorem nbeq_eq (a b : Nat) : Nat.beq a b = (a == b) := by
  rw [Bool.eq_iff_iff, beq_iff_eq]
  exact ⟨Nat.eq_of_beq_eq_true, fun h => h ▸ Nat.beq_refl a⟩

def inAlignF (pos : List Nat) (n i j : Nat) : Bool :=
  match pos.find? (fun x => Spec.inRange i (x - 2) (x + 2)), pos.find? (fun y => Spec.inRange j (y - 2) (y + 2)) with
  | some x, some y =>
    !((Nat.beq x 6 && Nat.beq y 6) || (Nat.beq x 6 && Nat.beq y (n - 7)) || (Nat.beq x (n - 7) && Nat.beq y 6))
  | _, _ => false

theorem inAlignF_eq (v n i j : Nat) : inAlignF (Spec.annexE v) n i j = Spec.inAlignment v n i j := by
  unfold inAlignF Spec.inAlignment
  simp only [nbeq_eq]
  rfl

def kindF (n : Nat) (micro v7 : Bool) (pos : List Nat) (i j : Nat) : Spec.Kind :=
  bif micro then
    bif Nat.blt i 7 && Nat.blt j 7 then .finder
    else bif (Nat.beq i 7 && Nat.ble j 7) || (Nat.beq j 7 && Nat.ble i 7) then .separator
    else bif Nat.beq i 0 || Nat.beq j 0 then .timing
    else bif (Nat.beq i 8 && Nat.ble 1 j && Nat.ble j 8) || (Nat.beq j 8 && Nat.ble 1 i && Nat.ble i 8) then .format
    else .data
  else
    bif (Nat.blt i 7 && Nat.blt j 7) || (Nat.blt i 7 && Nat.ble n (j + 7)) || (Nat.ble n (i + 7) && Nat.blt j 7) then .finder
    else bif (Nat.ble i 7 && Nat.ble j 7) || (Nat.ble i 7 && Nat.ble n (j + 8)) || (Nat.ble n (i + 8) && Nat.ble j 7) then .separator
    else bif Nat.beq (i + 8) n && Nat.beq j 8 then .darkmodule
    else bif (Nat.beq i 8 && (Nat.ble j 8 || Nat.ble n (j + 8))) || (Nat.beq j 8 && (Nat.ble i 8 || Nat.ble n (i + 8))) then
      (bif Nat.beq i 6 || Nat.beq j 6 then .timing else .format)
    else bif v7 && ((Nat.blt i 6 && Nat.ble (n - 11) j && Nat.ble (j + 9) n)
        || (Nat.blt j 6 && Nat.ble (n - 11) i && Nat.ble (i + 9) n)) then .version
    else bif inAlignF pos n i j then .alignment
    else bif Nat.beq i 6 || Nat.beq j 6 then .timing
    else .data

theorem kindF_eq (v : Int) (i j : Nat) :
    kindF (Spec.size v) (Spec.isMicro v) (decide (v ≥ 7)) (Spec.annexE v.toNat) i j = Spec.kind v i j := by
  unfold kindF Spec.kind
  simp only [inAlignF_eq, blt_eq, ble_eq, nbeq_eq, Bool.cond_eq_ite, ge_iff_le]

/-- value of a module of an alignment pattern: the ring at distance 1 from the centre is light (the two
    distances are closed terms per row and per column) -/
def alignF (pos : List Nat) (i j : Nat) : Nat :=
  bif Nat.beq (bif Nat.ble (cdist pos i) (cdist pos j) then cdist pos j else cdist pos i) 1 then 0 else 1

def skelCellF (d n : Nat) (micro v7 : Bool) (pos : List Nat) (i j : Nat) : Nat :=
  match kindF n micro v7 pos i j with
  | .data => 2
  | .format => 0
  | .version => 0
  | .darkmodule => d
  | .finder =>
    let a := bif Nat.blt i 7 then i else i - (n - 7)
    let b := bif Nat.blt j 7 then j else j - (n - 7)
    bif Nat.beq a 0 || Nat.beq a 6 || Nat.beq b 0 || Nat.beq b 6 then 1
    else bif Nat.ble 2 a && Nat.ble a 4 && (Nat.ble 2 b && Nat.ble b 4) then 1 else 0
  | .separator => 0
  | .timing =>
    bif micro then (bif Nat.beq i 0 then (j + 1) % 2 else (i + 1) % 2)
    else (bif Nat.beq i 6 then (j + 1) % 2 else (i + 1) % 2)
  | .alignment => alignF pos i j

theorem skelCellF_eq (d : Nat) (v : Int) (i j : Nat) :
    skelCellF d (Spec.size v) (Spec.isMicro v) (decide (v ≥ 7)) (Spec.annexE v.toNat) i j = skelCell d v i j := by
  unfold skelCellF skelCell Spec.fixedValue alignF cdist
  rw [kindF_eq]
  cases Spec.kind v i j <;>
    simp only [blt_eq, ble_eq, nbeq_eq, Bool.cond_eq_ite, decide_eq_true_eq, Spec.finderBit, Spec.inRange,
      Nat.max_def, Option.getD_some, ge_iff_le]
  rfl

/-- the skeleton cell off the border bands: alignment pattern, timing line or data -/
def innerF (n : Nat) (pos : List Nat) (i j : Nat) : Nat :=
  bif inAlignF pos n i j then alignF pos i j
  else bif Nat.beq i 6 || Nat.beq j 6 then (bif Nat.beq i 6 then (j + 1) % 2 else (i + 1) % 2)
  else 2

/-- coordinate in one of the border bands (finder / format / version information side) -/
def edge (v : Int) (k : Nat) : Bool := k ≤ 8 || k + 11 ≥ Spec.size v

/-- coordinate within 2 of an alignment pattern centre coordinate -/
def near (v : Int) (k : Nat) : Bool :=
  ((Spec.annexE v.toNat).find? (fun x => Spec.inRange k (x - 2) (x + 2))).isSome

def colSp (v : Int) (j : Nat) : Bool := edge v j || near v j

def plainRow (n b : Nat) : List Nat := (List.range n).map (fun j => if j == 6 then b else 2)

/-- cell of a row at distance `δ` from the coordinate of an alignment centre other than 6 and n − 7, where no
    pattern is left out: alignment pattern or data -/
def nearCell (pos : List Nat) (δ j : Nat) : Nat :=
  bif (pos.find? (fun y => Spec.inRange j (y - 2) (y + 2))).isSome then
    (bif Nat.beq (bif Nat.ble δ (cdist pos j) then cdist pos j else δ) 1 then 0 else 1)
  else 2

def nearRow (v : Int) (n δ : Nat) : List Nat :=
  (List.range n).map (fun j => bif colSp v j then nearCell (Spec.annexE v.toNat) δ j else 2)

/-- one skeleton row in the form the kernel evaluates. In a border band: the full cell function where the row
    meets a border band, `innerF` on the columns of alignment patterns, the constant off them. Off the border
    bands a row is one of few closed terms, which the kernel evaluates once: through alignment patterns one
    of three by its distance from the centres (the `match` has the distance computed before the row is
    looked at), elsewhere one of two -/
def fastRow (d : Nat) (v : Int) (n i : Nat) : List Nat :=
  let cell := skelCellF d n (Spec.isMicro v) (decide (v ≥ 7)) (Spec.annexE v.toNat) i
  let inner := innerF n (Spec.annexE v.toNat) i
  if Spec.isMicro v then (List.range n).map (fun j => cell j)
  else if edge v i then
    (List.range n).map (fun j => bif colSp v j then (bif edge v j then cell j else inner j)
      else bif Nat.beq i 6 then (j + 1) % 2 else 2)
  else if near v i then
    match cdist (Spec.annexE v.toNat) i with
    | 0 => nearRow v n 0
    | 1 => nearRow v n 1
    | _ => nearRow v n 2
  else if (i + 1) % 2 == 0 then plainRow n 0 else plainRow n 1

def fastRows (d : Nat) (v : Int) : Rows :=
  let n := Spec.size v
  (List.range n).map (fun i => fastRow d v n i)

theorem kind_offedge (v : Int) (i j : Nat) (hm : Spec.isMicro v = false)
    (he : edge v i = false ∨ edge v j = false) :
    Spec.kind v i j = if Spec.inAlignment v.toNat (Spec.size v) i j then .alignment
      else if i == 6 || j == 6 then .timing else .data := by
  unfold edge at he
  simp only [Bool.or_eq_false_iff, decide_eq_false_iff_not] at he
  unfold Spec.kind
  simp only [hm, Bool.false_eq_true, if_false, Bool.or_eq_true, Bool.and_eq_true, decide_eq_true_eq, beq_iff_eq]
  generalize Spec.size v = n at *
  -- the five tests for finder, separator, dark module, format and version cells fail
  rw [if_neg (by omega), if_neg (by omega), if_neg (by omega), if_neg (by omega), if_neg (by omega)]

theorem innerF_eq (d : Nat) (v : Int) (i j : Nat) (hm : Spec.isMicro v = false)
    (he : edge v i = false ∨ edge v j = false) :
    innerF (Spec.size v) (Spec.annexE v.toNat) i j = skelCell d v i j := by
  unfold skelCell Spec.fixedValue innerF alignF cdist
  rw [kind_offedge v i j hm he, inAlignF_eq]
  cases Spec.inAlignment v.toNat (Spec.size v) i j
  · cases h6 : (i == 6 || j == 6) <;>
      simp only [nbeq_eq, h6, hm, Bool.cond_eq_ite, Bool.false_eq_true, if_false, if_true, Option.getD_some]
  · simp only [ble_eq, nbeq_eq, Bool.cond_eq_ite, decide_eq_true_eq, Nat.max_def, Option.getD_some,
      ge_iff_le, if_true]

theorem edge_ne_six {v : Int} {i : Nat} (he : edge v i = false) : i ≠ 6 := by
  unfold edge at he
  simp only [Bool.or_eq_false_iff, decide_eq_false_iff_not] at he
  omega

theorem near_false {v : Int} {k : Nat} (h : near v k = false) :
    (Spec.annexE v.toNat).find? (fun x => Spec.inRange k (x - 2) (x + 2)) = none :=
  Option.isNone_iff_eq_none.mp (Option.isSome_eq_false_iff.mp h)

theorem innerF_row (n : Nat) (pos : List Nat) (i j : Nat)
    (h : pos.find? (fun x => Spec.inRange i (x - 2) (x + 2)) = none) (h6 : i ≠ 6) :
    innerF n pos i j = if j == 6 then (i + 1) % 2 else 2 := by
  unfold innerF inAlignF
  rw [h]
  simp only [nbeq_eq, beq_false_of_ne h6, Bool.false_or, Bool.cond_eq_ite, Bool.false_eq_true, if_false]

theorem innerF_col (n : Nat) (pos : List Nat) (i j : Nat)
    (h : pos.find? (fun y => Spec.inRange j (y - 2) (y + 2)) = none) (h6 : j ≠ 6) :
    innerF n pos i j = if i == 6 then (j + 1) % 2 else 2 := by
  unfold innerF inAlignF
  rw [h]
  cases pos.find? (fun x => Spec.inRange i (x - 2) (x + 2)) <;> cases hi : (i == 6) <;>
    simp only [nbeq_eq, hi, beq_false_of_ne h6, Bool.or_false, cond_false, cond_true, Bool.false_eq_true, if_false, if_true]

theorem annexE_six (v : Nat) (h : Spec.annexE v ≠ []) :
    (Spec.annexE v).find? (fun y => Spec.inRange 6 (y - 2) (y + 2)) = some 6 := by
  unfold Spec.annexE at h ⊢
  split
  · rename_i h2; rw [if_pos h2] at h; exact absurd rfl h
  · rfl

theorem innerF_near (n : Nat) (pos : List Nat) (i j x : Nat)
    (hx : pos.find? (fun x => Spec.inRange i (x - 2) (x + 2)) = some x) (h6 : x ≠ 6) (hn : x ≠ n - 7)
    (hi : i ≠ 6) (hj : j = 6 → (pos.find? (fun y => Spec.inRange j (y - 2) (y + 2))).isSome = true) :
    innerF n pos i j = nearCell pos (cdist pos i) j := by
  unfold innerF inAlignF nearCell alignF
  rw [hx]
  cases hy : pos.find? (fun y => Spec.inRange j (y - 2) (y + 2)) with
  | none =>
    have hj6 : j ≠ 6 := fun h => by have := hj h; rw [hy] at this; cases this
    simp only [nbeq_eq, beq_false_of_ne hi, beq_false_of_ne hj6, Option.isSome_none, Bool.or_false, cond_false]
  | some y =>
    simp only [nbeq_eq, beq_false_of_ne h6, beq_false_of_ne hn, Bool.false_and, Bool.or_false, Bool.not_false,
      Option.isSome_some, cond_true]

theorem nearCell_far (pos : List Nat) (k j : Nat) : nearCell pos (k + 2) j = nearCell pos 2 j := by
  unfold nearCell
  cases (pos.find? (fun y => Spec.inRange j (y - 2) (y + 2))).isSome
  · rfl
  · generalize cdist pos j = c
    have h1 : (if k + 2 ≤ c then c else k + 2) ≠ 1 := by split <;> omega
    have h2 : (if 2 ≤ c then c else 2) ≠ 1 := by split <;> omega
    simp only [nbeq_eq, ble_eq, Bool.cond_eq_ite, decide_eq_true_eq, beq_iff_eq, if_neg h1, if_neg h2]

theorem fastRow_eq (d : Nat) (v : Int) (i : Nat) :
    fastRow d v (Spec.size v) i = (List.range (Spec.size v)).map (fun j => skelCell d v i j) := by
  unfold fastRow plainRow
  simp only [skelCellF_eq, Bool.cond_eq_ite, nbeq_eq]
  cases hm : Spec.isMicro v with
  | true => simp
  | false =>
    -- off the special columns a cell holds 2, or the timing bit in row 6
    have hoff : ∀ j, colSp v j = false → skelCell d v i j = if i == 6 then (j + 1) % 2 else 2 := by
      intro j hc
      simp only [colSp, Bool.or_eq_false_iff] at hc
      rw [← innerF_eq d v i j hm (Or.inr hc.1), innerF_col _ _ _ _ (near_false hc.2) (edge_ne_six hc.1)]
    simp only [Bool.false_eq_true, if_false]
    cases he : edge v i with
    | true =>
      simp only [if_true]
      refine List.map_congr_left fun j _ => ?_
      cases hc : colSp v j with
      | false => exact (hoff j hc).symm
      | true =>
        cases hej : edge v j with
        | true => rfl
        | false => exact innerF_eq d v i j hm (Or.inr hej)
    | false =>
      simp only [Bool.false_eq_true, if_false]
      cases hn : near v i with
      | true =>
        simp only [if_true]
        -- the centre coordinate of the row is not 6 or n − 7, whose rows lie in the border bands
        obtain ⟨x, hx⟩ := Option.isSome_iff_exists.mp hn
        have hxr := List.find?_some hx
        have hx6 : x ≠ 6 ∧ x ≠ Spec.size v - 7 := by
          unfold edge at he
          simp only [Spec.inRange, Bool.and_eq_true, decide_eq_true_eq, Bool.or_eq_false_iff,
            decide_eq_false_iff_not] at he hxr
          omega
        have hrow : ∀ δ, (∀ j, nearCell (Spec.annexE v.toNat) δ j = nearCell (Spec.annexE v.toNat)
              (cdist (Spec.annexE v.toNat) i) j) →
            nearRow v (Spec.size v) δ = (List.range (Spec.size v)).map (fun j => skelCell d v i j) := by
          intro δ hδ
          refine List.map_congr_left fun j _ => ?_
          cases hc : colSp v j with
          | false => rw [hoff j hc, beq_false_of_ne (edge_ne_six he)]; rfl
          | true =>
            rw [← innerF_eq d v i j hm (Or.inl he), innerF_near _ _ i j x hx hx6.1 hx6.2 (edge_ne_six he), hδ]; rfl
            rintro rfl
            rw [annexE_six _ (fun h0 => by rw [h0] at hx; cases hx)]; rfl
        split
        · rename_i h0; exact hrow 0 (fun j => by rw [h0])
        · rename_i h1; exact hrow 1 (fun j => by rw [h1])
        · rename_i h0 h1
          have h0 : cdist (Spec.annexE v.toNat) i ≠ 0 := h0
          have h1 : cdist (Spec.annexE v.toNat) i ≠ 1 := h1
          obtain ⟨k, hk⟩ : ∃ k, cdist (Spec.annexE v.toNat) i = k + 2 :=
            ⟨cdist (Spec.annexE v.toNat) i - 2, by omega⟩
          exact hrow 2 (fun j => by rw [hk]; exact (nearCell_far _ k j).symm)
      | false =>
        simp only [Bool.false_eq_true, if_false]
        have hrow : ∀ f : Nat → List Nat, (if ((i + 1) % 2 == 0) = true then f 0 else f 1) = f ((i + 1) % 2) := by
          intro f
          have : (i + 1) % 2 = 0 ∨ (i + 1) % 2 = 1 := by omega
          rcases this with h | h <;> simp [h]
        rw [hrow (fun b => (List.range (Spec.size v)).map (fun j => if j == 6 then b else 2))]
        refine List.map_congr_left fun j _ => ?_
        rw [← innerF_eq d v i j hm (Or.inl he), innerF_row _ _ _ _ (near_false hn) (edge_ne_six he)]

theorem fastRows_eq (d : Nat) (v : Int) : fastRows d v = skelRows d v :=
  List.map_congr_left fun i _ => fastRow_eq d v i

theorem kind_dark_iff (v : Int) (hv : 1 ≤ v) (i j : Nat) :
    Spec.kind v i j = .darkmodule ↔ (i + 8 = Spec.size v ∧ j = 8) := by
  have hn := Size.le_size_qr v hv
  have hm : Spec.isMicro v = false := by simp [Spec.isMicro]; omega
  unfold Spec.kind
  simp only [hm, Bool.false_eq_true, if_false, Bool.or_eq_true, Bool.and_eq_true, decide_eq_true_eq, beq_iff_eq]
  generalize Spec.size v = n at *
  by_cases hd : i + 8 = n ∧ j = 8
  · -- the dark module lies in no finder pattern and in no separator
    rw [if_neg (by omega), if_neg (by omega), if_pos hd]
    exact ⟨fun _ => hd, fun _ => rfl⟩
  · refine ⟨fun h => absurd h ?_, fun h => absurd h hd⟩
    rw [if_neg hd]
    repeat' split
    all_goals nofun

theorem kind_micro_not_dark (v : Int) (hv : v < 1) (i j : Nat) : Spec.kind v i j ≠ .darkmodule := by
  have hm : Spec.isMicro v = true := by simp [Spec.isMicro]; omega
  unfold Spec.kind
  simp only [hm, if_true]
  repeat' split
  all_goals nofun

theorem skelCell_eq (d : Nat) (v : Int) (i j : Nat) :
    skelCell d v i j = if Spec.kind v i j = .darkmodule then d else skelCell 0 v i j := by
  unfold skelCell
  cases Spec.kind v i j <;> rfl

theorem skelCell_dark (v : Int) (hv : 1 ≤ v) (i j : Nat) :
    skelCell 1 v i j = if i + 8 = Spec.size v ∧ j = 8 then 1 else skelCell 0 v i j := by
  rw [skelCell_eq]
  simp only [kind_dark_iff v hv]

theorem skelRows_micro (v : Int) (hv : v < 1) (d : Nat) : skelRows d v = skelRows 0 v := by
  unfold skelRows
  refine List.map_congr_left fun i _ => List.map_congr_left fun j _ => ?_
  rw [skelCell_eq, if_neg (kind_micro_not_dark v hv i j)]

theorem get2_toRows (m : Model.Matrix) (i j : Nat) :
    Model.get2 m i j = ((toRows m).getD i []).getD j 0 := by
  unfold Model.get2 toRows
  simp only [Array.getD_eq_getD_getElem?, List.getD_eq_getElem?_getD, List.getElem?_map,
    Array.getElem?_toList]
  cases m[i]? <;> simp

theorem skelRows_getD (d : Nat) (v : Int) (i j : Nat) (hi : i < Spec.size v) (hj : j < Spec.size v) :
    ((skelRows d v).getD i []).getD j 0 = skelCell d v i j := by
  unfold skelRows
  simp [List.getD_eq_getElem?_getD, hi, hj]

theorem sq_of_toRows (d : Nat) (v : Int) (m : Model.Matrix) (h : toRows m = skelRows d v) :
    Placement.Sq m (Spec.size v) := by
  have hlen : m.size = Spec.size v := by
    have := congrArg List.length h
    simpa [toRows, skelRows] using this
  refine ⟨hlen, ?_⟩
  intro i hi
  have h2 := congrArg (fun r => (r.getD i []).length) h
  simp only [toRows, skelRows, List.getD_eq_getElem?_getD, List.getElem?_map, Array.getElem?_toList] at h2
  simp only [Array.getD_eq_getD_getElem?]
  have hi' : i < m.size := by omega
  simp [hi, hi'] at h2 ⊢
  exact h2

theorem cells_of_toRows (d : Nat) (v : Int) (m : Model.Matrix) (h : toRows m = skelRows d v)
    (i j : Nat) (hi : i < Spec.size v) (hj : j < Spec.size v) :
    Model.get2 m i j = skelCell d v i j := by
  rw [get2_toRows, h, skelRows_getD d v i j hi hj]

theorem toRows_of_cells (n : Nat) (m : Model.Matrix) (f : Nat → Nat → Nat) (hs : Placement.Sq m n)
    (hc : ∀ i j, i < n → j < n → Model.get2 m i j = f i j) :
    toRows m = (List.range n).map (fun i => (List.range n).map (fun j => f i j)) := by
  apply List.ext_getElem
  · simp [toRows, hs.1]
  · intro i h1 h2
    have hi : i < n := by simpa using h2
    have hrow : ((toRows m)[i]).length = n := by
      have := hs.2 i hi
      simp only [toRows, List.getElem_map, Array.getElem_toList, Array.length_toList]
      simp only [Array.getD_eq_getD_getElem?] at this
      have hi' : i < m.size := by rw [hs.1]; exact hi
      simpa [hi'] using this
    apply List.ext_getElem
    · simp [hrow]
    · intro j h3 h4
      have hj : j < n := by simpa using h4
      have := hc i j hi hj
      rw [get2_toRows, List.getD_eq_getElem?_getD, List.getD_eq_getElem?_getD] at this
      simp only [List.getElem?_eq_getElem h1, Option.getD_some, List.getElem?_eq_getElem h3] at this
      simp [this]

theorem toRows_dark (v : Int) (hv : 1 ≤ v) (m : Model.Matrix) (h : toRows m = skelRows 0 v) :
    toRows (Model.set2 m (Spec.size v - 8) 8 1) = skelRows 1 v := by
  have hn := Size.le_size_qr v hv
  have hs := sq_of_toRows 0 v m h
  unfold skelRows
  apply toRows_of_cells _ _ _ ((Placement.Sq_set2 _ _ _ _ _).2 hs)
  intro i j hi hj
  rw [get2_set2_sq m _ _ _ _ _ _ hs, cells_of_toRows 0 v m h i j hi hj, skelCell_dark v hv]
  by_cases hd : i + 8 = Spec.size v ∧ j = 8
  · rw [if_pos hd, if_pos (by omega)]
  · rw [if_neg hd, if_neg (by omega)]

theorem finderBit_le (a b : Nat) : Spec.finderBit a b ≤ 1 := by
  unfold Spec.finderBit
  split
  · omega
  · split <;> omega

theorem skelCell_cases (d : Nat) (v : Int) (i j : Nat) :
    (Spec.isData v i j = true ∧ skelCell d v i j = 2) ∨
    (Spec.isData v i j = false ∧ (skelCell d v i j ≤ 1 ∨ skelCell d v i j = d)) := by
  unfold skelCell Spec.isData Spec.fixedValue
  cases hk : Spec.kind v i j <;> simp
  · exact Or.inl (finderBit_le _ _)
  · split <;> split <;> omega
  · split <;> omega

theorem skelCell_eq_two_iff (d : Nat) (hd : d ≠ 2) (v : Int) (i j : Nat) :
    skelCell d v i j = 2 ↔ Spec.isData v i j = true := by
  rcases skelCell_cases d v i j with ⟨h1, h2⟩ | ⟨h1, h2⟩ <;> rw [h1]
  · exact ⟨fun _ => rfl, fun _ => h2⟩
  · exact ⟨fun h => by omega, fun h => nomatch h⟩

theorem skelCell_le_one_of_not_data (d : Nat) (hd : d ≤ 1) (v : Int) (i j : Nat)
    (h : Spec.isData v i j = false) : skelCell d v i j ≤ 1 := by
  rcases skelCell_cases d v i j with ⟨h1, _⟩ | ⟨_, h2⟩
  · rw [h] at h1; cases h1
  · omega

end Proofs.Placement2
