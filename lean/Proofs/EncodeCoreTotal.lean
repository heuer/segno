/-
  Proofs.EncodeCoreTotal — every stage of `_encode` (`Model.encodeCore`) on content that fits: the stage returns a
  value, or its only error is ValueError.  For the stages that have a closed form (`add_alignment_patterns`, format and
  version information: Proofs/Cells.lean, Proofs/Placement.lean) totality is read off that form; for the others what
  makes a stage total is read off the regenerated tables once per table (same keys in Tables 7 and 9, a generator
  polynomial for every block, a mode indicator for every mode of a Micro QR version, …).
-/
import Proofs.EncodeStages
import Proofs.Idempotent
import Proofs.Message
import Proofs.Sizing
import Proofs.Stream
import Proofs.StreamParse

namespace Proofs.EncodeCoreTotal
open Model Proofs.ArgsLemmas Proofs.EncodeStages
open Proofs.Except (RaisesOnly)

theorem lookup2_isSome {α : Type} (t : List (Int × Int × α)) (a b : Int) (h : (a, b) ∈ t.map (fun x => (x.1, x.2.1))) :
    (lookup2 t a b).isSome = true := by
  obtain ⟨x, hx, hk⟩ := List.mem_map.1 h
  cases hk
  simp only [lookup2, Option.isSome_map, List.find?_isSome]
  exact ⟨x, hx, by simp⟩

theorem fits_range {segs : List Segment} {er : Option Nat} {eci : Bool} {v : Int} (h : Fits segs er eci v) :
    -3 ≤ v ∧ v ≤ 40 := by
  obtain ⟨cap, bl, hc, -, -⟩ := h
  obtain ⟨h1, h2, -, -⟩ := Proofs.Stream.cap_facts hc
  exact ⟨h1, h2⟩

theorem boostGo_no_err (v : Int) (d : Nat) : ∀ (ls : List Nat) (cur : Nat),
    (∀ l ∈ ls, (capacity v (some l)).isSome = true) → RaisesOnly (fun _ => False) (boostErrorLevel.go v d cur ls)
  | [], _, _ => .ok _
  | l :: t, _, hl => by
    obtain ⟨cap, hc⟩ := Option.isSome_iff_exists.1 (hl l (List.mem_cons_self ..))
    simp only [boostErrorLevel.go, hc]
    exact .ite (boostGo_no_err v d t l fun x hx => hl x (List.mem_cons_of_mem _ hx)) (.ok _)

theorem boost_err (v : Int) (e0 : Nat) (segs : List Segment) (eci : Bool) (d cap : Nat)
    (hd : bitLengthWithOverhead segs v eci false = some d) (hcap : capacity v (some e0) = some cap) :
    RaisesOnly (· = .valueError) (boostErrorLevel v (some e0) segs eci false) := by
  obtain ⟨h1, h2, -, h4⟩ := Proofs.EncodeStages.capacity_facts hcap
  have hv3 : v ≠ -3 := h4 rfl
  rw [Proofs.Sizing.boost_eq, hd]
  refine .ite (.ok _) (.ite ?_ (.error rfl))
  intro e h
  split at h
  · cases h
  · rename_i x hg
    cases h
    -- every level the walk may try has a capacity in `v`
    refine (boostGo_no_err v d _ e0 (fun l hl => ?_) _ hg).elim
    rw [Proofs.Sizing.capacity_eq]
    exact (Proofs.Sizing.capacityOf_isSome_iff v l).2 ⟨⟨by omega, h2⟩, List.mem_of_mem_drop hl⟩

theorem micro_modes_ok :
    Gen.CHAR_COUNT_INDICATOR_LENGTH.all (fun x =>
      !(x.2.1 == -2 || x.2.1 == -1 || x.2.1 == 0) || (assoc Gen.MODE_TO_MICRO_MODE_MAPPING x.1).isSome) = true := by
  decide +kernel

theorem cciLen_mem (m : Nat) (r : Int) (c : Nat) (h : cciLen m r = some c) : (m, r, c) ∈ Gen.CHAR_COUNT_INDICATOR_LENGTH :=
  Proofs.Stream.find_key_mem _ m r c h

theorem micro_mode_some (m : Nat) (v : Int) (c : Nat) (h1 : -3 < v) (h2 : v < 1) (h : cciLen m v = some c) :
    (assoc Gen.MODE_TO_MICRO_MODE_MAPPING m).isSome = true := by
  have := List.all_eq_true.1 micro_modes_ok _ (cciLen_mem m v c h)
  simp only [Bool.or_eq_true, Bool.not_eq_true'] at this
  rcases this with h | h
  · simp only [Bool.or_eq_false_iff, beq_eq_false_iff_ne] at h
    omega
  · exact h

theorem writeSegment_err (s : Segment) (v : Int) (eci : Bool) (f : String → Option Nat)
    (hc : (cciLen s.mode (if v > 0 then Gen.version_range v else v)).isSome = true) :
    RaisesOnly (· = .valueError) (writeSegment s v eci f) := by
  have hr : (if v < 1 then v else Gen.version_range v) = (if v > 0 then Gen.version_range v else v) := by
    split <;> split <;> first | rfl | omega
  obtain ⟨c, hc⟩ := Option.isSome_iff_exists.1 hc
  rw [Proofs.StreamParse.writeSegment_eq, hr, hc]
  refine .bind ?_ fun _ _ => .bind ?_ fun _ _ => .ok _
  · -- ECI header: the codec may have no assignment number
    refine .ite ?_ (.ok _)
    split
    · exact .ok _
    · exact .error rfl
  · -- mode indicator: a Micro QR version above M1 has one for every mode it has a character count indicator for
    unfold Proofs.StreamParse.modePart
    split
    · exact .ok _
    · rename_i hm1
      split
      · rename_i hm3
        have hv1 : v < 1 := by simpa using hm1
        rw [if_neg (by omega)] at hc
        obtain ⟨mm, hmm⟩ := Option.isSome_iff_exists.1
          (micro_mode_some s.mode v c (by simpa [Gen.VERSION_M1] using hm3) hv1 hc)
        rw [hmm]
        exact .ok _
      · exact .ok _

theorem bitLength_cci (segs : List Segment) (v : Int) (eci sa : Bool) (bl : Nat)
    (h : bitLengthWithOverhead segs v eci sa = some bl) :
    ∀ s ∈ segs, (cciLen s.mode (if v > 0 then Gen.version_range v else v)).isSome = true := by
  intro s hs
  cases hcs : cciLen s.mode (if v > 0 then Gen.version_range v else v) with
  | some _ => rfl
  | none =>
    have hm := (Proofs.Except.mapM_none_iff (fun s => cciLen s.mode (if v > 0 then Gen.version_range v else v)) segs).2 ⟨s, hs, hcs⟩
    unfold bitLengthWithOverhead at h
    simp [hm, bind, Option.bind] at h

theorem writeSegments_err (segs : List Segment) (v : Int) (eci : Bool) (f : String → Option Nat) (bl : Nat)
    (hb : bitLengthWithOverhead segs v eci false = some bl) :
    RaisesOnly (· = .valueError) (segs.mapM (fun s => writeSegment s v eci f)) :=
  .mapM fun s hs => writeSegment_err s v eci f (bitLength_cci segs v eci false bl hb s hs)

theorem capacity_ecc_keys : Gen.SYMBOL_CAPACITY.map (fun x => (x.1, x.2.1)) = Gen.ECC.map (fun x => (x.1, x.2.1)) := by
  decide +kernel

theorem eccInfo_some (v : Int) (e : Option Nat) (cap : Nat) (h : capacity v e = some cap) :
    ∃ infos, eccInfo v e = some infos :=
  Option.isSome_iff_exists.1 <| lookup2_isSome _ _ _ <|
    capacity_ecc_keys ▸ List.mem_map.2 ⟨_, Proofs.Stream.capacity_mem v e cap h, rfl⟩

/-- every block of the Table 9 row has a generator polynomial, and an M1 / M3 row is one block with a data codeword
    (`Proofs.Message.row_facts`) -/
theorem makeFinalMessage_total (v : Int) (e : Option Nat) (cap : Nat) (stream : List Nat)
    (hcap : capacity v e = some cap) (hs : isM1M3 v = true → stream ≠ []) :
    ∃ r, makeFinalMessage v e stream = .ok r := by
  obtain ⟨infos, hi⟩ := eccInfo_some v e cap hcap
  have hecc := Proofs.Message.eccInfo_eq v e ▸ hi
  exact ⟨_, Proofs.Message.makeFinalMessage_eq v e stream infos hecc hs⟩

theorem finish_m13_length (buff s : List Nat) (v : Int) (cap : Nat) (h1 : -3 ≤ v) (h2 : v ≤ 40)
    (hf : Spec.fourBitFinal v = true) (h : finishStream buff v cap = .ok s) : cap ≤ s.length := by
  rw [Proofs.Stream.finish_m13 buff v cap h1 h2 hf] at h
  cases h
  simp only [List.length_append, List.length_replicate, Proofs.Stream.padCodewords_length]
  omega

/-- `add_alignment_patterns` at a symbol size: below version 2 it does nothing, from version 2 on the row of the table that it
    recomputes from the matrix size exists and has a first and a last centre (`Proofs.Align.Centres`) — no IndexError -/
theorem align_total (m : Matrix) (v : Int) (h1 : -3 ≤ v) (h2 : v ≤ 40) :
    ∃ m', addAlignmentPatterns m (Gen.calc_matrix_size v).toNat = .ok m' := by
  rw [Proofs.Sequence.matrix_size v h1 h2]
  by_cases hv : v < 2
  · exact ⟨m, Proofs.Cells.addAlignmentPatterns_small m _ (by unfold Spec.size; split <;> omega)⟩
  · obtain ⟨hrow, hc⟩ := Proofs.Cells.alignmentPos_centres v (by omega) h2
    have hk : Spec.size v = 4 * (v - 2).toNat + 25 := by have := Proofs.Size.size_qr v (by omega); omega
    rw [hk] at hc ⊢
    exact ⟨_, Proofs.Cells.addAlignmentPatterns_big m _ _ _ _ hrow hc.head hc.last⟩

theorem functionMatrix_total (v : Int) (h1 : -3 ≤ v) (h2 : v ≤ 40) : ∃ fm, functionMatrix (Gen.calc_matrix_size v).toNat = .ok fm := by
  obtain ⟨m', hm⟩ := align_total (addFinderPatterns (makeMatrix (Gen.calc_matrix_size v).toNat) (Gen.calc_matrix_size v).toNat) v h1 h2
  exact ⟨_, Proofs.Mask.functionMatrix_of_ok _ _ hm⟩

theorem addCodewords_err (m : Matrix) (bits : List Nat) (v : Int) : RaisesOnly (· = .valueError) (addCodewords m bits v) := by
  unfold addCodewords
  dsimp only
  split
  · exact .ok _
  · exact .error rfl

theorem fabm_total (m : Matrix) (mask : Option Nat) (v : Int) (h1 : -3 ≤ v) (h2 : v ≤ 40) (hsize : m.size = (Gen.calc_matrix_size v).toNat)
    (hmask : ∀ mk, mask = some mk → mk < (maskPatterns (decide (m.size < 21))).length) :
    ∃ r, findAndApplyBestMask m mask = .ok r := by
  obtain ⟨fm, hfm⟩ := functionMatrix_total v h1 h2
  rw [← hsize] at hfm
  cases mask with
  | some p => exact ⟨_, Proofs.Mask.requested m fm p hfm (hmask p rfl)⟩
  | none => exact ⟨_, (Proofs.Mask.fabm_none m fm hfm).2⟩

/-- a level with a capacity entry has a format word for every mask pattern of the version: a QR Code version has L … H, a
    Micro QR version with that level has a symbol number (`Proofs.Stream.level_facts`) -/
theorem calcFormatInfo_total (v : Int) (e : Option Nat) (cap mk : Nat) (hcap : capacity v e = some cap)
    (h8 : mk < 8) (h4 : v < 1 → mk < 4) : ∃ w, calcFormatInfo v e mk = .ok w := by
  obtain ⟨hmicro, hqr⟩ := Proofs.Stream.level_facts hcap
  by_cases hv : v < 1
  · obtain ⟨s, hs⟩ := hmicro hv
    exact ⟨_, Proofs.Placement.calcFormatInfo_micro v e mk s hv (h4 hv) hs⟩
  · obtain ⟨x, rfl, hx⟩ := hqr (by omega)
    exact ⟨_, Proofs.Placement.calcFormatInfo_qr v x mk (by omega) hx h8⟩

theorem addFormatInfo_total (m : Matrix) (v : Int) (e : Option Nat) (cap mk : Nat) (hcap : capacity v e = some cap)
    (h8 : mk < 8) (h4 : v < 1 → mk < 4) : ∃ m', addFormatInfo m v e mk = .ok m' := by
  obtain ⟨w, hw⟩ := calcFormatInfo_total v e cap mk hcap h8 h4
  rw [Proofs.Placement.addFormatInfo_eq, hw]
  exact ⟨_, rfl⟩

theorem addVersionInfo_total (m : Matrix) (v : Int) (h2 : v ≤ 40) : ∃ m', addVersionInfo m v = .ok m' := by
  by_cases hv : v < 7
  · exact ⟨m, Proofs.Placement.addVersionInfo_small m v hv⟩
  · exact ⟨_, Proofs.Placement.addVersionInfo_eq m v (by omega) h2⟩

theorem encodeTail_err (buff : List Nat) (segs : List Segment) (e' : Option Nat) (v : Int) (mask : Option Nat) (cap : Nat)
    (hcap : capacity v e' = some cap) (hmask : MaskOk v mask) :
    RaisesOnly (· = .valueError) (encodeTail buff segs e' v mask) := by
  obtain ⟨hv1, hv2, hc4, -⟩ := Proofs.Stream.cap_facts hcap
  unfold encodeTail
  simp only [hcap]
  refine .bind (.of_ok (Proofs.Stream.finish_total v cap _ hv1 hv2)) fun stream hst => ?_
  refine .bind (.of_ok (makeFinalMessage_total v e' cap stream hcap ?_)) fun final _ => ?_
  · -- M1 / M3: the stream has `cap ≥ 20` bits
    intro hm h0
    rw [Proofs.Stream.isM1M3_eq] at hm
    have hlen := finish_m13_length _ stream v cap hv1 hv2 hm hst
    have := (hc4 hm).2
    rw [h0] at hlen
    simp at hlen
    omega
  refine .bind (.of_ok (align_total _ v hv1 hv2)) fun m0 hm0 => ?_
  refine .bind (addCodewords_err _ _ _) fun m1 hm1 => ?_
  have hsize := Proofs.Idempotent.codewords_size v final m0 m1 hm0 hm1
  refine .bind (.of_ok (fabm_total m1 mask v hv1 hv2 hsize
    fun mk hmk => (Proofs.EncodeStages.mask_bound v m1.size mk hsize).2 (hmask mk hmk))) fun x hx => ?_
  obtain ⟨k, m2⟩ := x
  obtain ⟨h8, h4⟩ := (Proofs.EncodeStages.mask_bound v m1.size k hsize).1 (Proofs.Idempotent.fabm_idem m1 mask k m2 hx).2
  refine .bind (.of_ok (addFormatInfo_total m2 v e' cap k hcap h8 h4)) fun m3 _ => ?_
  exact .bind (.of_ok (addVersionInfo_total m3 v hv2)) fun _ _ => .ok _

theorem encodeCore_err (segs : List Segment) (er : Option Nat) (v : Int) (mask : Option Nat) (eci boost : Bool)
    (f : String → Option Nat) (hfit : Fits segs er eci v) (hmask : MaskOk v mask) :
    RaisesOnly (· = .valueError) (encodeCore segs (defaultLevel er v) v mask eci boost f) := by
  obtain ⟨cap, bl, hcap, hb, hle⟩ := hfit
  rw [Proofs.Sequence.encodeCore_eq]
  refine .bind ?_ fun e'' hb' => ?_
  · cases boost with
    | false => exact .ok _
    | true =>
      cases hd : defaultLevel er v with
      | none => exact .ok _
      | some e0 => exact boost_err v e0 segs eci bl cap hb (hd ▸ hcap)
  · -- the level after boosting has a capacity entry
    obtain ⟨cap', -, hcap', -⟩ := Proofs.Sizing.boost_step_fits v _ e'' segs eci false boost hb' ⟨cap, bl, hcap, hb, hle⟩
    exact .bind (writeSegments_err segs v eci f bl hb) fun segBits _ => encodeTail_err _ segs e'' v mask cap' hcap' hmask

end Proofs.EncodeCoreTotal
