/-
  Proofs.EncodeStages — the stages of `Model.encode` before `_encode` (`encodeCore`): which errors each stage can
  raise, what a successful stage establishes (the content fits, the mask is in range), and `encode` returning a
  symbol as the conjunction of its stages.
-/
import Proofs.ArgsLemmas
import Proofs.SegmentErr
import Proofs.Stream
import Proofs.EncodeCore

namespace Proofs.EncodeStages
open Model Model.Args Proofs.ArgsLemmas
open Proofs.Except (pure_eq_ok throw_ne_ok ite_throw_ok ite_else_throw_ok RaisesOnly)

/-- the content (with a Structured Append header if `sa`) fits into version `v` at level `e` -/
def FitsAt (segs : List Segment) (v : Int) (eci sa : Bool) (e : Option Nat) : Prop :=
  ∃ cap bl, capacity v e = some cap ∧ bitLengthWithOverhead segs v eci sa = some bl ∧ bl ≤ cap

/-- the content fits into version `v` at the level the encoder starts from -/
def Fits (segs : List Segment) (er : Option Nat) (eci : Bool) (v : Int) : Prop :=
  ∃ cap bl, capacity v (defaultLevel er v) = some cap ∧ bitLengthWithOverhead segs v eci false = some bl ∧ bl ≤ cap

def MaskOk (v : Int) (mask : Option Nat) : Prop :=
  ∀ mk, mask = some mk → mk < 8 ∧ (v < 1 → mk < 4)

theorem defaultLevel_eq_none (error : Option Nat) (v : Int) (h : defaultLevel error v = none) :
    error = none ∧ v = Gen.VERSION_M1 := by
  unfold defaultLevel at h
  split at h
  · cases h
  · rename_i hc
    subst h
    simpa using hc

theorem capacity_facts {v : Int} {e : Option Nat} {cap : Nat} (h : capacity v e = some cap) :
    -3 ≤ v ∧ v ≤ 40 ∧ (e = some Gen.ERROR_LEVEL_H → 1 ≤ v) ∧ (e.isSome = true → v ≠ -3) := by
  rcases (Proofs.Stream.capacity_isSome_iff v e).1 (by rw [h]; rfl) with ⟨rfl, rfl⟩ | ⟨⟨h1, h2⟩, n, hn, rfl⟩
  · exact ⟨by omega, by omega, nofun, nofun⟩
  · refine ⟨by omega, h2, fun hH => ?_, fun _ => by omega⟩
    cases hH
    have := (Proofs.Stream.mem_boostLevels v _).1 hn
    simp only [Gen.ERROR_LEVEL_H] at this
    omega

theorem micro_contains (v : Int) : Gen.MICRO_VERSIONS.contains v = true ↔ -3 ≤ v ∧ v ≤ 0 := by
  simp only [Gen.MICRO_VERSIONS, List.contains_eq_mem, List.mem_cons, List.not_mem_nil, or_false,
    decide_eq_true_eq]
  omega

theorem mem_intRange (lo hi v : Int) : v ∈ intRange lo hi ↔ lo ≤ v ∧ v ≤ hi := by
  unfold intRange
  simp only [List.mem_map, List.mem_range]
  constructor
  · rintro ⟨k, hk, rfl⟩
    simp only [Int.ofNat_eq_natCast]
    omega
  · intro h
    refine ⟨(v - lo).toNat, by omega, ?_⟩
    simp only [Int.ofNat_eq_natCast]
    omega

theorem pairwise_intRange (lo hi : Int) : (intRange lo hi).Pairwise (· < ·) := by
  unfold intRange
  rw [List.pairwise_map]
  refine List.Pairwise.imp ?_ List.pairwise_lt_range
  intro a b hab
  simp only [Int.ofNat_eq_natCast]
  omega

theorem find?_le_of_pairwise (p : Int → Bool) (l : List Int) (hl : l.Pairwise (· < ·)) (v : Int)
    (hv : v ∈ l) (hp : p v = true) : ∃ g, l.find? p = some g ∧ g ≤ v := by
  induction l with
  | nil => cases hv
  | cons a l ih =>
    rw [List.pairwise_cons] at hl
    by_cases ha : p a = true
    · refine ⟨a, by simp [ha], ?_⟩
      rcases List.mem_cons.1 hv with rfl | hv'
      · exact Int.le_refl _
      · exact Int.le_of_lt (hl.1 v hv')
    · rcases List.mem_cons.1 hv with rfl | hv'
      · exact absurd hp ha
      · obtain ⟨g, hg, hle⟩ := ih hl.2 hv'
        exact ⟨g, by simp [ha, hg], hle⟩

def maxV (micro : Option Bool) : Int := if micro == some true then Gen.VERSION_M4 else 40

/-- the lower end of the search range before the error level is looked at -/
def minV1R (segs : List Segment) (micro : Option Bool) : R Int :=
  if (if micro != some false then Gen.VERSION_M1 else 1 : Int) < 1 then
      match segs.mapM (fun s => findMinimumVersionForMode s.mode) with
      | none => throw PyErr.valueError
      | some [] => throw PyErr.valueError
      | some (x :: xs) => pure (xs.foldl max x)
    else pure (if micro != some false then Gen.VERSION_M1 else 1)

/-- the test `find_version` searches with: the content fits version `v` at the level the encoder starts from -/
def fitsB (segs : List Segment) (error : Option Nat) (eci isSa : Bool) (v : Int) : Bool :=
    match capacity v (defaultLevel error v), bitLengthWithOverhead segs v eci isSa with
    | some cap, some bl => cap ≥ bl
    | _, _ => false

theorem findVersion_eq (segs : List Segment) (error : Option Nat) (eci : Bool) (micro : Option Bool) (isSa : Bool) :
    findVersion segs error eci micro isSa =
      (if eci && micro == some true then throw PyErr.assertionError else
        minV1R segs micro >>= fun minV1 =>
        match (intRange (if error.isSome && micro != some false then Gen.VERSION_M2 else minV1) (maxV micro)).find?
            (fitsB segs error eci isSa) with
        | some v => pure v
        | none => throw PyErr.dataOverflow) := by
  unfold findVersion minV1R
  by_cases h1 : (eci && micro == some true) = true
  · simp only [h1, if_true]; rfl
  · simp only [h1]
    by_cases h2 : (if (micro != some false) = true then Gen.VERSION_M1 else 1 : Int) < 1
    · simp only [h2, if_true]
      cases hm : List.mapM (fun s => findMinimumVersionForMode s.mode) segs with
      | none => rfl
      | some l =>
        cases l with
        | nil => rfl
        | cons x xs => rfl
    · simp only [h2, if_false]; rfl

theorem fitsB_iff (segs : List Segment) (error : Option Nat) (eci isSa : Bool) (v : Int) :
    fitsB segs error eci isSa v = true ↔ FitsAt segs v eci isSa (defaultLevel error v) := by
  unfold fitsB FitsAt
  generalize capacity v _ = oc
  generalize bitLengthWithOverhead segs v eci isSa = ob
  cases oc <;> cases ob <;> simp

theorem findVersion_ok_iff (segs : List Segment) (error : Option Nat) (eci : Bool) (micro : Option Bool) (isSa : Bool) (g : Int) :
    findVersion segs error eci micro isSa = .ok g ↔
      (eci && micro == some true) = false ∧ ∃ minV1, minV1R segs micro = .ok minV1 ∧
        (intRange (if error.isSome && micro != some false then Gen.VERSION_M2 else minV1) (maxV micro)).find?
            (fitsB segs error eci isSa) = some g := by
  rw [findVersion_eq]
  simp only [ite_throw_ok, Proofs.Except.bind_ok, Bool.not_eq_true]
  refine and_congr_right fun _ => exists_congr fun minV1 => and_congr_right fun _ => ?_
  split
  · rename_i h; simp only [h, pure_eq_ok, Option.some.injEq]
  · rename_i h; simp only [h, throw_ne_ok, reduceCtorEq]

theorem findVersion_qr (segs : List Segment) (error : Option Nat) (eci isSa : Bool) (g : Int)
    (h : findVersion segs error eci (some false) isSa = .ok g) :
    1 ≤ g ∧ g ≤ 40 ∧ FitsAt segs g eci isSa (defaultLevel error g) := by
  obtain ⟨-, minV1, hmin, hfind⟩ := (findVersion_ok_iff _ _ _ _ _ _).1 h
  cases hmin
  have hmem := (mem_intRange _ _ _).1 (List.mem_of_find?_eq_some hfind)
  rw [bne_self_eq_false, Bool.and_false, if_neg Bool.false_ne_true, if_neg Bool.false_ne_true] at hmem
  exact ⟨hmem.1, hmem.2, (fitsB_iff _ _ _ _ _).1 (List.find?_some hfind)⟩

theorem findVersion_err (segs : List Segment) (error : Option Nat) (eci : Bool) (micro : Option Bool) :
    RaisesOnly (fun e => e = .valueError ∨ e = .dataOverflow ∨ (e = .assertionError ∧ (eci && micro == some true) = true))
      (findVersion segs error eci micro) := by
  rw [findVersion_eq]
  split
  · rename_i h; exact .error (.inr (.inr ⟨rfl, h⟩))
  · refine .bind (.ite ?_ (.ok _)) fun _ _ => ?_
    · split <;> first | exact .error (.inl rfl) | exact .ok _
    · split
      · exact .ok _
      · exact .error (.inr (.inl rfl))

theorem findVersion_fits (segs : List Segment) (error : Option Nat) (eci : Bool) (micro : Option Bool) (g : Int)
    (h : findVersion segs error eci micro = .ok g) : Fits segs error eci g := by
  obtain ⟨_, _, _, hfind⟩ := (findVersion_ok_iff _ _ _ _ _ _).1 h
  exact (fitsB_iff _ _ _ _ _).1 (List.find?_some hfind)

theorem pickVersion_ok_iff (version : Option Int) (g v : Int) :
    pickVersion version g = .ok v ↔ (version = none ∧ v = g) ∨ (version = some v ∧ g ≤ v) := by
  cases version with
  | none =>
    show (pure g : R Int) = .ok v ↔ _
    rw [pure_eq_ok]
    constructor
    · rintro rfl; exact .inl ⟨rfl, rfl⟩
    · rintro (⟨-, rfl⟩ | ⟨h, -⟩)
      · rfl
      · cases h
  | some w =>
    simp only [pickVersion, ite_throw_ok, pure_eq_ok, reduceCtorEq, false_and, false_or, Option.some.injEq, Int.not_lt]
    constructor
    · rintro ⟨h, rfl⟩; exact ⟨rfl, h⟩
    · rintro ⟨rfl, h⟩; exact ⟨h, rfl⟩

theorem pickVersion_err (version : Option Int) (g : Int) : RaisesOnly (· = .dataOverflow) (pickVersion version g) := by
  cases version with
  | none => exact .ok _
  | some v => exact .ite (.error rfl) (.ok _)

theorem ownCapacityCheck_ok_iff (segs : List Segment) (v g : Int) (e : Option Nat) (eci : Bool) (u : Unit) :
    ownCapacityCheck segs v g e eci = .ok u ↔ (v ≠ g → FitsAt segs v eci false e) := by
  unfold ownCapacityCheck FitsAt
  generalize capacity v e = oc
  generalize bitLengthWithOverhead segs v eci false = ob
  by_cases hvg : v = g
  · simp [hvg, pure_eq_ok]
  · cases oc <;> cases ob <;> simp [hvg, throw_ne_ok, ite_else_throw_ok, pure_eq_ok]

theorem ownCapacityCheck_err (segs : List Segment) (v g : Int) (e : Option Nat) (eci : Bool) :
    RaisesOnly (· = .dataOverflow) (ownCapacityCheck segs v g e eci) := by
  refine .ite ?_ (.ok _)
  split
  · exact .ite (.ok _) (.error rfl)
  · exact .error rfl

theorem fits_of_check {segs : List Segment} {error : Option Nat} {eci : Bool} {g v : Int} (hg : Fits segs error eci g)
    (h : v ≠ g → FitsAt segs v eci false (defaultLevel error v)) : Fits segs error eci v := by
  by_cases hvg : v = g
  · exact hvg ▸ hg
  · exact h hvg

theorem maskPatterns_length (b : Bool) : (maskPatterns b).length = if b then 4 else 8 := by
  cases b <;> rfl

theorem calc_matrix_size_lt_21_iff (v : Int) : (Gen.calc_matrix_size v).toNat < 21 ↔ v < 1 := by
  unfold Gen.calc_matrix_size
  by_cases hv : v > 0 <;> simp only [hv, decide_true, decide_false, if_true, Bool.false_eq_true, if_false] <;> omega

/-- the masks `find_and_apply_best_mask` can apply are the ones `normalize_mask` accepts -/
theorem mask_bound (v : Int) (sz k : Nat) (hsz : sz = (Gen.calc_matrix_size v).toNat) :
    k < (maskPatterns (decide (sz < 21))).length ↔ k < 8 ∧ (v < 1 → k < 4) := by
  simp only [maskPatterns_length, hsz, decide_eq_true_eq, calc_matrix_size_lt_21_iff]
  split <;> omega

theorem maskRangeCheck_ok_iff (v : Int) (mask : Option Nat) (u : Unit) : maskRangeCheck v mask = .ok u ↔ MaskOk v mask := by
  cases mask with
  | none => simp [maskRangeCheck, MaskOk, pure_eq_ok]
  | some mk =>
    simp only [maskRangeCheck, MaskOk, ite_throw_ok, pure_eq_ok, Option.some.injEq, forall_eq']
    simp
    omega

theorem maskRangeCheck_err (v : Int) (mask : Option Nat) : RaisesOnly (· = .valueError) (maskRangeCheck v mask) := by
  cases mask with
  | none => exact .ok _
  | some mk => exact .ite (.error rfl) (.ok _)

theorem encode_ok_iff (parts : List Part) (error : Option Nat) (version : Option Int) (mode : Option Nat) (mask : Option Nat)
    (eci : Bool) (micro : Option Bool) (boost : Bool) (f : String → Option Nat) (c : Code) :
    encode parts error version mode mask eci micro boost f = .ok c ↔
      comboChecks version error mode eci micro = .ok () ∧
      ∃ segs, prepareData parts = .ok segs ∧
      ∃ g, findVersion segs error eci (if eci && micro.isNone then some false else micro) = .ok g ∧
      ∃ v, pickVersion version g = .ok v ∧ (v ≠ g → FitsAt segs v eci false (defaultLevel error v)) ∧ MaskOk v mask ∧
        encodeCore segs (defaultLevel error v) v mask eci boost f = .ok c := by
  rw [encode_eq]
  unfold encTail
  simp only [Proofs.Except.bind_ok, ownCapacityCheck_ok_iff, maskRangeCheck_ok_iff]
  constructor
  · rintro ⟨⟨⟩, hc, segs, hs, g, hg, v, hv, ⟨⟩, hf, ⟨⟩, hm, h⟩
    exact ⟨hc, segs, hs, g, hg, v, hv, hf, hm, h⟩
  · rintro ⟨hc, segs, hs, g, hg, v, hv, hf, hm, h⟩
    exact ⟨(), hc, segs, hs, g, hg, v, hv, (), hf, (), hm, h⟩

/-- what an accepted call of `encode` went through, said of the symbol `c` it returned -/
structure Accepted (parts : List Part) (error : Option Nat) (version : Option Int) (mode mask : Option Nat) (eci : Bool)
    (micro : Option Bool) (boost : Bool) (f : String → Option Nat) (c : Code) : Prop where
  combo : ComboOK version error mode eci micro
  prep : prepareData parts = .ok c.segments
  found : ∃ g, findVersion c.segments error eci (if eci && micro.isNone then some false else micro) = .ok g ∧
    pickVersion version g = .ok c.version
  fits : Fits c.segments error eci c.version
  maskOk : MaskOk c.version mask
  core : encodeCore c.segments (defaultLevel error c.version) c.version mask eci boost f = .ok c

section
variable {parts : List Part} {error : Option Nat} {version : Option Int} {mode mask : Option Nat} {eci : Bool}
  {micro : Option Bool} {boost : Bool} {f : String → Option Nat} {c : Code}

theorem encode_accepted (h : encode parts error version mode mask eci micro boost f = .ok c) :
    Accepted parts error version mode mask eci micro boost f c := by
  obtain ⟨hc, segs, hs, g, hg, v, hv, hf, hm, hcore⟩ := (encode_ok_iff ..).1 h
  obtain ⟨rfl, rfl, -, -⟩ := Proofs.Sequence.encodeCore_ok _ _ _ _ _ _ _ _ _ hcore
  exact ⟨comboChecks_ok_iff.1 hc, hs, ⟨g, hg, hv⟩, fits_of_check (findVersion_fits _ _ _ _ _ hg) hf, hm, hcore⟩

theorem Accepted.boost_eq (a : Accepted parts error version mode mask eci micro boost f c) :
    (if boost then boostErrorLevel c.version (defaultLevel error c.version) c.segments eci false
      else pure (defaultLevel error c.version)) = .ok c.error :=
  (Proofs.Sequence.encodeCore_ok _ _ _ _ _ _ _ _ _ a.core).2.2.1

end

theorem encode_bad_mask (parts : List Part) (error : Option Nat) (version : Option Int) (mode : Option Nat) (mk : Nat)
    (eci : Bool) (micro : Option Bool) (boost : Bool) (f : String → Option Nat) (hmk : 8 ≤ mk) (r : Code)
    (h : encode parts error version mode (some mk) eci micro boost f = .ok r) : False := by
  have := ((encode_accepted h).maskOk mk rfl).1
  omega

end Proofs.EncodeStages
