/-
  Proofs.EncodeLevel — version (C04), level (C05), requested mask (C06) and modes (C07) of the symbol `Model.encode`
  returns: what an accepted call went through (`Proofs.EncodeStages.encode_accepted`) composed with the per-stage results, and
  what `Spec.expectedVersion` / `Spec.expectedLevel` make of the arguments `encode` hands to the stages.
-/
import Spec.Sizing
import Spec.Penalty
import Model.Encoder
import Props.C04
import Props.C05
import Props.EndToEnd
import Proofs.ArgsLemmas
import Proofs.EncodeStages
import Proofs.EncodeCoreTotal

namespace Proofs.EncodeLevel
open Model Props.C04

/-- `Spec.admissible` already excludes Micro versions under ECI, so mapping micro = None to False changes nothing -/
theorem expectedVersion_micro (micro : Option Bool) (eci : Bool) (error : Option Nat) (segs : List Spec.SegInfo)
    (sa : Bool) (h : eci = true → micro ≠ some true) :
    Spec.expectedVersion (if eci && micro.isNone then some false else micro) eci error segs sa
      = Spec.expectedVersion micro eci error segs sa := by
  cases eci with
  | false => rfl
  | true =>
    rcases micro with _ | _ | _
    · unfold Spec.expectedVersion
      apply Proofs.Sizing.find?_congr
      intro v _
      have : Spec.admissible (if (true && (none : Option Bool).isNone) = true then some false else none) true error v
          = Spec.admissible none true error v := by
        unfold Spec.admissible
        by_cases hv : v < 1
        · simp [hv]
        · simp [hv]; decide
      rw [this]
    · rfl
    · exact absurd rfl (h rfl)

/-- Without a requested version `encode` can overflow in `find_version` only: the version found is taken as it is and
    passes its own capacity check, and `_encode` on content that fits raises ValueError at most. -/
theorem encode_auto_overflow (parts : List Part) (error mode mask : Option Nat) (eci : Bool) (micro : Option Bool)
    (boost : Bool) (f : String → Option Nat)
    (h : encode parts error none mode mask eci micro boost f = .error .dataOverflow) :
    Proofs.ArgsLemmas.ComboOK none error mode eci micro ∧ ∃ segs, prepareData parts = .ok segs ∧
      findVersion segs error eci (if eci && micro.isNone then some false else micro) = .error .dataOverflow := by
  open Proofs.ArgsLemmas Proofs.EncodeStages in
  rw [encode_eq] at h
  rcases Proofs.Except.bind_err.1 h with h | ⟨⟨⟩, hcombo, h⟩
  · cases comboChecks_err _ _ _ _ _ _ h
  unfold encTail at h
  rcases Proofs.Except.bind_err.1 h with h | ⟨segs, hs, h⟩
  · cases Proofs.SegmentErr.prepareData_err _ _ h
  refine ⟨comboChecks_ok_iff.1 hcombo, segs, hs, ?_⟩
  rcases Proofs.Except.bind_err.1 h with h | ⟨g, hg, h⟩
  · exact h
  exfalso
  rcases Proofs.Except.bind_err.1 h with h | ⟨v, hv, h⟩
  · cases h
  cases hv
  rcases Proofs.Except.bind_err.1 h with h | ⟨-, -, h⟩
  · rw [(ownCapacityCheck_ok_iff segs g g _ eci ()).2 fun hne => absurd rfl hne] at h
    cases h
  cases ((maskRangeCheck_err g mask).bind fun _ hm => Proofs.EncodeCoreTotal.encodeCore_err segs error g mask eci
    boost f (findVersion_fits _ _ _ _ _ hg) ((maskRangeCheck_ok_iff _ _ _).1 hm)) _ h

theorem addSegment_ne_nil (segs : List Segment) (s : Segment) : addSegment segs s ≠ [] := by
  unfold addSegment
  split
  · simp
  · dsimp only
    generalize (if s.mode == Gen.MODE_NUMERIC then 3 else if s.mode == Gen.MODE_ALPHANUMERIC then 2 else 1) = g
    split <;> simp

theorem prepareData_ne_nil (parts : List Part) (segs : List Segment) (hne : parts ≠ [])
    (h : prepareData parts = .ok segs) : segs ≠ [] := by
  refine Proofs.Except.foldlM_ok_inv (fun pre segs => pre ≠ [] → segs ≠ []) parts [] [] (fun h => absurd rfl h)
    (fun _ p acc acc' _ _ h _ => ?_) h hne
  obtain ⟨s, _, h⟩ := Proofs.Except.bind_ok.1 h
  cases h
  exact addSegment_ne_nil acc s

theorem prepareData_wf_of_partsOk (parts : List Part) (segs : List Segment) (hp : Props.EndToEnd.PartsOk parts)
    (h : prepareData parts = .ok segs) : ∀ x ∈ segs, WF x :=
  Props.C04.prepareData_wf parts segs (fun p hp' => (hp.2 p hp').2.2) h

theorem expectedLevel_id (v : Int) (r : Option Nat) (boost : Bool) (l : List Spec.SegInfo) (sa : Bool)
    (h : (!boost || l.length != 1 || Spec.sizingLevel r v == -1) = true) :
    Spec.expectedLevel v r boost l sa = Spec.sizingLevel r v := by
  unfold Spec.expectedLevel
  dsimp only
  rw [if_pos h]

/-- The first step of `_encode` (`Proofs.Sequence.encodeCore_eq`) against the specification.  `e'` is the level the encoder starts from:
    `Spec.sizingLevel` of the request, and the content fits at it.  Boosting leaves it alone unless there is exactly one
    segment and a level to start from; then `Proofs.Sizing.boost_highest` applies. -/
theorem boost_step_expected (v : Int) (error e' e'' : Option Nat) (boost : Bool) (segs : List Segment) (eci : Bool)
    (hwf : ∀ x ∈ segs, WF x)
    (hbase : lvlKey e' = Spec.sizingLevel error v) (hfit : Proofs.EncodeStages.FitsAt segs v eci false e')
    (hstep : (if boost then boostErrorLevel v e' segs eci false else pure e') = .ok e'') :
    lvlKey e'' = Spec.expectedLevel v error boost (segs.map (info eci)) false := by
  by_cases hid : boost = false ∨ e' = none ∨ segs.length ≠ 1
  · -- the level is left alone
    have hce : e'' = e' := by
      cases boost with
      | false => exact (Except.ok.inj hstep).symm
      | true =>
        rw [if_pos rfl, Props.C05.boost_identity_cases v e' segs eci _
          ((hid.resolve_left (by simp)).imp_right .inr)] at hstep
        exact (Except.ok.inj hstep).symm
    rw [hce, hbase]
    refine (expectedLevel_id _ _ _ _ _ ?_).symm
    rcases hid with rfl | rfl | hlen
    · simp
    · have : Spec.sizingLevel error v = -1 := by rw [← hbase]; rfl
      simp [this]
    · have : ((segs.map (info eci)).length != 1) = true := by simpa using hlen
      rw [this]; simp
  · -- boosting a single segment
    have hb : boost = true := by
      cases boost with
      | false => exact absurd (Or.inl rfl) hid
      | true => rfl
    subst hb
    have hlen : segs.length = 1 := Decidable.byContradiction fun hne => hid (.inr (.inr hne))
    obtain ⟨s, rfl⟩ := List.length_eq_one_iff.1 hlen
    cases e' with
    | none => exact absurd (Or.inr (Or.inl rfl)) hid
    | some e =>
      rw [if_pos rfl, Proofs.Sizing.boost_highest v e s eci false (hwf s (by simp))
        ((Proofs.Sizing.fitsAt_iff [s] v eci false (some e) hwf).1 hfit)] at hstep
      rw [← Except.ok.inj hstep, List.map_cons, List.map_nil,
        Proofs.Sizing.expectedLevel_single v error e _ false hbase.symm]
      rfl

theorem requested_mask_inv (m1 : Matrix) (p mk : Nat) (m2 : Matrix)
    (h : findAndApplyBestMask m1 (some p) = .ok (mk, m2)) : mk = p := by
  obtain ⟨fm, -, hk, -⟩ := (Proofs.Mask.fabm_ok_iff m1 (some p) mk m2).1 h
  exact hk

theorem encode_single_inv (data : List Nat) (md : Option Nat) (enc : String) (error : Option Nat) (version : Option Int)
    (mode mask : Option Nat) (eci : Bool) (micro : Option Bool) (boost : Bool) (f : String → Option Nat) (c : Code)
    (h : encode [{ data := data, mode := md, encoding := enc }] error version mode mask eci micro boost f = .ok c) :
    ∃ s, makeSegment data md enc = .ok s ∧ c.segments = [s] := by
  have hprep := (Proofs.EncodeStages.encode_accepted h).prep
  rw [Proofs.Modes.prepareData_single] at hprep
  obtain ⟨s, hs, hr⟩ := Proofs.Except.bind_ok.1 hprep
  simp only [pure, Except.pure, Except.ok.injEq] at hr
  exact ⟨s, hs, hr.symm⟩

end Proofs.EncodeLevel
