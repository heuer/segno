/-
  Proofs.WrapLines — the line breaking of `write_eps` (`textwrap.wrap(content, 254)`, model `wrapLines` of
  Model/VectorDocs.lean): no word is lost, duplicated or reordered, and no line is longer than the width.
-/
import Model.VectorDocs

namespace Proofs.WrapLines

open Model.VectorDocs

def total (l : List (List Char)) : Nat := (l.map List.length).sum

def wordsOf (l : List (List Char)) : List (List Char) := l.filter (fun ch => !isBlankChunk ch)

theorem total_cons (c : List Char) (l : List (List Char)) : total (c :: l) = c.length + total l := by simp [total]

theorem total_append (a b : List (List Char)) : total (a ++ b) = total a + total b := by simp [total]

theorem total_reverse (a : List (List Char)) : total a.reverse = total a := by
  induction a with
  | nil => rfl
  | cons c r ih => rw [List.reverse_cons, total_append, ih, total_cons]; simp [total]; omega

theorem wordsOf_append (a b : List (List Char)) : wordsOf (a ++ b) = wordsOf a ++ wordsOf b := by simp [wordsOf]

theorem takeLine_spec (width : Nat) (chunks : List (List Char)) : ∀ (curLen : Nat) (cur : List (List Char)),
    curLen = total cur → curLen ≤ width →
    (takeLine width curLen cur chunks).1.reverse ++ (takeLine width curLen cur chunks).2 = cur.reverse ++ chunks
    ∧ total (takeLine width curLen cur chunks).1 ≤ width := by
  induction chunks with
  | nil => intro curLen cur h1 h2; simp [takeLine]; omega
  | cons ch rest ih =>
    intro curLen cur h1 h2
    simp only [takeLine]
    by_cases hfit : curLen + ch.length ≤ width
    · simp only [hfit, if_true]
      obtain ⟨e, t⟩ := ih (curLen + ch.length) (ch :: cur) (by rw [total_cons, h1]; omega) hfit
      exact ⟨by rw [e]; simp, t⟩
    · simp only [hfit, if_false]
      exact ⟨trivial, by omega⟩

theorem pickTaken_spec (width : Nat) (c0 : List Char) (rest0 : List (List Char)) :
    (pickTaken width c0 rest0).1.reverse ++ (pickTaken width c0 rest0).2 = c0 :: rest0
    ∧ (pickTaken width c0 rest0).1 ≠ []
    ∧ (c0.length ≤ width → total (pickTaken width c0 rest0).1 ≤ width) := by
  obtain ⟨e, t⟩ := takeLine_spec width (c0 :: rest0) 0 [] rfl (Nat.zero_le _)
  simp only [List.reverse_nil, List.nil_append] at e
  unfold pickTaken
  by_cases hemp : (takeLine width 0 [] (c0 :: rest0)).1.isEmpty = true
  · rw [if_pos hemp]
    exact ⟨rfl, by simp, fun h => by simpa [total] using h⟩
  · rw [if_neg hemp]
    exact ⟨e, by intro h0; apply hemp; simp [h0], fun _ => t⟩

theorem dropTrailingBlank_spec (l : List (List Char)) :
    wordsOf (dropTrailingBlank l).reverse = wordsOf l.reverse ∧ total (dropTrailingBlank l) ≤ total l := by
  cases l with
  | nil => exact ⟨rfl, Nat.le_refl _⟩
  | cons last before =>
    by_cases hb : isBlankChunk last = true
    · simp only [dropTrailingBlank, hb, if_true, List.reverse_cons, wordsOf_append, total_cons]
      refine ⟨by simp [wordsOf, hb], by omega⟩
    · simp only [dropTrailingBlank, hb]
      exact ⟨rfl, Nat.le_refl _⟩

theorem lineStep_spec (width : Nat) (c0 : List Char) (rest0 : List (List Char)) :
    wordsOf (lineStep width c0 rest0).1 ++ wordsOf (lineStep width c0 rest0).2 = wordsOf (c0 :: rest0)
    ∧ (lineStep width c0 rest0).2.length < (c0 :: rest0).length
    ∧ (∀ x ∈ (lineStep width c0 rest0).2, x ∈ c0 :: rest0)
    ∧ (c0.length ≤ width → total (lineStep width c0 rest0).1 ≤ width) := by
  obtain ⟨hs, hne, ht⟩ := pickTaken_spec width c0 rest0
  obtain ⟨hw, hd⟩ := dropTrailingBlank_spec (pickTaken width c0 rest0).1
  unfold lineStep
  simp only []
  refine ⟨?_, ?_, ?_, ?_⟩
  · rw [hw, ← wordsOf_append, hs]
  · have : ((pickTaken width c0 rest0).1.reverse ++ (pickTaken width c0 rest0).2).length = (c0 :: rest0).length := by rw [hs]
    have h1 : 0 < (pickTaken width c0 rest0).1.length := List.length_pos_iff.mpr hne
    simp only [List.length_append, List.length_reverse] at this
    omega
  · intro x hx; rw [← hs]; exact List.mem_append_right _ hx
  · intro h; rw [total_reverse]; have := ht h; omega

theorem wrapLines_spec (width : Nat) : ∀ (fuel : Nat) (first : Bool) (chunks : List (List Char)), chunks.length < fuel →
    wordsOf (wrapLines width fuel first chunks).flatten = wordsOf chunks
    ∧ ((∀ ch ∈ chunks, ch.length ≤ width) → ∀ line ∈ wrapLines width fuel first chunks, total line ≤ width) := by
  intro fuel
  induction fuel with
  | zero => intro first chunks h; omega
  | succ fuel ih =>
    intro first chunks hf
    cases chunks with
    | nil => simp [wrapLines, wordsOf]
    | cons ch rest =>
      simp only [wrapLines]
      -- one round on the chunks `c0 :: rest0` that are left after a leading blank chunk has been dropped
      have key : ∀ (c0 : List Char) (rest0 : List (List Char)), (c0 :: rest0).length < fuel + 1 →
          wordsOf (let st := lineStep width c0 rest0
            let tail := wrapLines width fuel false st.2
            if st.1.isEmpty then tail else st.1 :: tail).flatten = wordsOf (c0 :: rest0)
          ∧ ((∀ x ∈ c0 :: rest0, x.length ≤ width) → ∀ line ∈ (let st := lineStep width c0 rest0
            let tail := wrapLines width fuel false st.2
            if st.1.isEmpty then tail else st.1 :: tail), total line ≤ width) := by
        intro c0 rest0 hlen
        obtain ⟨hw, hl, hsub, ht⟩ := lineStep_spec width c0 rest0
        obtain ⟨ihw, ihl⟩ := ih false (lineStep width c0 rest0).2 (by omega)
        simp only []
        by_cases hce : (lineStep width c0 rest0).1.isEmpty = true
        · rw [if_pos hce, ihw, ← hw, List.isEmpty_iff.1 hce]
          exact ⟨rfl, fun hle => ihl (fun x hx => hle x (hsub x hx))⟩
        · rw [if_neg hce, List.flatten_cons, wordsOf_append, ihw, hw]
          refine ⟨rfl, fun hle line hmem => ?_⟩
          rcases List.mem_cons.1 hmem with rfl | hmem
          · exact ht (hle c0 (by simp))
          · exact ihl (fun x hx => hle x (hsub x hx)) line hmem
      by_cases hdrop : (!first && isBlankChunk ch) = true
      · simp only [hdrop, if_true]
        have hw : wordsOf (ch :: rest) = wordsOf rest := by
          have hb : isBlankChunk ch = true := by simp at hdrop; exact hdrop.2
          simp [wordsOf, hb]
        rw [hw]
        cases rest with
        | nil => simp [wordsOf]
        | cons c0 rest0 =>
          obtain ⟨kw, kl⟩ := key c0 rest0 (by simp only [List.length_cons] at hf ⊢; omega)
          exact ⟨kw, fun hle => kl (fun x hx => hle x (List.mem_cons_of_mem _ hx))⟩
      · simp only [hdrop]
        exact key ch rest hf

end Proofs.WrapLines
