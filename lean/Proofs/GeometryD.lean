/-
  Proofs.GeometryD — kernel-checked count of data modules (`countOK`), versions 31 .. 40; declares in `Proofs.Placement2`,
  beside `countOK`.
-/
import Proofs.Placement2

namespace Proofs.Placement2

def versionsD : List Int := [31, 32, 33, 34, 35, 36, 37, 38, 39, 40]

theorem countD : versionsD.all countOK = true := by decide +kernel

end Proofs.Placement2
