/-
  The matrices along the pipeline of `_encode` stay n × n (`Sq`, the side condition of the ties of the matrix functions): after
  `addCodewords`, `findAndApplyBestMask`, `addFormatInfo`.
-/
import Proofs.TieA3Best
import Proofs.Placement2
import Proofs.Except


namespace Proofs.TieA5
open Proofs.TieA2 Proofs.TieA3 Model

theorem sq_placeStep {n : Nat} (l : List (Nat × Nat)) :
    ∀ (acc : Matrix × List Nat), Sq acc.1 n → Sq (l.foldl Proofs.Placement2.placeStep acc).1 n := by
  refine foldl_inv (P := fun (acc : Matrix × List Nat) => Sq acc.1 n) _ (fun acc p h => ?_) l
  unfold Proofs.Placement2.placeStep
  split
  · exact h
  · split
    · exact sq_set2 h _ _ _
    · exact h

theorem sq_addCodewords {m m' : Matrix} {n : Nat} (bits : List Nat) (v : Int) (hs : Sq m n)
    (h : Model.addCodewords m bits v = .ok m') : Sq m' n := by
  rw [Proofs.Placement2.addCodewords_eq] at h
  simp only [] at h
  split at h
  · cases h
    exact sq_placeStep _ (m, bits) hs
  · cases h

theorem sq_addFormatInfo {m m' : Matrix} {n : Nat} (v : Int) (e : Option Nat) (mask : Nat) (hs : Sq m n)
    (h : Model.addFormatInfo m v e mask = .ok m') : Sq m' n := by
  obtain ⟨fi, -, rfl⟩ := Proofs.Placement.addFormatInfo_ok h
  exact sq_iff.2 ((Proofs.Placement.Sq_applyW _ _ _).2 (sq_iff.1 hs))

theorem sq_findAndApplyBestMask {m : Matrix} {n : Nat} (proposed : Option Nat) (r : Nat × Matrix) (hs : Sq m n)
    (h : Model.findAndApplyBestMask m proposed = .ok r) : Sq r.2 n := by
  obtain ⟨fm, -, -, -, h2⟩ := (Proofs.Mask.fabm_ok_iff m proposed r.1 r.2).1 h
  rw [h2]
  exact sq_applyMask _ _ hs

end Proofs.TieA5
