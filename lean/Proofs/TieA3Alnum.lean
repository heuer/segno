/-
  `make_segment`, alphanumeric mode: the loop over `range(0, n, 2)` with `chunk = data[i:i + 2]`, 11 bits for a pair
  (`to_byte(chunk[0]) * 45 + to_byte(chunk[1])`), 6 bits for a single character, against `Model.chunks 2` / `Model.alnumIndex`.
-/
import Proofs.TieA3Numeric

namespace Proofs.TieA3
open Gen.Py Proofs.TieA2 Model

theorem find_alnum : ∀ b ∈ Gen.ALPHANUMERIC_CHARS,
    Gen.Py.find Gen.Funcs3.T_consts_ALPHANUMERIC_CHARS [(b : Int)] 0 = ((alnumIndex b : Nat) : Int) := by
  decide +kernel

/-- the bits of one chunk of `Model.makeSegment` in alphanumeric mode -/
def alnumBits (c : List Nat) : List Nat :=
  match c with
  | [a, b] => Model.appendBits (alnumIndex a * 45 + alnumIndex b) 11
  | [a] => Model.appendBits (alnumIndex a) 6
  | _ => []

theorem alnumBits_eq : (fun (c : List Nat) =>
      match c with
      | [a, b] => Model.appendBits (alnumIndex a * 45 + alnumIndex b) 11
      | [a] => Model.appendBits (alnumIndex a) 6
      | _ => []) = alnumBits := by
  funext c
  rcases c with _ | ⟨a, _ | ⟨b, _ | ⟨x, r⟩⟩⟩ <;> rfl

/-- alphanumeric mode requested for characters of the table (`find_mode` finds numeric or alphanumeric) -/
theorem make_segment_alnum_some (raw : String) (data : List Nat) (enc : Option String) (encName : String) (g : Int)
    (intOf : List Int → M Int) (hd : ∀ b ∈ data, b ∈ Gen.ALPHANUMERIC_CHARS) (hg : ¬ (2 : Int) < g) :
    Gen.Funcs3.make_segment raw (some (2 : Int)) enc (.ok (toI data, (data.length : Int), encName)) g intOf
      = .ok (toI (((chunks 2 data.length data).map alnumBits).flatten), (data.length : Int), 2, none) := by
  unfold Gen.Funcs3.make_segment
  mode_branch [hg]
  rw [chunk_loop data 2 (by omega) _ alnumBits, bind_ok]
  intro acc j hj
  rw [slice_chunk data j 2 2 rfl]
  have hlen : ((data.drop (j * 2)).take 2).length = min 2 (data.length - j * 2) := by simp
  have hmem : ∀ b ∈ (data.drop (j * 2)).take 2, b ∈ Gen.ALPHANUMERIC_CHARS :=
    fun b hb => hd b (List.mem_of_mem_drop (List.mem_of_mem_take hb))
  generalize (data.drop (j * 2)).take 2 = c at hlen hmem
  rcases c with _ | ⟨a, _ | ⟨b, _ | ⟨x, r⟩⟩⟩
  · simp only [List.length_nil] at hlen; omega
  · have ha := find_alnum a (hmem a (by simp))
    have e : decide (Int.ofNat (toI [a]).length > (1 : Int)) = false := by simp
    rw [e]
    simp only [Bool.false_eq_true, if_false, toI_cons, toI_nil, ha, alnumBits]
    rw [appendBits_lit (alnumIndex a) 6 ((alnumIndex a : Nat) : Int) (6 : Int) rfl rfl, toI_append]
  · have ha := find_alnum a (hmem a (by simp))
    have hb := find_alnum b (hmem b (by simp))
    have e : decide (Int.ofNat (toI [a, b]).length > (1 : Int)) = true := by simp
    have i0 : index (toI [a, b]) (0 : Int) = .ok (a : Int) := by simp [index, toI]
    have i1 : index (toI [a, b]) (1 : Int) = .ok (b : Int) := by simp [index, toI]
    rw [e, i0, i1]
    simp only [if_true, bind_ok, ha, hb, alnumBits]
    rw [appendBits_lit (alnumIndex a * 45 + alnumIndex b) 11 _ (11 : Int) (by push_cast; rfl) rfl, toI_append]
  · simp only [List.length_cons] at hlen; omega

theorem alnum_mem (data : List Nat) (h : Spec.representable 2 data = true) : ∀ b ∈ data, b ∈ Gen.ALPHANUMERIC_CHARS := by
  rw [Proofs.Modes.representable_2] at h
  simp only [Bool.and_eq_true, List.all_eq_true, ← Proofs.Modes.isAlnumByte_eq, isAlnumByte, List.contains_iff_mem] at h
  exact h.2

theorem findMode_alnum (data : List Nat) (h : findMode data = 2) : ∀ b ∈ data, b ∈ Gen.ALPHANUMERIC_CHARS :=
  alnum_mem data (h ▸ findMode_representable data)

theorem make_segment_alnum_py (raw : String) (data : List Nat) (mode : Option Nat) (enc : Option String) (encName : String)
    (intOf : List Int → M Int) (hg : findMode data = 2) (hmode : mode = none ∨ mode = some 2) :
    Gen.Funcs3.make_segment raw (mode.map Int.ofNat) enc (.ok (toI data, (data.length : Int), encName)) (findMode data : Int) intOf
      = .ok (toI (((chunks 2 data.length data).map alnumBits).flatten), (data.length : Int), 2, none) :=
  (make_segment_found raw data mode enc _ intOf 2 hg hmode).trans
    (make_segment_alnum_some raw data enc encName (findMode data : Int) intOf (findMode_alnum data hg) (by omega))

theorem make_segment_alnum_model (data : List Nat) (mode : Option Nat) (encName : String)
    (hg : findMode data = 2) (hmode : mode = none ∨ mode = some 2) :
    Model.makeSegment data mode encName
      = .ok { bits := ((chunks 2 data.length data).map alnumBits).flatten, charCount := data.length, mode := 2, encoding := none } :=
  makeSegment_accepted data mode encName 2 (hmode.symm.imp id (⟨·, hg⟩)) (.inr (by omega))

theorem make_segment_alnum_digits (raw : String) (data : List Nat) (enc : Option String) (encName : String)
    (intOf : List Int → M Int) (hg : findMode data = 1) :
    Gen.Funcs3.make_segment raw (some (2 : Int)) enc (.ok (toI data, (data.length : Int), encName)) (findMode data : Int) intOf
      = .ok (toI (((chunks 2 data.length data).map alnumBits).flatten), (data.length : Int), 2, none)
    ∧ Model.makeSegment data (some 2) encName
      = .ok { bits := ((chunks 2 data.length data).map alnumBits).flatten, charCount := data.length, mode := 2, encoding := none } :=
  -- digits are alphanumeric characters: what numeric mode represents, alphanumeric mode represents
  ⟨make_segment_alnum_some raw data enc encName _ intOf
      (alnum_mem data (Proofs.Modes.representable_1_2 data (hg ▸ findMode_representable data))) (by omega),
    makeSegment_accepted data (some 2) encName 2 (.inl rfl) (.inr (by omega))⟩

theorem make_segment_odd (raw : String) (data : List Nat) (md : Nat) (enc : Option String) (encName : String)
    (intOf : List Int → M Int) (hmd : md = 8 ∨ md = 13) (hodd : data.length % 2 = 1) :
    Gen.Funcs3.make_segment raw (some (md : Int)) enc (.ok (toI data, (data.length : Int), encName)) (findMode data : Int) intOf
      = .error .valueError
    ∧ Model.makeSegment data (some md) encName = .error .valueError := by
  have hl : ((data.length : Int) % 2 != 0) = true := by
    simp only [bne_iff_ne, ne_eq]; omega
  constructor
  · unfold Gen.Funcs3.make_segment
    rcases hmd with rfl | rfl <;> mode_branch [hl, Nat.cast_ofNat, ite_self]
  · -- an odd list does not consist of pairs: the content is not representable in a double-byte mode
    have hr : Spec.representable md data = false := by
      rcases hmd with rfl | rfl <;> simp [Spec.representable, Proofs.Modes.allPairs_eq, hodd]
    rw [Proofs.Modes.makeSegment_requested_eq data md encName (by rcases hmd with rfl | rfl <;> decide), hr]
    rfl

end Proofs.TieA3
