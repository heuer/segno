/-
  The raster / text document models (`write_pbm`, `write_xbm`, `write_txt`, `write_terminal`, `write_terminal_compact`, `write_pam`,
  `write_xpm`, `write_ppm`) on a symbol-shaped matrix and arguments of the documented types: a document or ValueError, ValueError
  exactly for what the documentation names.  The refusals themselves are the theorems of Props/C09Docs.lean.
-/
import Proofs.C14SerColour
import Proofs.C14SerCover
import Props.C09Docs

namespace Proofs.C14Ser
open Model Model.RasterDocs Proofs.RasterDocs

theorem admitted_of_not_refused (w h : Nat) (scale : Num) (border : Option Num) (hb : BorderOK border) (hnr : ¬ Props.C09.Refused scale border) :
    ∃ b, Admitted w h scale border b := by
  have hbv : ∃ b, Props.C09.borderValue w h border = some b := by
    cases border with
    | none => exact ⟨_, rfl⟩
    | some x =>
      rcases hb x rfl with ⟨i, rfl⟩ | hf | hn
      · exact ⟨_, rfl⟩
      · exact absurd (Or.inr ⟨x, rfl, Or.inl hf⟩) hnr
      · exact absurd (Or.inr ⟨x, rfl, Or.inr hn⟩) hnr
  obtain ⟨b, hbv⟩ := hbv
  exact ⟨b, Props.C09.checks_pass hnr hbv⟩

theorem SymbolShaped.wf {M : List (List Nat)} {w h : Nat} (hs : SymbolShaped M w h) : Proofs.Raster.WellFormed M w h :=
  ⟨hs.rows, hs.cols⟩

section
variable (M : List (List Nat)) (w h : Nat) (hs : SymbolShaped M w h) (scale : Num) (border : Option Num) (hb : BorderOK border)
include hs hb

theorem pbm_outcome (plain : Bool) : ErrIff (pbmDoc M w h scale border plain) (Props.C09.Refused scale border) :=
  ErrIff.of_cases (fun hr => (Props.C09Docs.docs_refused M w h scale border hr plain [] none none [] id {} none []).1) fun hnr => by
    obtain ⟨b, a⟩ := admitted_of_not_refused w h scale border hb hnr
    exact ⟨_, pbmDoc_eq a M hs.wf plain⟩

theorem xbm_outcome (name : List Char) : ErrIff (xbmDoc M w h scale border name) (Props.C09.Refused scale border) :=
  ErrIff.of_cases (fun hr => (Props.C09Docs.docs_refused M w h scale border hr false [] none none name id {} none []).2.2.2.1) fun hnr => by
    obtain ⟨b, a⟩ := admitted_of_not_refused w h scale border hb hnr
    exact ⟨_, xbmDoc_eq a M hs.wf name⟩

end

section
variable (M : List (List Nat)) (w h : Nat) (hs : SymbolShaped M w h) (border : Option Num) (hb : BorderOK border)
include hs hb

theorem txt_outcome (dark light : List Char) : ErrIff (txtDoc M w h border dark light) (Props.C09.Refused (.int 1) border) :=
  ErrIff.of_cases (fun hr => (Props.C09Docs.text_docs_refused M w h border hr dark light).1) fun hnr => by
    obtain ⟨b, a⟩ := admitted_of_not_refused w h (.int 1) border hb hnr
    -- the IndexError guard does not fire on a 0 / 1 matrix
    simp only [txtDoc, matrixIter_one a M hs.wf, no_gt_one _ (grid_bits M w h 1 b hs.bits), bind, Except.bind, pure, Except.pure]
    exact ⟨_, rfl⟩

theorem ansi_outcome : ErrIff (ansiDoc M w h border) (Props.C09.Refused (.int 1) border) :=
  ErrIff.of_cases (fun hr => (Props.C09Docs.text_docs_refused M w h border hr [] []).2.1) fun hnr => by
    obtain ⟨b, a⟩ := admitted_of_not_refused w h (.int 1) border hb hnr
    exact (ansi_doc a M hs.wf hs.bits (symbol_pos hs).2).imp fun _ hd => hd.1

theorem compact_outcome : ErrIff (compactDoc M w h border) (Props.C09.Refused (.int 1) border) :=
  ErrIff.of_cases (fun hr => (Props.C09Docs.text_docs_refused M w h border hr [] []).2.2) fun hnr => by
    obtain ⟨b, a⟩ := admitted_of_not_refused w h (.int 1) border hb hnr
    exact (compact_doc a M hs.wf hs.bits (symbol_pos hs).2).imp fun _ hd => hd.1

end

theorem planTail_total (s : List Nat) (bg : Option (List Nat)) : ∃ p, planTail s bg = .ok p := by
  -- whatever tuple type and colours the first half chooses, each of the four branches of the second half returns a plan
  have tail {c1 c2 c3 : Prop} [Decidable c1] [Decidable c2] [Decidable c3] (a b c d : PamPlan) :
      ∃ p, (if c1 then pure a else if c2 then pure b else if c3 then pure c else pure d : R PamPlan) = .ok p := by
    repeat' split
    all_goals exact ⟨_, rfl⟩
  unfold planTail
  cases bg with
  | none => exact tail _ _ _ _
  | some bg0 =>
    dsimp only
    by_cases h1 : (s.length == 4 || bg0.length == 4) = true
    · rw [if_pos h1]; exact tail _ _ _ _
    · rw [if_neg h1]
      by_cases h2 : (!(isBlackT s || isWhiteT s) || !(isBlackT bg0 || isWhiteT bg0)) = true
      · rw [if_pos h2]; exact tail _ _ _ _
      · rw [if_neg h2]; exact tail _ _ _ _

theorem falsy_bad (c : ColorArg) (h : isFalsy c = true) : c = .none ∨ malformed c = true := by
  cases c with
  | none => exact Or.inl rfl
  | str s =>
    right
    simp only [isFalsy, List.isEmpty_iff] at h
    rw [String.toList_eq_nil_iff] at h
    subst h; decide
  | ints l =>
    right
    simp only [isFalsy, List.isEmpty_iff] at h
    subst h; rfl
  | floatAlpha r g b k => simp [isFalsy] at h

theorem pamPlan_outcome (dark light : ColorArg) (hd : dark ≠ .none) :
    ErrIff (pamPlan dark light) (malformed dark = true ∨ malformed light = true) := by
  rw [pamPlan_eq]
  refine (rgbOrRgba_clean dark hd).bind fun s0 _ => ?_
  cases light with
  | none => exact (ErrIff.of_cases False.elim fun _ => planTail_total s0 none).congr (by simp [malformed_none])
  | _ => exact (rgbOrRgba_clean _ (by simp)).andThen fun t _ => planTail_total s0 (some t)

theorem pam_outcome (M : List (List Nat)) (w h : Nat) (hs : SymbolShaped M w h) (scale : Num) (border : Option Num) (hb : BorderOK border)
    (dark light : ColorArg) :
    ErrIff (pamDoc M w h scale border (some dark) (some light))
      (Props.C09.Refused scale border ∨ dark = .none ∨ malformed dark = true ∨ malformed light = true) := by
  refine ErrIff.first
    (fun hr => (Props.C09Docs.docs_refused M w h scale border hr false [] (some dark) (some light) [] id {} none []).2.2.1) fun hnr => ?_
  obtain ⟨b, a⟩ := admitted_of_not_refused w h scale border hb hnr
  unfold pamDoc
  simp only [Option.getD_some]
  refine (ErrIff.guard (P := malformed dark = true ∨ malformed light = true) fun hf => ?_).congr ?_
  · have hd : dark ≠ .none := fun hc => hf (by rw [hc]; rfl)
    rw [validSB_ok a]
    refine (pamPlan_outcome dark light hd).andThen fun plan _ => ?_
    simp only [createdBy_eq, matrixIter_ok a M hs.wf, a.okRange, bind, Except.bind, pure, Except.pure]
    exact ⟨_, rfl⟩
  · constructor
    · rintro (hf | hm | hm)
      · exact (falsy_bad dark hf).imp_right Or.inl
      · exact Or.inr (Or.inl hm)
      · exact Or.inr (Or.inr hm)
    · rintro (rfl | hm | hm)
      · exact Or.inl rfl
      · exact Or.inr (Or.inl hm)
      · exact Or.inr (Or.inr hm)

theorem xpm_outcome (M : List (List Nat)) (w h : Nat) (hs : SymbolShaped M w h) (scale : Num) (border : Option Num) (hb : BorderOK border)
    (dark light : ColorArg) (name : List Char) :
    ErrIff (xpmDoc M w h scale border (some dark) (some light) name)
      (Props.C09.Refused scale border ∨ (dark ≠ .none ∧ opaqueCol dark = false) ∨ (light ≠ .none ∧ opaqueCol light = false)) := by
  refine ErrIff.first
    (fun hr => (Props.C09Docs.docs_refused M w h scale border hr false [] (some dark) (some light) name id {} none []).2.2.2.2.1) fun hnr => ?_
  obtain ⟨b, a⟩ := admitted_of_not_refused w h scale border hb hnr
  unfold xpmDoc
  rw [validSB_ok a]
  refine (xpmColour_clean dark).bind fun stroke _ => (xpmColour_clean light).andThen fun bg _ => ?_
  simp only [matrixIter_ok a M hs.wf, a.okRange, bind, Except.bind, pure, Except.pure]
  exact ⟨_, rfl⟩

theorem ppm_outcome (M : List (List Nat)) (w h : Nat) (hs : SymbolShaped M w h) (scale : Num) (border : Option Num) (hb : BorderOK border)
    (dark light : ColorArg) (o : TypeOpts ColorArg) :
    ErrIff (savePpm M w h (some dark) (some light) o scale border)
      (Props.C09.Refused scale border ∨ ∃ e ∈ makeColormap w h dark light o, opaqueCol e.2 = false) := by
  show ErrIff (ppmDoc M w h (makeColormap w h dark light o) scale border) _
  refine ErrIff.first
    (fun hr => (Props.C09Docs.docs_refused M w h scale border hr false (makeColormap w h dark light o) none none [] id {} none []).2.1) fun hnr => ?_
  obtain ⟨b, a⟩ := admitted_of_not_refused w h scale border hb hnr
  obtain rfl := hs.square
  generalize hcm : makeColormap h h dark light o = colormap
  have hras : ErrIff (ppmRaster M h h colormap scale border) (∃ e ∈ colormap, opaqueCol e.2 = false) := by
    unfold ppmRaster
    simp only [a.okScale, a.okBorder]
    refine (ErrIff.guard (P := ∃ e ∈ colormap, opaqueCol e.2 = false) fun _ => ?_).congr ?_
    · refine (ErrIff.mapM colormap fun e _ => (colorToRgb_clean e.2).andThen fun _ _ => ⟨_, rfl⟩).andThen fun cm hcmOk => ?_
      -- every module type `matrix_iter_verbose` yields has an entry: the KeyError guard does not fire
      obtain ⟨rows, hrows, hcov⟩ := iterVerbose_covered M h hs.size (.int scale.toInt) border b ⟨a.okScale, a.okBorder, a.okRange⟩ dark light o
      have hguard : rows.any (fun row => row.any (fun t => (cmGet cm t).isNone)) = false := by
        rw [List.any_eq_false]
        intro r hr
        rw [Bool.not_eq_true, List.any_eq_false]
        intro t ht
        obtain ⟨c, hc⟩ := Option.isSome_iff_exists.1 (hcm ▸ hcov r hr t ht)
        obtain ⟨l, _, hl⟩ := (Proofs.Png.parseMap_get colorToRgb [] colormap cm hcmOk t).1 c hc
        rw [hl]; exact Bool.false_ne_true
      simp only [hrows, hguard, bind, Except.bind, pure, Except.pure]
      exact ⟨_, rfl⟩
    · -- an entry `None` is not opaque
      constructor
      · rintro (hany | hex)
        · obtain ⟨e, he, hn⟩ := List.any_eq_true.1 hany
          exact ⟨e, he, by rw [beq_iff_eq.1 hn]; rfl⟩
        · exact hex
      · exact Or.inr
  unfold ppmDoc
  refine hras.andThen fun raster _ => ?_
  simp only [createdBy_eq, a.okRange, bind, Except.bind, pure, Except.pure]
  exact ⟨_, rfl⟩

end Proofs.C14Ser
