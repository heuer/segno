/-
  `Model.finishStream` (terminator, padding bits, pad codewords) in closed form, compared with the tail
  ISO prescribes (`Spec.isoTail`) and with the recorded deviation D1 (`Spec.d1Tail`).  All that is used of a
  capacity is its residue mod 8 and a lower bound (`cap_facts`).  In front of that, which (version, level) pairs
  `consts.SYMBOL_CAPACITY` has (`capacity_isSome_iff`, with `boostLevels v` the levels of version `v`; `level_facts`).
-/
import Spec.Decode
import Model.Encoder

namespace Proofs.Stream

open Model

/-- row check of `consts.SYMBOL_CAPACITY`: version in range, capacity ≡ 4 (mod 8) for M1/M3 and
    ≡ 0 (mod 8) otherwise, with the minimal sizes 20 / 32 -/
def capRowOk (x : Int × Int × Nat) : Bool :=
  decide (-3 ≤ x.1) && decide (x.1 ≤ 40) &&
  (if x.1 == -3 || x.1 == -1 then x.2.2 % 8 == 4 && decide (20 ≤ x.2.2)
   else x.2.2 % 8 == 0 && decide (32 ≤ x.2.2))

theorem cap_table_ok : Gen.SYMBOL_CAPACITY.all capRowOk = true := by decide +kernel

theorem find_key_mem {κ₁ κ₂ α : Type} [BEq κ₁] [LawfulBEq κ₁] [BEq κ₂] [LawfulBEq κ₂] (t : List (κ₁ × κ₂ × α))
    (a : κ₁) (b : κ₂) (x : α) (h : (t.find? (fun y => y.1 == a && y.2.1 == b)).map (·.2.2) = some x) : (a, b, x) ∈ t := by
  rw [Option.map_eq_some_iff] at h
  obtain ⟨⟨y1, y2, y3⟩, hy, rfl⟩ := h
  have hp := List.find?_some hy
  simp only [Bool.and_eq_true, beq_iff_eq] at hp
  obtain ⟨rfl, rfl⟩ := hp
  exact List.mem_of_find?_eq_some hy

theorem capacity_mem (v : Int) (e : Option Nat) (cap : Nat) (h : capacity v e = some cap) :
    (v, lvlKey e, cap) ∈ Gen.SYMBOL_CAPACITY :=
  find_key_mem _ v (lvlKey e) cap h

theorem cap_facts {v : Int} {e : Option Nat} {cap : Nat} (h : Model.capacity v e = some cap) :
    -3 ≤ v ∧ v ≤ 40 ∧
      (Spec.fourBitFinal v = true → cap % 8 = 4 ∧ 20 ≤ cap) ∧
      (Spec.fourBitFinal v = false → cap % 8 = 0 ∧ 32 ≤ cap) := by
  have hok := List.all_eq_true.mp cap_table_ok _ (capacity_mem v e cap h)
  unfold capRowOk at hok
  unfold Spec.fourBitFinal
  simp only [Bool.and_eq_true, decide_eq_true_eq] at hok
  obtain ⟨⟨h1, h2⟩, h3⟩ := hok
  refine ⟨h1, h2, ?_, ?_⟩
  · intro hf
    rw [if_pos hf] at h3
    simpa using h3
  · intro hf
    rw [if_neg (by simp [hf])] at h3
    simpa using h3

/-- the levels defined for `v`, ascending (L, M, Q, H): the list `boost_error_level` walks along -/
def boostLevels (v : Int) : List Nat := if v < 1 then (if v < 0 then [1, 0] else [1, 0, 3]) else [1, 0, 3, 2]

theorem mem_boostLevels (v : Int) (n : Nat) :
    n ∈ boostLevels v ↔ n = 1 ∨ n = 0 ∨ (n = 3 ∧ 0 ≤ v) ∨ (n = 2 ∧ 1 ≤ v) := by
  unfold boostLevels
  split
  · split <;> simp <;> omega
  · simp; omega

/-- the keys of Table 7: M1 without a level, then every version from M2 on with its levels -/
theorem capacity_keys : Gen.SYMBOL_CAPACITY.map (fun x => (x.1, x.2.1)) =
    (-3, -1) :: (List.range 43).flatMap fun (k : Nat) =>
      (boostLevels ((k : Int) - 2)).map fun (l : Nat) => ((k : Int) - 2, (l : Int)) := by
  decide +kernel

theorem capacity_isSome_iff (v : Int) (e : Option Nat) :
    (Model.capacity v e).isSome = true ↔
      (v = -3 ∧ e = none) ∨ ((-2 ≤ v ∧ v ≤ 40) ∧ ∃ n ∈ boostLevels v, e = some n) := by
  have hkey : (Model.capacity v e).isSome = true ↔ (v, lvlKey e) ∈ Gen.SYMBOL_CAPACITY.map (fun x => (x.1, x.2.1)) := by
    simp only [Model.capacity, Model.lookup2, Option.isSome_map, List.find?_isSome, List.mem_map, Bool.and_eq_true,
      beq_iff_eq, Prod.mk.injEq]
  rw [hkey, capacity_keys]
  simp only [List.mem_cons, Prod.mk.injEq, List.mem_flatMap, List.mem_range, List.mem_map]
  constructor
  · rintro (⟨hv, hl⟩ | ⟨k, hk, n, hn, hv, hl⟩)
    · cases e with
      | none => exact .inl ⟨hv, rfl⟩
      | some x => simp only [lvlKey] at hl; omega
    · subst hv
      cases e with
      | none => simp only [lvlKey] at hl; omega
      | some x =>
        have : n = x := by simp only [lvlKey] at hl; omega
        exact .inr ⟨by omega, n, hn, by rw [this]⟩
  · rintro (⟨hv, rfl⟩ | ⟨hv, n, hn, rfl⟩)
    · exact .inl ⟨hv, rfl⟩
    · refine .inr ⟨(v + 2).toNat, by omega, n, ?_, by omega, rfl⟩
      rwa [show (((v + 2).toNat : Nat) : Int) - 2 = v by omega]

/-- the levels of a version: a Micro QR version with one of them has a symbol number, a QR Code version has L … H -/
theorem level_facts {v : Int} {e : Option Nat} {cap : Nat} (h : capacity v e = some cap) :
    (v < 1 → ∃ s, Spec.microSymbolNumber v (lvlKey e) = some s) ∧ (1 ≤ v → ∃ x, e = some x ∧ x < 4) := by
  rcases (capacity_isSome_iff v e).1 (by rw [h]; rfl) with ⟨rfl, rfl⟩ | ⟨⟨h1, h2⟩, n, hn, rfl⟩
  · exact ⟨fun _ => ⟨0, by decide⟩, fun h => by omega⟩
  · have hn' := (mem_boostLevels v n).1 hn
    refine ⟨fun hv => Option.isSome_iff_exists.1 ?_, fun _ => ⟨n, rfl, by omega⟩⟩
    -- the (version, level) pairs of Table 13: L and M from M2 on, Q for M4
    have hn'' : (n = 1 ∨ n = 0) ∧ (v = -2 ∨ v = -1 ∨ v = 0) ∨ (n = 3 ∧ v = 0) := by omega
    rcases hn'' with ⟨hl, hv⟩ | ⟨rfl, rfl⟩
    · rcases hv with rfl | rfl | rfl <;> rcases hl with rfl | rfl <;> decide
    · decide

theorem isM1M3_eq (v : Int) : Model.isM1M3 v = Spec.fourBitFinal v := rfl

theorem terminator_length (v : Int) (h1 : -3 ≤ v) (h2 : v ≤ 40) :
    Model.terminatorLength v = some (Spec.terminatorLen v) := by
  unfold Model.terminatorLength Spec.terminatorLen
  by_cases hv : v > 0
  · rw [if_pos hv, if_pos hv]; decide
  · rw [if_neg hv, if_neg hv]
    have : v = -3 ∨ v = -2 ∨ v = -1 ∨ v = 0 := by omega
    rcases this with rfl | rfl | rfl | rfl <;> decide

theorem remainder_bits_nat :
    ∀ n : Nat, n < 44 → Gen.remainder_bits ((n : Int) - 3) = (Spec.remainderBits ((n : Int) - 3) : Int) := by
  decide +kernel

theorem remainder_bits (v : Int) (h1 : -3 ≤ v) (h2 : v ≤ 40) :
    Gen.remainder_bits v = (Spec.remainderBits v : Int) := by
  have h := remainder_bits_nat (v + 3).toNat (by omega)
  have e : (((v + 3).toNat : Nat) : Int) - 3 = v := by omega
  rw [e] at h
  exact h

theorem pad_flatten (k : Nat) :
    ((List.range k).map Model.padCodeword).flatten = Spec.padCodewords k := by
  induction k with
  | zero => rfl
  | succ n ih =>
    rw [List.range_succ, List.map_append, List.flatten_append, ih]
    simp [Spec.padCodewords, Model.padCodeword]

theorem padCodewords_length (k : Nat) : (Spec.padCodewords k).length = 8 * k := by
  induction k with
  | zero => rfl
  | succ n ih =>
    simp only [Spec.padCodewords, List.length_append, ih]
    split <;> simp <;> omega

/-- QR, M2, M4: terminator, then ALWAYS `8 - length % 8` zero bits (D1), then pad codewords -/
theorem finish_qr (buff : List Nat) (v : Int) (cap : Nat) (h1 : -3 ≤ v) (h2 : v ≤ 40)
    (hf : Spec.fourBitFinal v = false) :
    Model.finishStream buff v cap = .ok
      (let t := min (cap - buff.length) (Spec.terminatorLen v)
       let z := 8 - (buff.length + t) % 8
       buff ++ List.replicate (t + z) 0 ++ Spec.padCodewords (cap / 8 - (buff.length + t + z) / 8)) := by
  unfold Model.finishStream
  rw [terminator_length v h1 h2]
  simp only [isM1M3_eq, hf, pad_flatten, ← List.replicate_append_replicate, List.length_append,
    List.length_replicate, List.append_assoc, Nat.add_assoc, Bool.not_false, if_true, Bool.false_eq_true, if_false]
  rfl

theorem finish_m13 (buff : List Nat) (v : Int) (cap : Nat) (h1 : -3 ≤ v) (h2 : v ≤ 40)
    (hf : Spec.fourBitFinal v = true) :
    Model.finishStream buff v cap = .ok
      (let t := min (cap - buff.length) (Spec.terminatorLen v)
       let z := min ((8 - (buff.length + t) % 8) % 8) (cap - (buff.length + t))
       let k := (cap - (buff.length + t + z)) / 8
       buff ++ List.replicate (t + z) 0 ++ Spec.padCodewords k
         ++ List.replicate (cap - (buff.length + t + z + 8 * k)) 0) := by
  unfold Model.finishStream
  rw [terminator_length v h1 h2]
  simp only [isM1M3_eq, hf, pad_flatten, padCodewords_length, ← List.replicate_append_replicate, List.length_append,
    List.length_replicate, List.append_assoc, Nat.add_assoc, Bool.not_true, if_true, Bool.false_eq_true, if_false]
  rfl

theorem tail_zeros_pad_zeros (buff : List Nat) (n1 n2 k1 k2 m1 m2 : Nat) (hn : n1 = n2) (hk : k1 = k2)
    (hm : m1 = m2) :
    buff ++ List.replicate n1 0 ++ Spec.padCodewords k1 ++ List.replicate m1 0
      = buff ++ (List.replicate n2 0 ++ Spec.padCodewords k2 ++ List.replicate m2 0) := by
  subst hn hk hm; simp only [List.append_assoc]

theorem tail_zeros_pad (buff : List Nat) (n1 n2 k1 k2 m2 : Nat) (hn : n1 = n2) (hk : k1 = k2)
    (hm : m2 = 0) :
    buff ++ List.replicate n1 0 ++ Spec.padCodewords k1
      = buff ++ (List.replicate n2 0 ++ Spec.padCodewords k2 ++ List.replicate m2 0) := by
  subst hn hk hm; simp

theorem tail_zeros (buff : List Nat) (n1 n2 k1 m1 : Nat) (hn : n1 + m1 = n2) (hk : k1 = 0) :
    buff ++ List.replicate n1 0 ++ Spec.padCodewords k1 ++ List.replicate m1 0
      = buff ++ List.replicate n2 0 := by
  subst hn hk; simp [Spec.padCodewords]

theorem finish_iso (buff : List Nat) (v : Int) (cap : Nat) (e : Option Nat)
    (hc : Model.capacity v e = some cap) (hl : buff.length ≤ cap)
    (hcond : Spec.fourBitFinal v = true ∨
      (buff.length + min (cap - buff.length) (Spec.terminatorLen v)) % 8 ≠ 0) :
    Model.finishStream buff v cap = .ok (buff ++ Spec.isoTail v cap buff.length) := by
  obtain ⟨h1, h2, hc4, hc0⟩ := cap_facts hc
  -- all that the comparison uses of the terminator length `t` is `t ≤ cap - buff.length`
  have ht := Nat.min_le_left (cap - buff.length) (Spec.terminatorLen v)
  cases hf : Spec.fourBitFinal v with
  | false =>
    obtain ⟨hm, hge⟩ := hc0 hf
    rw [finish_qr buff v cap h1 h2 hf]
    unfold Spec.isoTail
    simp only [hf, Bool.false_eq_true, if_false, false_or] at hcond ⊢
    generalize min (cap - buff.length) (Spec.terminatorLen v) = t at *
    -- nor of the distance `a` to the next codeword boundary more than `a < 8` and `8 ∣ buff.length + t + a`
    have ha1 : 8 - (buff.length + t) % 8 < 8 := by omega
    have ha2 : (buff.length + t + (8 - (buff.length + t) % 8)) % 8 = 0 := by omega
    rw [Nat.mod_eq_of_lt ha1]
    generalize 8 - (buff.length + t) % 8 = a at *
    rw [if_neg (by omega)]
    exact congrArg Except.ok (tail_zeros_pad _ _ _ _ _ _ rfl (by omega) (by omega))
  | true =>
    obtain ⟨hm, hge⟩ := hc4 hf
    rw [finish_m13 buff v cap h1 h2 hf]
    unfold Spec.isoTail
    simp only [hf, if_true]
    generalize min (cap - buff.length) (Spec.terminatorLen v) = t at *
    have ha1 : (8 - (buff.length + t) % 8) % 8 < 8 := Nat.mod_lt _ (by decide)
    have ha2 : (buff.length + t + (8 - (buff.length + t) % 8) % 8) % 8 = 0 := by omega
    generalize (8 - (buff.length + t) % 8) % 8 = a at *
    split
    · -- at most four bits are left: no pad codeword
      have hm' := Nat.min_le_right a (cap - (buff.length + t))
      generalize min a (cap - (buff.length + t)) = m at *
      have hk : (cap - (buff.length + t + m)) / 8 = 0 := by omega
      exact congrArg Except.ok (tail_zeros _ _ _ _ _ (by rw [hk]; omega) hk)
    · -- the boundary lies before the final half codeword, so the zero bits are not cut short
      rw [Nat.min_eq_left (by omega)]
      exact congrArg Except.ok (tail_zeros_pad_zeros _ _ _ _ _ _ _ rfl (by omega) (by omega))

theorem isoTail_length (v : Int) (cap len : Nat) (e : Option Nat)
    (hc : Model.capacity v e = some cap) (hl : len ≤ cap) :
    len + (Spec.isoTail v cap len).length = cap := by
  obtain ⟨-, -, hc4, hc0⟩ := cap_facts hc
  unfold Spec.isoTail
  dsimp only
  -- the whole codewords take `full` bits, a multiple of 8 with `cap - 4 ≤ full ≤ cap`
  have hfull : (if Spec.fourBitFinal v = true then cap - 4 else cap) % 8 = 0
      ∧ cap - 4 ≤ (if Spec.fourBitFinal v = true then cap - 4 else cap)
      ∧ (if Spec.fourBitFinal v = true then cap - 4 else cap) ≤ cap := by
    cases hf : Spec.fourBitFinal v with
    | false => have := hc0 hf; simp only [Bool.false_eq_true, if_false]; omega
    | true => have := hc4 hf; simp only [if_true]; omega
  generalize (if Spec.fourBitFinal v = true then cap - 4 else cap) = full at *
  have ht := Nat.min_le_left (cap - len) (Spec.terminatorLen v)
  generalize min (cap - len) (Spec.terminatorLen v) = t at *
  split
  · simp only [List.length_replicate]; omega
  · have ha1 : (8 - (len + t) % 8) % 8 < 8 := Nat.mod_lt _ (by decide)
    have ha2 : (len + t + (8 - (len + t) % 8) % 8) % 8 = 0 := by omega
    generalize (8 - (len + t) % 8) % 8 = a at *
    simp only [List.length_append, List.length_replicate, padCodewords_length]; omega

/-- D1: not M1/M3 and the terminated stream (`t` terminator bits) is codeword-aligned: a whole zero
    codeword is appended -/
theorem finish_d1 (buff : List Nat) (v : Int) (cap : Nat) (e : Option Nat)
    (hc : Model.capacity v e = some cap) (hf : Spec.fourBitFinal v = false)
    (t : Nat) (ht : min (cap - buff.length) (Spec.terminatorLen v) = t) (hal : (buff.length + t) % 8 = 0) :
    Model.finishStream buff v cap = .ok
      (buff ++ List.replicate (t + 8) 0 ++ Spec.padCodewords ((cap - (buff.length + t) - 8) / 8)) := by
  obtain ⟨h1, h2, -, hc0⟩ := cap_facts hc
  obtain ⟨hm, -⟩ := hc0 hf
  rw [finish_qr buff v cap h1 h2 hf, ht]
  dsimp only
  have hn : t + (8 - (buff.length + t) % 8) = t + 8 := by omega
  have hk : cap / 8 - (buff.length + t + (8 - (buff.length + t) % 8)) / 8
      = (cap - (buff.length + t) - 8) / 8 := by omega
  rw [hn, hk]

theorem d1Tail_eq_isoTail (v : Int) (cap len : Nat)
    (h : Spec.d1Trigger v cap len = false) : Spec.d1Tail v cap len = Spec.isoTail v cap len := by
  unfold Spec.d1Trigger at h
  unfold Spec.d1Tail
  simp only [Bool.and_eq_false_iff, Bool.not_eq_false', beq_eq_false_iff_ne, decide_eq_false_iff_not] at h
  simp only [Bool.or_eq_true, bne_iff_ne, decide_eq_true_eq]
  rw [if_pos]
  rcases h with h | h
  · exact Or.inl h
  · exact Or.inr (by omega)

theorem d1Tail_length (v : Int) (cap len : Nat) (e : Option Nat)
    (hc : Model.capacity v e = some cap) (hl : len ≤ cap) :
    len + (Spec.d1Tail v cap len).length = cap := by
  obtain ⟨-, -, -, hc0⟩ := cap_facts hc
  unfold Spec.d1Tail
  dsimp only
  split
  · exact isoTail_length v cap len e hc hl
  · next hcond =>
    simp only [Bool.or_eq_true, bne_iff_ne, decide_eq_true_eq, not_or, Bool.not_eq_true] at hcond
    obtain ⟨⟨hf, hal⟩, hlt⟩ := hcond
    obtain ⟨hm, hge⟩ := hc0 hf
    simp only [List.length_append, List.length_replicate, padCodewords_length]
    omega

/-- the stream the model builds, exactly: the segments, the tail with the deviation D1 and, when the symbol is
    not M1/M3 and the capacity cuts the terminator short (or leaves no room after it), 8 surplus zero bits -/
theorem finish_eq (buff : List Nat) (v : Int) (cap : Nat) (e : Option Nat)
    (hc : Model.capacity v e = some cap) (hl : buff.length ≤ cap) :
    Model.finishStream buff v cap = .ok (buff ++ Spec.d1Tail v cap buff.length ++
      List.replicate (if Spec.fourBitFinal v = false ∧ cap - buff.length ≤ Spec.terminatorLen v then 8 else 0) 0) := by
  obtain ⟨-, -, -, hc0⟩ := cap_facts hc
  obtain ⟨t, ht⟩ : ∃ t, min (cap - buff.length) (Spec.terminatorLen v) = t := ⟨_, rfl⟩
  by_cases hcond : Spec.fourBitFinal v = true ∨ (buff.length + t) % 8 ≠ 0
  · -- no deviation
    have htail : Spec.d1Tail v cap buff.length = Spec.isoTail v cap buff.length := by
      unfold Spec.d1Tail
      rcases hcond with h | h <;> simp [ht, h]
    have hno : ¬ (Spec.fourBitFinal v = false ∧ cap - buff.length ≤ Spec.terminatorLen v) := by
      intro ⟨hf, hle⟩
      have := (hc0 hf).1
      rcases hcond with h | h
      · rw [hf] at h; cases h
      · omega
    rw [finish_iso buff v cap e hc hl (ht ▸ hcond), htail, if_neg hno, List.replicate_zero, List.append_nil]
  · have hf : Spec.fourBitFinal v = false := by
      cases hf : Spec.fourBitFinal v with
      | false => rfl
      | true => exact absurd (Or.inl hf) hcond
    have hal : (buff.length + t) % 8 = 0 := by omega
    obtain ⟨hm, -⟩ := hc0 hf
    rw [finish_d1 buff v cap e hc hf t ht hal]
    unfold Spec.d1Tail Spec.isoTail
    simp only [ht, hf, hal, Bool.false_or, Bool.or_eq_true, bne_iff_ne, decide_eq_true_eq, true_and,
      Bool.false_eq_true, if_false, ne_eq, not_true_eq_false, false_or]
    by_cases hlt : buff.length + t < cap
    · -- D1: a zero codeword where ISO has the first pad codeword
      rw [if_neg (by omega), if_neg (by omega), List.replicate_zero, List.append_nil, List.append_assoc]
    · -- the terminated stream fills the capacity
      rw [if_pos (by omega), if_pos (by omega), if_pos (by omega),
        show (cap - (buff.length + t) - 8) / 8 = 0 by omega, show cap - buff.length = t by omega,
        ← List.replicate_append_replicate]
      simp [Spec.padCodewords]

theorem finish_total (v : Int) (cap : Nat) (buff : List Nat) (h1 : -3 ≤ v) (h2 : v ≤ 40) :
    ∃ s, Model.finishStream buff v cap = .ok s := by
  cases hf : Spec.fourBitFinal v with
  | false => exact ⟨_, finish_qr buff v cap h1 h2 hf⟩
  | true => exact ⟨_, finish_m13 buff v cap h1 h2 hf⟩

theorem padCodewords_succ_head (k : Nat) : ∃ r, Spec.padCodewords (k + 1) = 1 :: r := by
  induction k with
  | zero => exact ⟨_, rfl⟩
  | succ n ih =>
    obtain ⟨r, hr⟩ := ih
    rw [Spec.padCodewords, hr]
    exact ⟨_, List.cons_append⟩

/-- not M1/M3 and terminated stream codeword-aligned: the model's stream is NOT segments ++ ISO tail
    (either 8 surplus bits, or 00000000 where ISO has 11101100) -/
theorem finish_ne_iso (buff : List Nat) (v : Int) (cap : Nat) (e : Option Nat)
    (hc : Model.capacity v e = some cap) (hl : buff.length ≤ cap)
    (hf : Spec.fourBitFinal v = false)
    (hal : (buff.length + min (cap - buff.length) (Spec.terminatorLen v)) % 8 = 0) :
    Model.finishStream buff v cap ≠ .ok (buff ++ Spec.isoTail v cap buff.length) := by
  obtain ⟨h1, h2, hc4, hc0⟩ := cap_facts hc
  obtain ⟨hm, hge⟩ := hc0 hf
  have hlen := isoTail_length v cap buff.length e hc hl
  obtain ⟨t, ht⟩ : ∃ t, min (cap - buff.length) (Spec.terminatorLen v) = t := ⟨_, rfl⟩
  have htl : t ≤ cap - buff.length := ht ▸ Nat.min_le_left _ _
  rw [ht] at hal
  rw [finish_d1 buff v cap e hc hf t ht hal]
  intro heq
  have heq := Except.ok.inj heq
  by_cases hlt : buff.length + t < cap
  · -- ISO continues with a pad codeword, which starts with 1
    have hiso : Spec.isoTail v cap buff.length
        = List.replicate t 0 ++ Spec.padCodewords ((cap - (buff.length + t) - 8) / 8 + 1) := by
      unfold Spec.isoTail
      simp only [ht, hf, Bool.false_eq_true, if_false]
      rw [if_neg (by omega)]
      have e1 : t + (8 - (buff.length + t) % 8) % 8 = t := by omega
      have e2 : (cap - (buff.length + t + (8 - (buff.length + t) % 8) % 8)) / 8
          = (cap - (buff.length + t) - 8) / 8 + 1 := by omega
      rw [e1, e2, Nat.sub_self]
      simp
    obtain ⟨r, hr⟩ := padCodewords_succ_head ((cap - (buff.length + t) - 8) / 8)
    rw [hiso, hr, ← List.replicate_append_replicate] at heq
    simp only [List.append_assoc] at heq
    have h3 := List.append_cancel_left (List.append_cancel_left heq)
    cases (List.cons.inj h3).1
  · -- 8 surplus bits
    have h6 := congrArg List.length heq
    simp only [List.length_append, List.length_replicate, padCodewords_length] at h6
    omega

end Proofs.Stream
