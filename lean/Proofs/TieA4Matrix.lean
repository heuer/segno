/-
  `make_matrix`: the translation builds the matrix (`[2] * width`, one copy per row), runs the two reservation loops on it (rows
  through the views `row = matrix[i]`, `row_eight = matrix[8]`, negative indexes `row[-11]`, `matrix[-i][8]`) and calls
  `add_timing_pattern`.  The model is `timingM (reservedM n) n (n < 21)` (`Proofs.TieA2Timing`); the two loops of `reservedM` are
  `verStep` / `fmtStep`; a round of the translation is a chain of cell writes (`Yields.set`), the format-area round stated on its own (`fmt_round`).
-/
import Proofs.TieA2Timing
import Gen.Funcs4

namespace Proofs.TieA4
open Gen.Py Proofs.TieA2 Model

/-- one round of the version-area loop of `Model.makeMatrix` -/
def verStep (n : Nat) (m : Matrix) (i : Nat) : Matrix :=
  let m := set2 (set2 (set2 m i (n - 11) 0) i (n - 10) 0) i (n - 9) 0
  set2 (set2 (set2 m (n - 11) i 0) (n - 10) i 0) (n - 9) i 0

/-- Python's `-i` as an index into a sequence of length n (i ≤ n): 0 for i = 0 -/
def negIdx (n i : Nat) : Nat := if i == 0 then 0 else n - i

/-- one round of the format-area loop of `Model.makeMatrix` -/
def fmtStep (n : Nat) (isMicro : Bool) (m : Matrix) (i : Nat) : Matrix :=
  let m := set2 (set2 m i 8 0) 8 i 0
  if !isMicro then
    set2 (set2 m (negIdx n i) 8 0) 8 (negIdx n i) 0
  else m

/-- the matrix of `0x2` -/
def twos (n : Nat) : Matrix := Array.replicate n (Array.replicate n 2)

theorem reservedM_eq (n : Nat) :
    reservedM n = (List.range 9).foldl (fmtStep n (decide (n < 21)))
      (if n > 41 then (List.range 6).foldl (verStep n) (twos n) else twos n) := rfl

theorem sq_twos (n : Nat) : Sq (twos n) n := by
  constructor
  · simp [twos]
  · intro i h
    simp [twos]

theorem sq_fmtStep {m : Matrix} {n : Nat} (h : Sq m n) (b : Bool) (i : Nat) : Sq (fmtStep n b m i) n := by
  unfold fmtStep
  cases b
  · exact sq_set2 (sq_set2 (sq_set2 (sq_set2 h _ _ _) _ _ _) _ _ _) _ _ _
  · exact sq_set2 (sq_set2 h _ _ _) _ _ _

theorem fold_sq_then {β : Type} (n c : Nat) (body : List (List Int) → Int → M (List (List Int))) (f : Matrix → Nat → Matrix)
    (k : List (List Int) → M β) (r : M β) (m : Matrix) (hs : Sq m n)
    (hf : ∀ m k, Sq m n → Sq (f m k) n)
    (hstep : ∀ m, Sq m n → ∀ i, i < c → body (mI m) (Int.ofNat i) = .ok (mI (f m i)))
    (hk : k (mI ((List.range c).foldl f m)) = r) :
    Gen.Py.bind (foldlM (range 0 (c : Int)) (mI m) body) k = r := by
  rw [range_zero_nat]
  exact Yields.bind_eq (.list_loop (P := (Sq · n)) mI f _ _ hs fun x hx t ht => ⟨hstep t ht x (List.mem_range.mp hx), hf t x ht⟩) fun _ => hk

theorem normIndex_negIdx (n i : Nat) (hn : 1 ≤ n) (h : i ≤ n) : normIndex n (-(Int.ofNat i)) = some (negIdx n i) := by
  unfold negIdx
  by_cases h0 : i = 0
  · subst h0
    simpa using normIndex_nat n 0 (by omega)
  · have : (i == 0) = false := by simpa using h0
    rw [this]
    exact normIndex_neg n i (by omega) h

theorem normIndex_lit (n : Nat) (k : Nat) (h : k < n) : normIndex n (Int.ofNat k) = some k := normIndex_nat n k h

theorem fmt_round {m : Matrix} {n : Nat} (hs : Sq m n) (hn : 9 ≤ n) (isMicro : Bool) (i : Nat) (hi : i < 9) :
    (Gen.Py.bind ((Gen.Py.setItem2 (mI m) (Int.ofNat i) (8 : Int) (0 : Int)) : M (List (List Int))) (fun t'9 =>
      (Gen.Py.bind ((Gen.Py.setItem2 t'9 (8 : Int) (Int.ofNat i) (0 : Int)) : M (List (List Int))) (fun t'10 =>
        (if (!isMicro) then
          (Gen.Py.bind ((Gen.Py.setItem2 t'10 (-(Int.ofNat i)) (8 : Int) (0 : Int)) : M (List (List Int))) (fun t'11 =>
            ((Gen.Py.setItem2 t'11 (8 : Int) (-(Int.ofNat i)) (0 : Int)) : M (List (List Int)))))
        else
          (Except.ok t'10))))))
      = .ok (mI (fmtStep n isMicro m i)) := by
  have hI : normIndex n (Int.ofNat i) = some i := normIndex_nat n i (by omega)
  have h8 : normIndex n (8 : Int) = some 8 := normIndex_nat n 8 (by omega)
  have hN : normIndex n (-(Int.ofNat i)) = some (negIdx n i) := normIndex_negIdx n i (by omega) (by omega)
  unfold fmtStep
  refine Yields.eq (P := (Sq · n)) (.set (v := 0) hs hI h8 fun h1 => .set (v := 0) h1 h8 hI fun h2 => ?_)
  cases isMicro
  · simp only [Bool.not_false, if_true]
    exact .set (v := 0) h2 hN h8 fun h3 => .set_last (v := 0) h3 h8 hN
  · simp only [Bool.not_true, Bool.false_eq_true, if_false]
    exact ⟨rfl, h2⟩

theorem initial_matrix (w h : Int) :
    ((range (0 : Int) h).map (fun (_ : Int) => List.replicate w.toNat (2 : Int))) = List.replicate h.toNat (List.replicate w.toNat 2) := by
  rw [range_eq, List.map_map]
  have e : ((fun (_ : Int) => List.replicate w.toNat (2 : Int)) ∘ fun (k : Nat) => (0 : Int) + Int.ofNat k)
      = fun _ => List.replicate w.toNat (2 : Int) := rfl
  rw [e, List.map_const']
  simp

theorem mI_twos (n : Nat) : mI (twos n) = List.replicate n (List.replicate n (2 : Int)) := by
  simp [mI, twos, toI]

theorem initial_twos (n : Nat) :
    ((range (0 : Int) (n : Int)).map (fun (_ : Int) => List.replicate n (2 : Int))) = mI (twos n) := by
  have h := initial_matrix (n : Int) (n : Int)
  simp only [Int.toNat_natCast] at h
  rw [h, mI_twos]

/-- the format-area loop and the timing pattern (the part of `make_matrix` after the version areas) -/
local macro "format_and_timing" hs:term:max n:term:max : tactic => `(tactic| (
  rw [index_row $hs (8 : Int) 8 (normIndex_nat _ 8 (by omega)), bind_ok]
  refine fold_sq_then $n 9 _ (fmtStep $n (decide ($n < 21))) _ _ _ $hs (fun m k h => sq_fmtStep h _ k) ?_ ?_
  · intro m hm i hi
    exact fmt_round hm (by omega) _ i hi
  · exact add_timing_pattern_eq _ _ (sq_foldl _ (fun m k h => sq_fmtStep h _ k) _ _ $hs) _ (by split <;> omega)))

/-- `make_matrix(n, n)` with both flags set, n ≥ 9 (row 8 must exist) -/
theorem make_matrix_eq (n : Nat) (hn : 9 ≤ n) :
    Gen.Funcs4.make_matrix (n : Int) (n : Int) true true = .ok (mI (Model.makeMatrix n)) := by
  rw [makeMatrix_eq_timingM, reservedM_eq]
  have e41 : decide ((n : Int) > 41) = decide (n > 41) := decide_eq_decide.mpr (by omega)
  have e21 : decide ((n : Int) < 21) = decide (n < 21) := decide_eq_decide.mpr (by omega)
  unfold Gen.Funcs4.make_matrix
  simp only [beq_self_eq_true, Bool.true_and, if_true, Int.toNat_natCast, initial_twos, e41, e21]
  by_cases h41 : n > 41
  · simp only [h41, decide_true, if_true]
    have h11 : normIndex n (-11 : Int) = some (n - 11) := normIndex_neg n 11 (by omega) (by omega)
    have h10 : normIndex n (-10 : Int) = some (n - 10) := normIndex_neg n 10 (by omega) (by omega)
    have h9 : normIndex n (-9 : Int) = some (n - 9) := normIndex_neg n 9 (by omega) (by omega)
    refine Yields.bind_eq (.range_loop (P := (Sq · n)) (fun _ => mI) (verStep n) 6 rfl (sq_twos n) fun i hi t ht => ?_) fun hs => ?_
    · have hI : normIndex n (i : Int) = some i := normIndex_nat n i (by omega)
      rw [Int.zero_add, show (0 : Int) = ((0 : Nat) : Int) from rfl]
      exact .row ht hI (.set ht hI h11 fun h1 => .set h1 hI h10 fun h2 => .set h2 hI h9 fun h3 =>
        .set h3 h11 hI fun h4 => .set h4 h10 hI fun h5 => .set_last h5 h9 hI)
    · format_and_timing hs n
  · simp only [h41, decide_false, Bool.false_eq_true, if_false]
    have hs := sq_twos n
    format_and_timing hs n

/-- below 9 modules there is no row 8: `row_eight = matrix[8]` raises IndexError (so 9 ≤ n is exactly the range of `make_matrix_eq`) -/
theorem make_matrix_small (n : Nat) (hn : n < 9) :
    Gen.Funcs4.make_matrix (n : Int) (n : Int) true true = .error .indexError := by
  have h : n = 0 ∨ n = 1 ∨ n = 2 ∨ n = 3 ∨ n = 4 ∨ n = 5 ∨ n = 6 ∨ n = 7 ∨ n = 8 := by omega
  rcases h with h | h | h | h | h | h | h | h | h <;> subst h <;> decide +kernel

/-- `make_matrix(w, h, reserve_regions=False, add_timing=False)`: every cell is 2 (any integers w, h; negative ones give
    empty rows / no rows, as `[2] * w` and `range(h)` do) -/
theorem make_matrix_plain_eq (w h : Int) :
    Gen.Funcs4.make_matrix w h false false = .ok (List.replicate h.toNat (List.replicate w.toNat (2 : Int))) := by
  unfold Gen.Funcs4.make_matrix
  simp only [Bool.false_eq_true, if_false, initial_matrix]

end Proofs.TieA4
