/-
  Lemmas shared by the whole-document theorems of C09 (Props/C09Docs.lean): the rows `matrix_iter` yields once the
  validation of scale / border has passed (`Admitted`, Proofs/Raster.lean) as a rectangle of bits, chunking of
  concatenated rows, and reading back the decimal numbers the model prints.
-/
import Proofs.Raster
import Model.RasterDocs
import Spec.RasterL
import Proofs.Decimal
import Proofs.Scan

namespace Proofs.RasterDocs

open Model Model.RasterDocs Spec Proofs.Raster

/-- every module is 0 or 1 -/
def Bits (M : List (List Nat)) : Prop := ∀ r ∈ M, ∀ v ∈ r, v ≤ 1

theorem validSB_ok {w h : Nat} {scale : Num} {border : Option Num} {b : Nat} (a : Admitted w h scale border b) :
    validSB scale border = .ok () := by
  unfold validSB
  rw [a.okScale, a.okBorder]; rfl

/-- `dpi` is looked at only when truthy: a negative one is refused, any other gives its pixels per metre -/
theorem dpiPpm_eq (dpi : Option Dpi) :
    dpiPpm dpi = match dpi with
      | none => .ok 0
      | some d => if d.truthy = true ∧ d.int < 0 then .error .valueError else .ok (if d.truthy then d.ppm else 0) := by
  rcases dpi with _ | ⟨t, i, p⟩
  · rfl
  · cases t <;> by_cases hn : i < 0 <;> simp [dpiPpm, hn] <;> rfl

theorem matrixIter_one {w h : Nat} {border : Option Num} {b : Nat} (a : Admitted w h (.int 1) border b)
    (M : List (List Nat)) (hM : WellFormed M w h) :
    matrixIter M w h (.int 1) border = .ok (grid M w h 1 b) := matrixIter_ok a M hM

theorem grid_ne_nil (M : List (List Nat)) (w : Nat) {h s : Nat} (b : Nat) (hh : 0 < h) (hs : 0 < s) : grid M w h s b ≠ [] :=
  List.ne_nil_of_length_pos (by rw [grid_length]; exact Nat.mul_pos (by omega) hs)

theorem cellL_le (M : List (List Nat)) (hb : Bits M) (i j : Nat) : cellL M i j ≤ 1 := by
  unfold cellL
  simp only [List.getD_eq_getElem?_getD]
  cases hi : M[i]? with
  | none => simp
  | some r =>
    have hmem : r ∈ M := List.mem_of_getElem? hi
    simp only [Option.getD_some]
    cases hj : r[j]? with
    | none => simp
    | some v => simpa using hb r hmem v (List.mem_of_getElem? hj)

theorem grid_bits (M : List (List Nat)) (w h s b : Nat) (hb : Bits M) : ∀ r ∈ grid M w h s b, ∀ v ∈ r, v ≤ 1 := by
  intro r hr v hv
  simp only [grid, List.mem_map, List.mem_range] at hr
  obtain ⟨y, _, rfl⟩ := hr
  simp only [List.mem_map, List.mem_range] at hv
  obtain ⟨x, _, rfl⟩ := hv
  unfold pixelOf
  split
  · exact cellL_le M hb _ _
  · omega

/-- what a reader is given: `H` rows of `W` values, neither 0 (the readers refuse a zero dimension) -/
structure Rect (rows : List (List Nat)) (W H : Nat) : Prop where
  len : rows.length = H
  rowLen : ∀ r ∈ rows, r.length = W
  wpos : 0 < W
  hpos : 0 < H

theorem Rect.ne_nil {rows : List (List Nat)} {W H : Nat} (g : Rect rows W H) : rows ≠ [] :=
  List.ne_nil_of_length_pos (g.len ▸ g.hpos)

theorem Rect.w0 {rows : List (List Nat)} {W H : Nat} (g : Rect rows W H) : (W == 0) = false := by
  have := g.wpos; simp; omega

theorem Rect.h0 {rows : List (List Nat)} {W H : Nat} (g : Rect rows W H) : (H == 0) = false := by
  have := g.hpos; simp; omega

theorem grid_rect (M : List (List Nat)) {w h s : Nat} (b : Nat) (hw : 0 < w) (hh : 0 < h) (hs : 0 < s) :
    Rect (grid M w h s b) ((w + 2 * b) * s) ((h + 2 * b) * s) :=
  ⟨grid_length M w h s b, grid_row_length M w h s b, Nat.mul_pos (by omega) hs, Nat.mul_pos (by omega) hs⟩

theorem chunks_flatMap {α β : Type} (f : α → List β) (k : Nat) (rows : List α) (hlen : ∀ r ∈ rows, (f r).length = k) :
    L.chunks k rows.length (rows.flatMap f) = rows.map f := by
  induction rows with
  | nil => rfl
  | cons r rest ih =>
    have h1 : (f r).length = k := hlen r (by simp)
    subst h1
    simp only [List.flatMap_cons, List.length_cons, L.chunks, List.map_cons, List.take_left', List.drop_left']
    rw [ih (fun x hx => hlen x (by simp [hx]))]

theorem chunks_length {α : Type} (k n : Nat) (l : List α) : (L.chunks k n l).length = n := by
  induction n generalizing l with
  | zero => rfl
  | succ n ih => simp [L.chunks, ih]

theorem chunks_getElem? {α : Type} (k : Nat) : ∀ (n : Nat) (l : List α) (i : Nat),
    (L.chunks k n l)[i]? = if i < n then some ((l.drop (i * k)).take k) else none
  | 0, l, i => by simp [L.chunks]
  | n + 1, l, 0 => by simp [L.chunks]
  | n + 1, l, i + 1 => by
    simp only [L.chunks, List.getElem?_cons_succ, chunks_getElem? k n (l.drop k) i, List.drop_drop]
    have : k + i * k = (i + 1) * k := by rw [Nat.succ_mul, Nat.add_comm]
    rw [this]
    by_cases hi : i < n
    · simp [hi]
    · simp [hi]

/-- the raster step of every reader of a byte format: over the rows and (PAM, PPM) once more over the pixels of a row -/
theorem chunks_read {α β γ : Type} (enc : α → List β) (dec : List β → γ) (out : α → γ) (k : Nat) (l : List α)
    (hk : ∀ a ∈ l, (enc a).length = k) (hd : ∀ a ∈ l, dec (enc a) = out a) :
    (L.chunks k l.length (l.flatMap enc)).map dec = l.map out := by
  rw [chunks_flatMap enc k l hk, List.map_map]
  exact List.map_congr_left hd

theorem chunks_flatten {α : Type} (k : Nat) (rows : List (List α)) (hlen : ∀ r ∈ rows, r.length = k) :
    L.chunks k rows.length rows.flatten = rows := by
  have := chunks_flatMap (fun r : List α => r) k rows hlen
  simpa [List.flatMap_id'] using this

theorem isDigitB_of_isDigit (c : Char) (h : c.isDigit = true) : isDigitB c.toNat = true := by
  unfold Char.isDigit at h
  simp only [Bool.and_eq_true, decide_eq_true_eq, ge_iff_le, UInt32.le_iff_toNat_le] at h
  unfold isDigitB Char.toNat
  simp only [Bool.and_eq_true, decide_eq_true_eq]
  exact h

theorem decVal_dec (n : Nat) : L.decVal (dec n) = n := Proofs.Decimal.foldl_toDigits n

theorem dec_digits (n : Nat) : ∀ c ∈ dec n, c.isDigit = true := Proofs.Decimal.isDigit_toDigits n

theorem dec_ne (n : Nat) : dec n ≠ [] := Nat.toDigits_ne_nil

theorem decBytes_digits (n : Nat) : ∀ c ∈ decBytes n, isDigitB c = true := by
  intro c hc
  obtain ⟨ch, hch, rfl⟩ := List.mem_map.1 hc
  exact isDigitB_of_isDigit ch (dec_digits n ch hch)

theorem decBytes_ne (n : Nat) : decBytes n ≠ [] := by
  simp [decBytes, dec_ne]

theorem digitsVal_decBytes (n : Nat) : L.digitsVal (decBytes n) = n := by
  unfold L.digitsVal decBytes
  rw [List.foldl_map]; exact Proofs.Decimal.foldl_toDigits n

theorem isWs_le (t : Nat) (h : isWs t = true) : t ≤ 32 := by
  unfold isWs at h
  simp only [Bool.or_eq_true, beq_iff_eq] at h
  omega

theorem isWs_not_digit (t : Nat) (h : isWs t = true) : isDigitB t = false := by
  have := isWs_le t h
  unfold isDigitB
  simp; omega

theorem skipWs_digit (c : Nat) (rest : List Nat) (h : isDigitB c = true) : L.skipWs false (c :: rest) = c :: rest := by
  unfold isDigitB at h
  simp only [Bool.and_eq_true, decide_eq_true_eq] at h
  have h35 : (c == 35) = false := by simp; omega
  have hws : isWs c = false := by
    unfold isWs; simp; omega
  simp [L.skipWs, h35, hws]

theorem readNum_dec (n t : Nat) (rest : List Nat) (ht : isWs t = true) :
    L.readNum (decBytes n ++ t :: rest) = some (n, t :: rest) := by
  have hd := decBytes_digits n
  obtain ⟨d, ds, hds⟩ := List.exists_cons_of_ne_nil (decBytes_ne n)
  have hskip : L.skipWs false (decBytes n ++ t :: rest) = decBytes n ++ t :: rest := by
    rw [hds]; exact skipWs_digit d _ (by apply hd; rw [hds]; simp)
  have hstop : ¬ isDigitB t = true := by rw [isWs_not_digit t ht]; decide
  unfold L.readNum
  simp only [hskip, List.takeWhile_append_of_pos hd, List.dropWhile_append_of_pos hd, List.takeWhile_cons_of_neg hstop,
    List.dropWhile_cons_of_neg hstop, List.append_nil]
  have : (decBytes n).isEmpty = false := by rw [hds]; rfl
  simp [this, ht, digitsVal_decBytes]

theorem readNum_ws (c : Nat) (bs : List Nat) (h : isWs c = true) : L.readNum (c :: bs) = L.readNum bs := by
  have h35 : (c == 35) = false := by have := isWs_le c h; simp; omega
  unfold L.readNum
  simp [L.skipWs, h35, h]

theorem skipWs_comment (l : List Nat) (bs : List Nat) (hl : ∀ c ∈ l, c ≠ 10 ∧ c ≠ 13) :
    L.skipWs true (l ++ 10 :: bs) = L.skipWs false bs := by
  induction l with
  | nil => simp [L.skipWs]
  | cons c l ih =>
    have := hl c (by simp)
    simp only [List.cons_append, L.skipWs]
    have h1 : (c == 10 || c == 13) = false := by simp [this.1, this.2]
    rw [h1]
    simpa using ih (fun x hx => hl x (by simp [hx]))

theorem readNum_comment (l : List Nat) (bs : List Nat) (hl : ∀ c ∈ l, c ≠ 10 ∧ c ≠ 13) :
    L.readNum (35 :: (l ++ 10 :: bs)) = L.readNum bs := by
  unfold L.readNum
  have : L.skipWs false (35 :: (l ++ 10 :: bs)) = L.skipWs false bs := by
    simp only [L.skipWs]
    simpa using skipWs_comment l bs hl
  rw [this]

/-- the comment behind the `#` -/
def commentTail : List Nat := ascii " Created by " ++ Gen.Writers.CREATOR_POINTS

theorem createdBy_eq : createdBy = .ok (35 :: commentTail) := by rfl

theorem commentTail_ok : ∀ c ∈ commentTail, c ≠ 10 ∧ c ≠ 13 := by decide

theorem unpack_pack1 (row : List Nat) (hrow : ∀ v ∈ row, v ≤ 1) : unpackRow 1 row.length (packRow 1 row) = row :=
  unpack_packRow 1 (by decide) row (fun v hv => by have := hrow v hv; omega)

theorem unpack_pack_xbm (row : List Nat) (hrow : ∀ v ∈ row, v ≤ 1) : unpackRowXbm row.length (packRowXbm row) = row :=
  unpack_packRowXbm row (fun v hv => by have := hrow v hv; omega)

theorem bw_bit (v : Nat) (hv : v ≤ 1) : L.bw v = some (if v ≠ 0 then black else white) := by
  unfold L.bw
  have : v = 0 ∨ v = 1 := by omega
  rcases this with rfl | rfl <;> rfl

end Proofs.RasterDocs
