/-
  Proofs.IterShape — the decision chain of `get_bit` (Model.getBitBranch) classifies every position like
  the ISO classifier `Spec.kind`, for all widths, except at (8, n−9) of QR Codes (finding D8).  Each is a
  chain of region tests; a truth table over the tests says which overlaps the two orders tolerate, and
  those are linear arithmetic in (n, i, j).
-/
import Model.IterShape
import Spec.Geometry

namespace Proofs.IterShape

open Model Spec

/-- the region a `return` of `get_bit` stands for (the model of `get_bit` does not import the specification) -/
def toKind : Branch → Kind
  | .alignment => .alignment | .version => .version | .darkmodule => .darkmodule | .timing => .timing
  | .format => .format | .finder => .finder | .separator => .separator | .data => .data

/-- `Spec.kind` for a QR Code of size n with the alignment membership as a parameter -/
def kindQR (v : Int) (n i j : Nat) (al : Bool) : Kind :=
  if (i < 7 && j < 7) || (i < 7 && j + 7 ≥ n) || (i + 7 ≥ n && j < 7) then .finder
  else if (i ≤ 7 && j ≤ 7) || (i ≤ 7 && j + 8 ≥ n) || (i + 8 ≥ n && j ≤ 7) then .separator
  else if i + 8 == n && j == 8 then .darkmodule
  else if (i == 8 && (j ≤ 8 || j + 8 ≥ n)) || (j == 8 && (i ≤ 8 || i + 8 ≥ n)) then
    (if i == 6 || j == 6 then .timing else .format)
  else if v ≥ 7 && ((i < 6 && n - 11 ≤ j && j + 9 ≤ n) || (j < 6 && n - 11 ≤ i && i + 9 ≤ n)) then .version
  else if al then .alignment
  else if i == 6 || j == 6 then .timing
  else .data

/-- `Spec.kind` for a Micro QR Code -/
def kindMicro (i j : Nat) : Kind :=
  if i < 7 && j < 7 then .finder
  else if (i == 7 && j ≤ 7) || (j == 7 && i ≤ 7) then .separator
  else if i == 0 || j == 0 then .timing
  else if (i == 8 && 1 ≤ j && j ≤ 8) || (j == 8 && 1 ≤ i && i ≤ 8) then .format
  else .data

theorem kind_eq_kindQR (v : Int) (hv : 1 ≤ v) (i j : Nat) :
    kind v i j = kindQR v (size v) i j (inAlignment v.toNat (size v) i j) := by
  have : isMicro v = false := by simp [isMicro]; omega
  unfold kind kindQR
  simp [this]

theorem kind_eq_kindMicro (v : Int) (hv : v < 1) (i j : Nat) : kind v i j = kindMicro i j := by
  have : isMicro v = true := by simp [isMicro]; omega
  unfold kind kindMicro
  simp [this]

/-- Both classifiers are first-match chains over the same regions, asked in different orders: the ISO
    one finder, separator, dark module, format strip (timing where it crosses line 6), version block,
    timing; the Python one (primed conditions) version, dark module, timing run, format, finder, separator.
    They agree because the regions overlap only as the hypotheses say; `S` is the 8×8 corner including
    the finder (`hFS`), `T` is "on line 6", `T'` the timing run between the corners. -/
theorem chains_agree (F S D B V T F' S' D' B' V' T' : Bool)
    (hF : F' ↔ F) (hS : S' ↔ S) (hD : D' ↔ D) (hB : B' ↔ B) (hV : V' ↔ V)
    (hFS : F → S) (hVB : V → !(S || B)) (hDB : D → B) (hBS : B → !S) (hT' : T' → !S && T) (hT : T → S || T') :
    toKind (if V' then .version else if D' then .darkmodule else if T' then .timing else if B' then .format
      else if F' then .finder else if S' then .separator else .data) =
    (if F then Kind.finder else if S then .separator else if D then .darkmodule
      else if B then (if T then .timing else .format) else if V then .version else if T then .timing else .data) := by
  rw [← Bool.eq_iff_iff] at hF hS hD hB hV
  subst hF hS hD hB hV
  revert F' S' D' B' V' T T'
  decide

/-- QR Codes, positions outside alignment patterns: for EVERY width n = 17 + 4v the Python chain takes
    the branch of the ISO region, except at (8, n−9) -/
theorem branch_qr (v : Int) (hv1 : 1 ≤ v) (n i j : Nat) (hn : (n : Int) = 17 + 4 * v)
    (hi : i < n) (hj : j < n) (hd8 : ¬ (i = 8 ∧ j + 9 = n)) :
    toKind (getBitBranch n n true false 2 i j) = kindQR v n i j false := by
  unfold getBitBranch kindQR
  simp only [Bool.not_false, Bool.true_and, Bool.false_and, Bool.or_false, bne_self_eq_false, Bool.false_eq_true,
    if_false]
  -- the hypotheses of `chains_agree` are linear arithmetic in (v, n, i, j); only `hB` needs `hd8`
  apply chains_agree
  all_goals simp only [Bool.and_eq_true, Bool.or_eq_true, Bool.not_eq_true', ← Bool.not_eq_true, decide_eq_true_eq,
    beq_iff_eq]
  all_goals omega

theorem branch_alignment_iff (w h : Int) (sq mi : Bool) (a : Nat) (i j : Int) :
    getBitBranch w h sq mi a i j = .alignment ↔ mi = false ∧ a ≠ 2 := by
  unfold getBitBranch
  by_cases hc : (!mi && a != 2) = true
  · rw [if_pos hc]; simpa using hc
  · rw [if_neg hc]
    simp only [apply_ite (· = Branch.alignment), reduceCtorEq, ite_self, false_iff]
    simpa using hc

/-- The Micro QR chains: ISO asks finder, separator, timing, format; Python (primed) asks timing, format,
    finder, separator, where its separator test covers the finder too, its timing test stops short of the
    corner and its format test reaches onto the timing lines. -/
theorem chains_agree_micro (F S T B F' S' T' B' : Bool)
    (hF : F' ↔ F) (hS : S' ↔ F || S) (hT : T' ↔ T && !S') (hB : B' && !T' ↔ B) (hBS : B → !S') :
    toKind (if T' then .timing else if B' then .format else if F' then .finder else if S' then .separator else .data) =
    (if F then Kind.finder else if S then .separator else if T then .timing else if B then .format else .data) := by
  revert F S T B F' S' T' B'
  decide

theorem branch_micro (w h : Int) (sq : Bool) (a i j : Nat) :
    toKind (getBitBranch w h sq true a i j) = kindMicro i j := by
  unfold getBitBranch kindMicro
  simp only [Bool.not_true, Bool.true_and, Bool.false_and, Bool.false_or, Bool.or_false, Bool.false_eq_true, if_false]
  apply chains_agree_micro
  all_goals simp only [Bool.and_eq_true, Bool.or_eq_true, Bool.not_eq_true', ← Bool.not_eq_true, decide_eq_true_eq,
    beq_iff_eq]
  all_goals omega

/-- D8: at (8, n−9) the chain answers `format` for every QR width, where ISO has a data module -/
theorem branch_qr_d8 (v : Int) (hv1 : 1 ≤ v) (n : Nat) (hn : (n : Int) = 17 + 4 * v) :
    getBitBranch n n true false 2 8 ((n - 9 : Nat) : Int) = .format ∧ kindQR v n 8 (n - 9) false = .data := by
  unfold getBitBranch kindQR
  simp only [Bool.not_false, Bool.true_and, Bool.false_and, Bool.or_false, bne_self_eq_false, Bool.false_eq_true,
    if_false, Bool.and_eq_true, Bool.or_eq_true, decide_eq_true_eq, beq_iff_eq, true_and]
  constructor <;> simp (disch := omega) only [if_pos, if_neg]

end Proofs.IterShape
