/-
  Proofs.Idempotent — a symbol that `encode` returned, encoded again with its own version, level and mask, is returned
  again (`reencode_fixed_point`, behind `Props.C15.reencode_idempotent`), and what that needs beyond the stages of `encode` and
  `_encode`: the matrix size through the stages, the returned mask can be requested, `boost_error_level` only moves to levels
  at which the content fits.
-/
import Proofs.EncodeCore
import Proofs.EncodeStages
import Proofs.Mask
import Proofs.Placement
import Proofs.Cells
import Proofs.Sizing
open Model
namespace Proofs.Idempotent
open Proofs.ArgsLemmas Proofs.EncodeStages
open Proofs.Placement (size_set2)
open Proofs.Except (pure_eq_ok throw_ne_ok)

theorem throw_bind' {ε α β : Type} (e : ε) (f : α → Except ε β) :
    ((throw e : Except ε α) >>= f) = throw e := rfl

attribute [local simp] throw_bind' throw_ne_ok pure_eq_ok

theorem size_foldl {α : Type} (f : Matrix → α → Matrix) (hf : ∀ m a, (f m a).size = m.size)
    (l : List α) (m : Matrix) : (l.foldl f m).size = m.size := by
  induction l generalizing m with
  | nil => rfl
  | cons a l ih => simp [List.foldl_cons, ih, hf]


theorem size_addFinderPatterns (m : Matrix) (n : Nat) : (addFinderPatterns m n).size = m.size :=
  size_foldl _ (fun _ _ => size_foldl _ (fun _ _ => size_foldl _ (fun _ _ => size_set2 ..) _ _) _ _) _ _

theorem size_addAlignmentPatterns (m m' : Matrix) (n : Nat) (h : addAlignmentPatterns m n = .ok m') :
    m'.size = m.size := by
  unfold addAlignmentPatterns at h
  dsimp only at h
  repeat' split at h
  all_goals cases h
  · rfl
  · refine size_foldl _ (fun m a => ?_) _ _
    split
    · rfl
    · exact size_foldl _ (fun m r => size_foldl _ (fun m c => size_set2 ..) _ _) _ _

theorem size_fst_foldl {α β : Type} (f : Matrix × β → α → Matrix × β) (hf : ∀ p a, (f p a).1.size = p.1.size)
    (l : List α) (p : Matrix × β) : (l.foldl f p).1.size = p.1.size := by
  induction l generalizing p with
  | nil => rfl
  | cons a l ih => simp [List.foldl_cons, ih, hf]

theorem size_addCodewords (m m' : Matrix) (bits : List Nat) (v : Int) (h : addCodewords m bits v = .ok m') :
    m'.size = m.size := by
  unfold addCodewords at h
  simp only [] at h
  split at h
  · simp only [pure_eq_ok] at h
    subst h
    refine size_fst_foldl _ ?_ _ (m, bits)
    intro p a
    split
    · rfl
    · split
      · apply size_set2
      · rfl
  · simp at h

theorem fabm_idem (m : Matrix) (mask : Option Nat) (k : Nat) (m2 : Matrix)
    (h : findAndApplyBestMask m mask = .ok (k, m2)) :
    findAndApplyBestMask m (some k) = .ok (k, m2) ∧ k < (maskPatterns (decide (m.size < 21))).length := by
  obtain ⟨fm, hfm, -, hk, hm2⟩ := (Proofs.Mask.fabm_ok_iff m mask k m2).1 h
  exact ⟨(Proofs.Mask.fabm_ok_iff m (some k) k m2).2 ⟨fm, hfm, rfl, hk, hm2⟩, hk⟩

/-- the first step of `_encode` (`Proofs.Sequence.encodeCore_eq`) -/
theorem boost_step_inv (v : Int) (e r : Option Nat) (segs : List Segment) (eci boost : Bool)
    (h : (if boost then boostErrorLevel v e segs eci false else pure e) = .ok r) :
    r = e ∨ (r.isSome ∧ FitsAt segs v eci false r) := by
  cases boost with
  | false => cases h; exact .inl rfl
  | true =>
    have h : boostErrorLevel v e segs eci false = .ok r := h
    cases e with
    | none => cases h; exact .inl rfl
    | some e0 =>
      obtain ⟨r', rfl, -⟩ := Proofs.Sizing.boost_never_below v e0 segs eci false r h
      exact (Proofs.Sizing.boost_result v _ _ segs eci false h).imp_right fun hfit => ⟨rfl, hfit⟩

theorem codewords_size (v : Int) (final : List Nat) (m0 m1 : Matrix)
    (hm0 : addAlignmentPatterns (addFinderPatterns (makeMatrix (Gen.calc_matrix_size v).toNat) (Gen.calc_matrix_size v).toNat)
      (Gen.calc_matrix_size v).toNat = .ok m0)
    (hm1 : addCodewords m0 final v = .ok m1) : m1.size = (Gen.calc_matrix_size v).toNat := by
  rw [size_addCodewords _ _ _ _ hm1, size_addAlignmentPatterns _ _ _ hm0, size_addFinderPatterns, (Proofs.Cells.sq_makeMatrix _).1]

/-- `_encode` once more, with the level and the mask it chose requested and boosting off, goes through the same stages:
    the mask selection is the one step that sees a different argument -/
theorem encodeCore_again (segs : List Segment) (error : Option Nat) (v : Int) (mask : Option Nat) (eci boost : Bool)
    (f : String → Option Nat) (sa : Option (Nat × Nat × Nat)) (c : Code)
    (h : encodeCore segs error v mask eci boost f sa = .ok c) :
    encodeCore segs c.error v (some c.mask) eci false f sa = .ok c := by
  obtain ⟨-, ⟨r⟩⟩ := (Proofs.Sequence.encodeCore_iff ..).1 h
  exact (Proofs.Sequence.encodeCore_iff ..).2 ⟨rfl, ⟨{ r with tail := { r.tail with chain := { r.tail.chain with
    hm2 := (fabm_idem _ _ _ _ r.tail.chain.hm2).1 } } }⟩⟩

/-- The symbol a call returns is a fixed point: requesting explicitly the version, error level and mask the call chose
    (boosting disabled, same `micro`) returns the same `Code`.  Every check of the second call follows from one the
    first call passed: the version was searched in (or checked against) the range `micro` allows, level H and ECI only
    occur from version 1 on, the content fits at the boosted level so `find_version` stops at or below the version, and
    the mask returned is one of the patterns that can be requested. -/
theorem reencode_fixed_point
    (parts : List Part) (error : Option Nat) (version : Option Int) (mode : Option Nat) (mask : Option Nat)
    (eci : Bool) (micro : Option Bool) (boost : Bool) (n : String → Option Nat) (c : Code)
    (h : encode parts error version mode mask eci micro boost n = .ok c)
    (hmode : mode = none ∨ version.isSome = true ∨ ∃ md, mode = some md ∧ isModeSupported md c.version = some true) :
    encode parts c.error (some c.version) mode (some c.mask) eci micro false n = .ok c := by
  obtain ⟨hcombo, segs, hsegs, g, hg, v, hv, hfit, hmask, hcore⟩ := (encode_ok_iff _ _ _ _ _ _ _ _ _ _).1 h
  have ok := comboChecks_ok_iff.1 hcombo
  rw [pickVersion_ok_iff] at hv
  have hagain := encodeCore_again _ _ _ _ _ _ _ _ _ hcore
  obtain ⟨hboost, ⟨r⟩⟩ := (Proofs.Sequence.encodeCore_iff ..).1 hcore
  obtain ⟨cm, cv, e2, k, cs⟩ := c
  have hcv := r.hver
  have hcs := r.hsegs
  have ch := r.tail.chain
  dsimp only at hcv hcs hboost hagain ch hmode ⊢
  obtain rfl := hcv.symm
  obtain rfl := hcs.symm
  -- the first `find_version` call
  generalize hmicro' : (if (eci && micro.isNone) = true then some false else micro) = micro' at hg
  obtain ⟨hchk, minV1, hmin, hfind⟩ := (findVersion_ok_iff _ _ _ _ _ _).1 hg
  have hgfit : FitsAt segs g eci false (defaultLevel error g) := (fitsB_iff _ _ _ _ _).1 (List.find?_some hfind)
  have hgmem := (mem_intRange _ _ _).1 (List.mem_of_find?_eq_some hfind)
  have hgv : g ≤ v := by
    rcases hv with ⟨_, rfl⟩ | ⟨_, hle⟩
    · exact Int.le_refl _
    · exact hle
  -- the chosen version fits at the chosen level
  have hfit0 : FitsAt segs v eci false (defaultLevel error v) := fits_of_check hgfit hfit
  have he2 := boost_step_inv _ _ _ _ _ _ hboost
  have hFe2 : FitsAt segs v eci false e2 := Proofs.Sizing.boost_step_fits v _ e2 segs eci false boost hboost hfit0
  obtain ⟨cap, bl, hcap, hbl, hle⟩ := hFe2
  obtain ⟨hvlo, hvhi, hvH, hvS⟩ := capacity_facts hcap
  have hFe2 : FitsAt segs v eci false e2 := ⟨cap, bl, hcap, hbl, hle⟩
  have herr2 : defaultLevel e2 v = e2 := by
    cases e2 with
    | none =>
      rcases he2 with h | ⟨h, _⟩
      · obtain ⟨_, rfl⟩ := defaultLevel_eq_none _ _ h.symm
        simp [defaultLevel]
      · cases h
    | some l => simp [defaultLevel]
  have hmicro_true : micro' = some true → micro = some true := by
    intro hm
    rw [← hmicro'] at hm
    split at hm
    · cases hm
    · exact hm
  have hA : micro' = some false → 1 ≤ v := by
    intro hm; subst hm
    have := (findVersion_qr _ _ _ _ _ hg).1
    omega
  have hB : micro = some true → v ≤ 0 := by
    intro hm; subst hm
    have : micro' = some true := by rw [← hmicro']; simp
    subst this
    rcases hv with ⟨hvn, rfl⟩ | ⟨hvs, _⟩
    · simp [maxV, Gen.VERSION_M4] at hgmem; omega
    · subst hvs; have h2 := ok.microTrue; simp [isMicroVer] at h2; exact ((micro_contains v).1 (by simp [h2])).2
  have hfv2 : ∃ g', findVersion segs e2 eci micro' = .ok g' ∧ g' ≤ v := by
    cases e2 with
    | none => 
      rcases he2 with h | ⟨h, _⟩
      · obtain ⟨rfl, _⟩ := defaultLevel_eq_none _ _ h.symm; exact ⟨g, hg, hgv⟩
      · cases h
    | some l =>
      have hv3 : v ≠ -3 := hvS rfl
      have hmemv : v ∈ intRange (if ((some l).isSome && micro' != some false) = true then Gen.VERSION_M2 else minV1)
          (maxV micro') := by
        rw [mem_intRange]; constructor
        · by_cases hmf : micro' = some false
          · subst hmf; simp at hgmem ⊢; omega
          · have : (micro' != some false) = true := by simpa using hmf
            simp [this, Gen.VERSION_M2]; omega
        · unfold maxV; split
          · rename_i hmt
            have := hB (hmicro_true (by simpa using hmt))
            simp [Gen.VERSION_M4]; omega
          · exact hvhi
      have hp : fitsB segs (some l) eci false v = true := (fitsB_iff _ _ _ _ _).2 (by show FitsAt _ _ _ _ (defaultLevel _ _); rw [herr2]; exact hFe2)
      obtain ⟨g', hg', hle'⟩ := find?_le_of_pairwise _ _ (pairwise_intRange _ _) v hmemv hp
      exact ⟨g', (findVersion_ok_iff _ _ _ _ _ _).2 ⟨hchk, minV1, hmin, hg'⟩, hle'⟩
  obtain ⟨g', hg', hg'v⟩ := hfv2
  have hmf : micro = some false → 1 ≤ v := by
    intro hm; apply hA; rw [← hmicro', hm]; simp
  have hE : eci = true → 1 ≤ v ∧ micro ≠ some true := by
    intro he
    exact ⟨hA (hmicro'.symm.trans (micro_of_eci micro eci ok.micro_ne_true he)), ok.micro_ne_true he⟩
  have hnc : 1 ≤ v → isMicroVer (some v) = false := by
    intro h1v
    cases hc : isMicroVer (some v)
    · rfl
    · have := (micro_contains v).1 hc; omega
  have hyc : v ≤ 0 → isMicroVer (some v) = true := fun h0 => (micro_contains v).2 ⟨hvlo, h0⟩
  -- the second call stage by stage (`encode_ok_iff`); its combination checks are the five conditions of `comboChecks_ok_iff`, in order:
  -- micro=False with a Micro version, micro=True with a QR Code version, mode not offered by the version, level H with Micro, ECI with Micro
  refine (encode_ok_iff _ _ _ _ _ _ _ _ _ _).2 ⟨comboChecks_ok_iff.2 ⟨?microFalse, ?microTrue, ?modeSupported, ?levelH, ?eciMicro⟩, segs, hsegs,
    g', by rw [hmicro']; exact hg', v, (pickVersion_ok_iff _ _ _).2 (Or.inr ⟨rfl, hg'v⟩), ?ownCapacity, ?maskRange, ?core⟩
  case ownCapacity => intro _; rw [herr2]; exact hFe2
  case core =>
    rw [herr2]
    exact hagain
  case maskRange =>
    intro mk hmk
    cases hmk
    exact (mask_bound v ch.m1.size k (codewords_size v _ ch.m0 ch.m1
      (by rw [Proofs.Sequence.matrix_size v hvlo hvhi]; exact ch.hm0) ch.hm1)).1 (fabm_idem _ _ _ _ ch.hm2).2
  case microFalse =>
    rcases micro with _ | _ | _
    · rfl
    · simp [hnc (hmf rfl)]
    · rfl
  case microTrue =>
    rcases micro with _ | _ | _
    · rfl
    · rfl
    · simp [hyc (hB rfl)]
  case modeSupported =>
    intro md v' hmd hv'
    cases hv'
    rcases hmode with hm | hs | ⟨md', hm, hsup⟩
    · rw [hm] at hmd; cases hmd
    · rcases hv with ⟨hn, _⟩ | ⟨hs', _⟩
      · rw [hn] at hs; cases hs
      · exact ok.modeSupported md v hmd hs'
    · rw [hm] at hmd; cases hmd; exact hsup
  case levelH =>
    by_cases he : e2 = some Gen.ERROR_LEVEL_H
    · have h1v := hvH he
      have hmt : (micro == some true) = false := by
        rcases micro with _ | _ | _
        · rfl
        · rfl
        · have := hB rfl; omega
      simp [hmt, hnc h1v]
    · have : (e2 == some Gen.ERROR_LEVEL_H) = false := by simpa using he
      simp [this]
  case eciMicro =>
    cases eci
    · rfl
    · obtain ⟨h1v, hmt⟩ := hE rfl
      simp [hnc h1v]
      exact hmt

end Proofs.Idempotent
