/-
  Proofs.Purity — the judge of C15 (Spec/Purity.lean) finds no first difference exactly between equal lists.
-/
import Spec.Purity

namespace Proofs.Purity
open Spec.Purity

theorem firstDiff_none_iff (e o : List String) (k : Nat) : firstDiff e o k = none ↔ e = o := by
  induction e generalizing o k with
  | nil => cases o <;> simp [firstDiff]
  | cons a as ih =>
    cases o with
    | nil => simp [firstDiff]
    | cons b bs =>
      simp only [firstDiff]
      by_cases hab : a = b
      · subst hab; simp [ih]
      · simp [hab]

end Proofs.Purity
