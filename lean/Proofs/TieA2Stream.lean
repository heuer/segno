/-
  Proofs.TieA2Stream — the three stages of `Model.finishStream` and what `write_terminator`, `write_padding_bits`,
  `write_pad_codewords` (translated, Gen/Funcs2.lean) need: the terminator table, the pad codeword loop.
-/
import Proofs.TieA2
import Model.Encoder

namespace Proofs.TieA2
open Gen.Py Proofs.TieA

/-- the `ver` argument `_encode` passes to `write_terminator`: `None` for a QR Code, the version constant for a Micro QR Code -/
def verArg (v : Int) : Option Int := if v < 1 then some v else none

/-- `write_terminator`: `tl` zero bits, fewer where the capacity ends before -/
def stage1 (buff : List Nat) (cap tl : Nat) : List Nat := buff ++ List.replicate (min (cap - buff.length) tl) 0

/-- `write_padding_bits`: zeros up to a multiple of 8 (eight of them when the length is one already); nothing for M1 / M3 -/
def stage2 (b1 : List Nat) (v : Int) : List Nat :=
  if !Model.isM1M3 v then b1 ++ List.replicate (8 - b1.length % 8) 0 else b1

/-- `write_pad_codewords`: for M1 / M3 zeros up to a multiple of 8 within the capacity, whole pad codewords, then zeros up to the
    capacity (the final half codeword); otherwise pad codewords up to `cap / 8` codewords -/
def stage3 (b2 : List Nat) (v : Int) (cap : Nat) : List Nat :=
  if Model.isM1M3 v then
    let len := b2.length
    let b3 := b2 ++ List.replicate (min ((8 - len % 8) % 8) (cap - len)) 0
    let b4 := b3 ++ ((List.range ((cap - b3.length) / 8)).map Model.padCodeword).flatten
    b4 ++ List.replicate (cap - b4.length) 0
  else
    b2 ++ ((List.range (cap / 8 - b2.length / 8)).map Model.padCodeword).flatten

theorem zeros_toI (n : Nat) : List.replicate n (0 : Int) = toI (List.replicate n 0) := (toI_replicate n 0).symm

theorem terminator_lookup (v : Int) :
    lookup Gen.Funcs2.T_consts_TERMINATOR_LENGTH (verArg v) = ofOption .keyError ((Model.terminatorLength v).map Int.ofNat) := by
  by_cases h1 : 1 ≤ v
  · have e : verArg v = none := by simp [verArg]; omega
    have e2 : (if v > 0 then (1 : Int) else v) = 1 := by rw [if_pos (by omega)]
    rw [e]
    simp only [Model.terminatorLength, e2]
    rfl
  · by_cases hk : -3 = v ∨ -2 = v ∨ -1 = v ∨ 0 = v
    · rcases hk with h | h | h | h <;> subst h <;> decide
    · have e : verArg v = some v := by simp [verArg]; omega
      have e2 : (if v > 0 then (1 : Int) else v) = v := by rw [if_neg (by omega)]
      have p1 : ((1 : Int) == v) = false := by simp; omega
      simp only [not_or, ← ne_eq, ← beq_eq_false_iff_ne] at hk
      rw [e]
      simp only [Model.terminatorLength, e2]
      simp [lookup, Gen.Funcs2.T_consts_TERMINATOR_LENGTH, Gen.TERMINATOR_LENGTH, Model.assoc, List.find?, hk, p1]

theorem isM1M3_unfold (v : Int) : Model.isM1M3 v = ((v == (-3 : Int)) || (v == (-1 : Int))) := rfl

def padI (i : Int) : List Int := if i % 2 = 0 then [1, 1, 1, 0, 1, 1, 0, 0] else [0, 0, 0, 1, 0, 0, 0, 1]

theorem padI_nat (k : Nat) : padI (k : Int) = toI (Model.padCodeword k) := by
  unfold padI Model.padCodeword
  have h : ((k : Int) % 2 = 0) ↔ (k % 2 = 0) := by omega
  by_cases hk : k % 2 = 0
  · rw [if_pos (h.mpr hk)]; simp [hk]
  · rw [if_neg (fun x => hk (h.mp x))]; simp [hk]

theorem pad_foldl (b : List Int) (n : Nat) :
    ((List.range n).map Int.ofNat).foldl (fun acc i => acc ++ padI i) b
      = b ++ toI ((List.range n).map Model.padCodeword).flatten := by
  induction n with
  | zero => simp
  | succ n ih =>
    rw [List.range_succ]
    simp only [List.map_append, List.foldl_append, ih, List.map_cons, List.map_nil, List.foldl_cons, List.foldl_nil,
      List.flatten_append, List.flatten_cons, List.flatten_nil, List.append_nil, toI_append, List.append_assoc]
    congr 1
    congr 1
    exact padI_nat n

/-- the pad codeword loop: `for i in range(n): write(pad_codewords[i % 2])` -/
theorem pad_loop (b : List Int) (n : Int) :
    foldlM (range 0 n) b (fun acc i =>
      Gen.Py.bind (index [[(1 : Int), 1, 1, 0, 1, 1, 0, 0], [(0 : Int), 0, 0, 1, 0, 0, 0, 1]] (i % 2)) (fun t => .ok (acc ++ t)))
      = .ok (b ++ toI ((List.range n.toNat).map Model.padCodeword).flatten) := by
  rw [foldlM_eq_foldl _ _ _ (fun acc i => acc ++ padI i)]
  · have e : range 0 n = (List.range n.toNat).map Int.ofNat := by simp [range]
    rw [e, pad_foldl]
  · intro s x _
    rw [index_two]
    rfl

end Proofs.TieA2
