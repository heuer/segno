/-
  How the C tokenizer of Spec/RasterL.lean (`Spec.L.run`, a state machine) reads the pieces the XBM / XPM writers emit.
  The lemmas have the shape `run .idle (piece ++ t :: r) = token :: run .idle (t :: r)` (t = the character that ends the piece).
-/
import Proofs.RasterDocsBase

namespace Proofs.RasterDocs

open Model.RasterDocs Spec Spec.L

/-- a C identifier: a letter or `_`, then letters, digits, `_` -/
def IsCIdent (name : List Char) : Prop :=
  ∃ c cs, name = c :: cs ∧ isIdentStart c = true ∧ ∀ x ∈ cs, isIdentChar x = true

theorem run_idle_cons (c : Char) (r : List Char) : run .idle (c :: r) = (stepIdle c).1 ++ run (stepIdle c).2 r := rfl

theorem run_ws (c : Char) (r : List Char) (h : c = ' ' ∨ c = '\n' ∨ c = '\t' ∨ c = '\r') : run .idle (c :: r) = run .idle r := by
  rcases h with rfl | rfl | rfl | rfl <;> rfl

theorem run_punct (c : Char) (r : List Char) (h : stepIdle c = ([.punct c], .idle)) : run .idle (c :: r) = .punct c :: run .idle r := by
  rw [run_idle_cons, h]; rfl

theorem identStart_cases (c : Char) (h : isIdentStart c = true) :
    (65 ≤ c.val.toNat ∧ c.val.toNat ≤ 90) ∨ (97 ≤ c.val.toNat ∧ c.val.toNat ≤ 122) ∨ c = '_' := by
  unfold isIdentStart at h
  simp only [Bool.or_eq_true, beq_iff_eq] at h
  rcases h with h | h
  · unfold Char.isAlpha Char.isUpper Char.isLower at h
    simp only [Bool.or_eq_true, Bool.and_eq_true, decide_eq_true_eq, ge_iff_le, UInt32.le_iff_toNat_le] at h
    rcases h with h | h
    · exact Or.inl h
    · exact Or.inr (Or.inl h)
  · exact Or.inr (Or.inr h)

theorem not_digit_of_identStart (c : Char) (h : isIdentStart c = true) : c.isDigit = false := by
  rcases identStart_cases c h with h | h | rfl
  case inr.inr => decide
  -- a letter: its code lies above those of the digits
  all_goals
    unfold Char.isDigit
    simp only [Bool.and_eq_false_iff, decide_eq_false_iff_not, ge_iff_le, UInt32.le_iff_toNat_le, Nat.not_le]
    right; exact Nat.lt_of_lt_of_le (by decide) h.1

/-- the six characters are those the idle state treats specially -/
theorem not_special (P : Char → Bool) (hP : ∀ x ∈ [' ', '\n', '\t', '\r', '/', '"'], P x = false) (c : Char) (h : P c = true) :
    c ≠ ' ' ∧ c ≠ '\n' ∧ c ≠ '\t' ∧ c ≠ '\r' ∧ c ≠ '/' ∧ c ≠ '"' := by
  have key : ∀ x ∈ [' ', '\n', '\t', '\r', '/', '"'], c ≠ x := by
    rintro x hx rfl
    rw [hP c hx] at h; cases h
  exact ⟨key _ (by simp), key _ (by simp), key _ (by simp), key _ (by simp), key _ (by simp), key _ (by simp)⟩

theorem stepIdle_identStart (c : Char) (h : isIdentStart c = true) : stepIdle c = ([], .ident [c]) := by
  obtain ⟨h1, h2, h3, h4, h5, h6⟩ := not_special isIdentStart (by decide) c h
  unfold stepIdle
  simp [h1, h2, h3, h4, h5, h6, not_digit_of_identStart c h, h]

theorem stepIdle_digit (c : Char) (h : c.isDigit = true) : stepIdle c = ([], .num [c]) := by
  obtain ⟨h1, h2, h3, h4, h5, h6⟩ := not_special Char.isDigit (by decide) c h
  unfold stepIdle
  simp [h1, h2, h3, h4, h5, h6, h]

theorem run_cons (st : TState) (c : Char) (r : List Char) : run st (c :: r) = (step st c).1 ++ run (step st c).2 r := rfl

/-- one induction for the collecting states `.ident`, `.num`, `.hex` -/
theorem run_scan (S : List Char → TState) (tok : List Char → Tok) (P : Char → Bool) (t : Char)
    (more : ∀ acc c, P c = true → step (S acc) c = ([], S (c :: acc)))
    (stop : ∀ acc, acc ≠ [] → step (S acc) t = (tok acc.reverse :: (stepIdle t).1, (stepIdle t).2))
    (cs : List Char) (r : List Char) (hcs : ∀ c ∈ cs, P c = true) (acc : List Char) (hne : acc ++ cs ≠ []) :
    run (S acc) (cs ++ t :: r) = tok (acc.reverse ++ cs) :: run .idle (t :: r) := by
  rw [Proofs.Scan.scan_clean (f := fun i acc => run (S acc) i) (fun c r acc h => by rw [run_cons, more acc c h]; rfl) hcs,
    run_cons, stop _ (by simpa [and_comm] using hne), run_idle_cons]
  simp

theorem step_ident_stop (acc : List Char) (t : Char) (ht : isIdentChar t = false) :
    step (.ident acc) t = (.ident acc.reverse :: (stepIdle t).1, (stepIdle t).2) := by simp [step, ht]

theorem step_ident_more (acc : List Char) (c : Char) (hc : isIdentChar c = true) : step (.ident acc) c = ([], .ident (c :: acc)) := by
  simp [step, hc]

theorem run_ident (name : List Char) (hname : IsCIdent name) (suffix : List Char) (hsuf : ∀ c ∈ suffix, isIdentChar c = true)
    (t : Char) (r : List Char) (ht : isIdentChar t = false) :
    run .idle (name ++ suffix ++ t :: r) = .ident (name ++ suffix) :: run .idle (t :: r) := by
  obtain ⟨c, cs, rfl, hc, hcs⟩ := hname
  have hall : ∀ x ∈ cs ++ suffix, isIdentChar x = true := by
    intro x hx
    rcases List.mem_append.1 hx with hx | hx
    · exact hcs x hx
    · exact hsuf x hx
  have := run_scan .ident .ident isIdentChar t step_ident_more (fun acc _ => step_ident_stop acc t ht) (cs ++ suffix) r hall [c] (by simp)
  rw [List.cons_append, List.cons_append, run_idle_cons, stepIdle_identStart c hc]
  simpa using this

theorem run_ident0 (name : List Char) (hname : IsCIdent name) (t : Char) (r : List Char) (ht : isIdentChar t = false) :
    run .idle (name ++ t :: r) = .ident name :: run .idle (t :: r) := by
  have := run_ident name hname [] (by simp) t r ht
  simpa using this

/-- the same where the writer's next literal `lit` begins with the tail of the identifier: the text need not be cut at the
    token boundary first -/
theorem run_ident_lit (name : List Char) (hname : IsCIdent name) (lit suffix : List Char) (t : Char) (more : List Char)
    (hlit : lit = suffix ++ t :: more) (hsuf : ∀ c ∈ suffix, isIdentChar c = true) (ht : isIdentChar t = false) (r : List Char) :
    run .idle (name ++ (lit ++ r)) = .ident (name ++ suffix) :: run .idle (t :: (more ++ r)) := by
  subst hlit
  have := run_ident name hname suffix hsuf t (more ++ r) ht
  simpa using this

theorem isCIdent_literal (c : Char) (cs : List Char) (hc : isIdentStart c = true) (hcs : ∀ x ∈ cs, isIdentChar x = true) : IsCIdent (c :: cs) :=
  ⟨c, cs, rfl, hc, hcs⟩

theorem digit_ne (c t : Char) (hc : c.isDigit = true) (ht : t.isDigit = false) : c ≠ t := by
  rintro rfl; rw [hc] at ht; cases ht

theorem step_num_stop (acc : List Char) (t : Char) (ht : t.isDigit = false) (hx : t ≠ 'x') (hX : t ≠ 'X') (hdot : t ≠ '.') :
    step (.num acc) t = (.num (decVal acc.reverse) :: (stepIdle t).1, (stepIdle t).2) := by
  have h1 : (t == 'x') = false := by simp [hx]
  have h2 : (t == 'X') = false := by simp [hX]
  have h3 : (t == '.') = false := by simp [hdot]
  simp [step, ht, h1, h2, h3]

theorem step_num_more (acc : List Char) (c : Char) (hc : c.isDigit = true) : step (.num acc) c = ([], .num (c :: acc)) := by
  have h1 : (c == 'x') = false := by simp; exact digit_ne c 'x' hc (by decide)
  have h2 : (c == 'X') = false := by simp; exact digit_ne c 'X' hc (by decide)
  simp [step, hc, h1, h2]

theorem run_dec (n : Nat) (t : Char) (r : List Char) (ht : t.isDigit = false) (hx : t ≠ 'x') (hX : t ≠ 'X') (hdot : t ≠ '.') :
    run .idle (dec n ++ t :: r) = .num n :: run .idle (t :: r) := by
  obtain ⟨d, ds, hds⟩ := List.exists_cons_of_ne_nil (dec_ne n)
  have hd := dec_digits n
  rw [hds] at hd
  have := run_scan .num (fun l => .num (decVal l)) Char.isDigit t step_num_more (fun acc _ => step_num_stop acc t ht hx hX hdot) ds r
    (fun c hc => hd c (by simp [hc])) [d] (by simp)
  have hv := decVal_dec n
  rw [hds] at hv
  rw [hds, List.cons_append, run_idle_cons, stepIdle_digit d (hd d (by simp))]
  simp only [List.nil_append]
  rw [this]
  simp only [List.reverse_cons, List.reverse_nil, List.nil_append, List.singleton_append, hv]

theorem step_hex_stop (acc : List Char) (t : Char) (ht : (hexDigit? t).isSome = false) (hne : acc.isEmpty = false) :
    step (.hex acc) t = (.num (hexVal acc.reverse) :: (stepIdle t).1, (stepIdle t).2) := by simp [step, ht, hne]

theorem step_hex_more (acc : List Char) (c : Char) (hc : (hexDigit? c).isSome = true) : step (.hex acc) c = ([], .hex (c :: acc)) := by
  simp [step, hc]

theorem hexDigit_hexChar : ∀ a, a < 16 → hexDigit? (hexChar a) = some a := by decide

theorem run_hex2 (b : Nat) (hb : b < 256) (t : Char) (r : List Char) (ht : (hexDigit? t).isSome = false) :
    run .idle ('0' :: 'x' :: (hex2 b ++ t :: r)) = .num b :: run .idle (t :: r) := by
  have h1 := hexDigit_hexChar (b / 16 % 16) (Nat.mod_lt _ (by decide))
  have h2 := hexDigit_hexChar (b % 16) (Nat.mod_lt _ (by decide))
  have hstart : run .idle ('0' :: 'x' :: (hex2 b ++ t :: r)) = run (.hex []) (hex2 b ++ t :: r) := rfl
  have hdig : ∀ c ∈ hex2 b, (hexDigit? c).isSome = true := by
    intro c hc
    simp only [hex2, List.mem_cons, List.not_mem_nil, or_false] at hc
    rcases hc with rfl | rfl <;> simp [h1, h2]
  rw [hstart, run_scan .hex (fun l => .num (hexVal l)) (fun c => (hexDigit? c).isSome) t step_hex_more
    (fun acc hne => step_hex_stop acc t ht (by simpa [List.isEmpty_iff] using hne)) (hex2 b) r hdig [] (by simp [hex2])]
  congr 2
  simp only [hex2, List.reverse_nil, List.nil_append, L.hexVal, List.foldl_cons, List.foldl_nil, h1, h2, Option.getD_some]
  omega

theorem step_str_more (body : List Char) (c : Char) (h1 : c ≠ '"') (h2 : c ≠ '\\') : step (.str body false) c = ([], .str (c :: body) false) := by
  have e1 : (c == '"') = false := by simp [h1]
  have e2 : (c == '\\') = false := by simp [h2]
  simp [step, e1, e2]

theorem run_str_go (cs : List Char) (r : List Char) (hcs : ∀ c ∈ cs, c ≠ '"' ∧ c ≠ '\\') (body : List Char) :
    run (.str body false) (cs ++ '"' :: r) = .str (body.reverse ++ cs) :: run .idle r := by
  rw [Proofs.Scan.scan_clean (f := fun i b => run (.str b false) i)
    (fun c r b h => by rw [run_cons, step_str_more b c h.1 h.2]; rfl) hcs, run_cons]
  simp [step]

theorem run_str (cs : List Char) (r : List Char) (hcs : ∀ c ∈ cs, c ≠ '"' ∧ c ≠ '\\') :
    run .idle ('"' :: (cs ++ '"' :: r)) = .str cs :: run .idle r := by
  have hstart : run .idle ('"' :: (cs ++ '"' :: r)) = run (.str [] false) (cs ++ '"' :: r) := rfl
  rw [hstart, run_str_go cs r hcs []]
  simp

theorem run_xpm_comment (r : List Char) : run .idle ("/* XPM */".toList ++ r) = .comment " XPM ".toList :: run .idle r := rfl

theorem clean_tokens (ts : List Tok) (h : ∀ t ∈ ts, t.isComment = false ∧ t.isBad = false) :
    ts.filter (fun t => !t.isComment) = ts ∧ ts.any Tok.isBad = false :=
  ⟨List.filter_eq_self.2 (fun t ht => by rw [(h t ht).1]; rfl), List.any_eq_false.2 (fun t ht => by rw [(h t ht).2]; decide)⟩

end Proofs.RasterDocs
