/-
  C10, token level, numbers: the judge's exact decimal parser (`Spec.Vector.parseDecimal`,
  `num?`) reads back the numbers the model prints (`toString` of an `Int`, `Model.Lines.showHalf`).
-/
import Model.Lines
import Spec.Vector
import Proofs.Decimal
import Proofs.Scan

namespace Proofs.VectorAccept
open Spec.Vector Model.Lines
open Proofs.Decimal (isDigit_toDigits)

/-- half of a doubled coordinate, as exact rational -/
def half (y2 : Int) : Rat := (y2 : Rat) / 2

theorem digitsVal_toDigits (n : Nat) : digitsVal (Nat.toDigits 10 n) = n := Proofs.Decimal.foldl_toDigits n

theorem span_loop_append (p : Char → Bool) (ds rest : List Char) (hd : ∀ c ∈ ds, p c = true)
    (hr : ∀ c r, rest = c :: r → p c = false) (acc : List Char) : List.span.loop p (ds ++ rest) acc = (acc.reverse ++ ds, rest) := by
  rw [Proofs.Scan.scan_clean (f := List.span.loop p) (fun c r cur (h : p c = true) => by simp [List.span.loop, h]) hd]
  cases rest with
  | nil => simp [List.span.loop]
  | cons c r => simp [List.span.loop, hr c r rfl]

theorem spanDigits_append (ds rest : List Char) (hd : ∀ c ∈ ds, c.isDigit = true)
    (hr : ∀ c r, rest = c :: r → c.isDigit = false) : spanDigits (ds ++ rest) = (ds, rest) := by
  unfold spanDigits List.span
  simpa using span_loop_append Char.isDigit ds rest hd hr []

theorem spanDigits_all (ds : List Char) (hd : ∀ c ∈ ds, c.isDigit = true) : spanDigits ds = (ds, []) := by
  have := spanDigits_append ds [] hd (fun _ _ h => by cases h)
  simpa using this

theorem digitsVal_snoc5 (ds : List Char) : digitsVal (ds ++ ['5']) = digitsVal ds * 10 + 5 := by
  simp [digitsVal, List.foldl_append]

theorem parse_digits (ds : List Char) (hne : ds ≠ []) (hd : ∀ c ∈ ds, c.isDigit = true) :
    parseDecPrefix ds = some ((((digitsVal ds : Nat) : Int), 1), []) := by
  cases ds with
  | nil => exact absurd rfl hne
  | cons d r =>
    have hd0 : d.isDigit = true := hd d (by simp)
    have h1 : d ≠ '-' := by intro h; subst h; simp at hd0
    have h2 : d ≠ '+' := by intro h; subst h; simp at hd0
    simp [parseDecPrefix, h1, h2, spanDigits_all (d :: r) hd]

theorem parse_neg (ds rest : List Char) (hne : ds ≠ []) (hd : ∀ c ∈ ds, c.isDigit = true) :
    parseDecPrefix ('-' :: (ds ++ rest)) = (parseDecPrefix (ds ++ rest)).map (fun p => ((-p.1.1, p.1.2), p.2)) := by
  cases ds with
  | nil => exact absurd rfl hne
  | cons d r =>
    have hd0 : d.isDigit = true := hd d (by simp)
    have h1 : d ≠ '-' := by intro h; subst h; simp at hd0
    have h2 : d ≠ '+' := by intro h; subst h; simp at hd0
    simp [parseDecPrefix, h1, h2]
    rw [apply_ite (Option.map _)]
    rfl

theorem parse_neg_digits (ds : List Char) (hne : ds ≠ []) (hd : ∀ c ∈ ds, c.isDigit = true) :
    parseDecPrefix ('-' :: ds) = some ((-((digitsVal ds : Nat) : Int), 1), []) := by
  have := parse_neg ds [] hne hd
  rwa [List.append_nil, parse_digits ds hne hd] at this

theorem parse_digits_half (ds : List Char) (hne : ds ≠ []) (hd : ∀ c ∈ ds, c.isDigit = true) :
    parseDecPrefix (ds ++ ['.', '5']) = some ((((digitsVal ds * 10 + 5 : Nat) : Int), 10), []) := by
  cases ds with
  | nil => exact absurd rfl hne
  | cons d r =>
    have hd0 : d.isDigit = true := hd d (by simp)
    have h1 : d ≠ '-' := by intro h; subst h; simp at hd0
    have h2 : d ≠ '+' := by intro h; subst h; simp at hd0
    have hs := spanDigits_append (d :: r) ['.', '5'] hd (by intro c r h; cases h; decide)
    have hs5 := spanDigits_all ['5'] (by decide)
    simp only [List.cons_append] at hs
    simp [parseDecPrefix, h1, h2, hs, hs5]
    have := digitsVal_snoc5 (d :: r)
    simp only [List.cons_append] at this
    rw [this]; simp

theorem parse_neg_digits_half (ds : List Char) (hne : ds ≠ []) (hd : ∀ c ∈ ds, c.isDigit = true) :
    parseDecPrefix ('-' :: (ds ++ ['.', '5'])) = some ((-((digitsVal ds * 10 + 5 : Nat) : Int), 10), []) := by
  rw [parse_neg ds _ hne hd, parse_digits_half ds hne hd]; rfl

theorem toList_int (k : Int) : (toString k).toList = if 0 ≤ k then Nat.toDigits 10 k.toNat else '-' :: Nat.toDigits 10 (-k).toNat := by
  rw [Int.toString_eq_repr, Int.repr_eq_if]
  split <;> simp

theorem parseDecimal_int (k : Int) : parseDecimal (toString k) = some (k, 1) := by
  unfold parseDecimal
  rw [toList_int]
  by_cases h : 0 ≤ k
  · rw [if_pos h, parse_digits _ Nat.toDigits_ne_nil (isDigit_toDigits _), digitsVal_toDigits]
    simp; omega
  · rw [if_neg h, parse_neg_digits _ Nat.toDigits_ne_nil (isDigit_toDigits _), digitsVal_toDigits]
    simp; omega

theorem num_int (k : Int) : num? (toString k) = some (k : Rat) := by
  unfold num?
  rw [parseDecimal_int]
  simp [Rat.mkRat_eq_div]
  grind

theorem toList_showHalf_odd (y2 : Int) (h : y2 % 2 ≠ 0) :
    (showHalf y2).toList = (if y2 < 0 then ['-'] else []) ++ (Nat.toDigits 10 (y2.natAbs / 2) ++ ['.', '5']) := by
  unfold showHalf
  have : (y2 % 2 == 0) = false := by simp [h]
  rw [this]
  by_cases hn : y2 < 0 <;> simp [hn, String.toList_append]

theorem num_showHalf (y2 : Int) : num? (showHalf y2) = some (half y2) := by
  by_cases h : y2 % 2 = 0
  · have : showHalf y2 = toString (y2 / 2) := by simp [showHalf, h]
    rw [this, num_int]
    unfold half
    have e : y2 = 2 * (y2 / 2) := by omega
    have : (y2 : Rat) = 2 * ((y2 / 2 : Int) : Rat) := by
      conv => lhs; rw [e]
      simp
    rw [this]; grind
  · unfold num? parseDecimal
    rw [toList_showHalf_odd y2 h]
    by_cases hn : y2 < 0
    · simp only [hn, if_true, List.singleton_append]
      rw [parse_neg_digits_half _ Nat.toDigits_ne_nil (isDigit_toDigits _), digitsVal_toDigits]
      simp [Rat.mkRat_eq_div]
      have e : y2 = -(2 * ((y2.natAbs : Int) / 2) + 1) := by omega
      generalize ((y2.natAbs : Int) / 2) = q at e ⊢
      subst e
      unfold half
      simp only [Rat.intCast_neg, Rat.intCast_add, Rat.intCast_mul]
      grind
    · simp only [hn, if_false, List.nil_append]
      rw [parse_digits_half _ Nat.toDigits_ne_nil (isDigit_toDigits _), digitsVal_toDigits]
      simp [Rat.mkRat_eq_div]
      have e : y2 = (2 * ((y2.natAbs : Int) / 2) + 1) := by omega
      generalize ((y2.natAbs : Int) / 2) = q at e ⊢
      subst e
      unfold half
      simp only [Rat.intCast_add, Rat.intCast_mul]
      grind

theorem noAlpha_of_digit (c : Char) (h : c.isDigit = true) : c.isAlpha = false := by
  simp only [Char.isDigit, Char.isAlpha, Char.isUpper, Char.isLower, Bool.and_eq_true, Bool.or_eq_false_iff, Bool.and_eq_false_iff, decide_eq_true_eq, decide_eq_false_iff_not, UInt32.le_iff_toNat_le, ge_iff_le] at *
  have e0 : '0'.val.toNat = 48 := rfl
  have e9 : '9'.val.toNat = 57 := rfl
  have eA : 'A'.val.toNat = 65 := rfl
  have eZ : 'Z'.val.toNat = 90 := rfl
  have ea : 'a'.val.toNat = 97 := rfl
  have ez : 'z'.val.toNat = 122 := rfl
  omega

theorem noAlpha_int (k : Int) : ∀ c ∈ (toString k).toList, c.isAlpha = false := by
  intro c hc
  rw [toList_int] at hc
  split at hc
  · exact noAlpha_of_digit c (isDigit_toDigits _ c hc)
  · rcases List.mem_cons.mp hc with rfl | hc
    · decide
    · exact noAlpha_of_digit c (isDigit_toDigits _ c hc)

theorem noAlpha_showHalf (y2 : Int) : ∀ c ∈ (showHalf y2).toList, c.isAlpha = false := by
  intro c hc
  by_cases h : y2 % 2 = 0
  · have : showHalf y2 = toString (y2 / 2) := by simp [showHalf, h]
    rw [this] at hc
    exact noAlpha_int _ c hc
  · rw [toList_showHalf_odd y2 h] at hc
    simp only [List.mem_append, List.mem_cons, List.mem_nil_iff, or_false] at hc
    rcases hc with hc | hc | rfl | rfl
    · split at hc
      · simp at hc; subst hc; decide
      · simp at hc
    · exact noAlpha_of_digit c (isDigit_toDigits _ c hc)
    · decide
    · decide

end Proofs.VectorAccept
