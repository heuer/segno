/-
  The container level of the PNG file the model writes: the reference reader `Spec.L.readPngContainer` (signature, chunk
  walk with every CRC, chunk order, IHDR / PLTE / tRNS / pHYs contents) accepts `Model.RasterDocs.pngFile o ppm comp` for
  every well-formed set of chunk contents `o` and returns the IHDR fields, the resolution, the IDAT payload and a colour table.
-/
import Proofs.RasterDocsPng

namespace Proofs.RasterDocs

open Model Model.RasterDocs Spec

/-- what the container reader asks of the chunk names: IEND last, IHDR and IEND once, no unknown critical chunk, the IDAT
    chunks in one run, PLTE / tRNS / pHYs at most once and in front of it, tRNS not before PLTE -/
structure NamesOK (ns : List (List Nat)) (hasPlte : Bool) : Prop where
  last : ns.getLast? = some L.nIEND
  oneIHDR : (ns.filter (fun x => x == L.nIHDR)).length = 1
  oneIEND : (ns.filter (fun x => x == L.nIEND)).length = 1
  known : (ns.any fun n => ![L.nIHDR, L.nPLTE, L.nIDAT, L.nIEND].contains n && (decide (65 ≤ n.headD 97) && decide (n.headD 97 ≤ 90))) = false
  idat : decide (List.idxOf L.nIDAT ns ≥ ns.length) = false
  run : ((List.take (List.filter (fun x => x == L.nIDAT) ns).length (List.drop (List.idxOf L.nIDAT ns) ns)).any fun x => x != L.nIDAT) = false
  once : ([L.nPLTE, L.ntRNS, L.npHYs].any fun n => decide ((List.filter (fun x => x == n) ns).length > 1)) = false
  before : ([L.nPLTE, L.ntRNS, L.npHYs].any fun n =>
      decide (List.idxOf n ns < ns.length) && decide (List.idxOf n ns > List.idxOf L.nIDAT ns)) = false
  order : (hasPlte && decide (List.idxOf L.ntRNS ns < List.idxOf L.nPLTE ns)) = false

/-- the names of the chunks the model writes: pHYs, PLTE, tRNS each present or not -/
def fileNames (b1 b2 b3 : Bool) : List (List Nat) :=
  L.nIHDR :: ((if b1 then [L.npHYs] else []) ++ ((if b2 then [L.nPLTE] else []) ++ ((if b3 then [L.ntRNS] else []) ++ [L.nIDAT, L.nIEND])))

/-- the names are closed terms (the chunk data are variables), so these eight cases are decided -/
theorem fileNames_ok (b1 b2 b3 : Bool) : NamesOK (fileNames b1 b2 b3) b2 := by
  cases b1 <;> cases b2 <;> cases b3 <;> constructor <;> decide +kernel

/-- the names of a chunk list are in order, and what the container reader finds in it: IHDR first, IEND empty, the contents
    of PLTE / tRNS / pHYs, the IDAT payload -/
structure Layout (cs : List L.ChunkL) (ihdr : List Nat) (phys plte trns : Option (List Nat)) (comp : List Nat) : Prop where
  names : NamesOK (cs.map (fun x => x.name)) plte.isSome
  head : cs.head? = some ⟨L.nIHDR, ihdr⟩
  lastEmpty : cs.getLast?.map (fun x => x.data.length) = some 0
  findPlte : (cs.find? (fun x => x.name == L.nPLTE)).map (fun x => x.data) = plte
  findTrns : (cs.find? (fun x => x.name == L.ntRNS)).map (fun x => x.data) = trns
  findPhys : (cs.find? (fun x => x.name == L.npHYs)).map (fun x => x.data) = phys
  payload : (cs.filter (fun x => x.name == L.nIDAT)).flatMap (fun x => x.data) = comp

theorem layout_of (ihdr pd pl tr comp : List Nat) (b1 b2 b3 : Bool) :
    Layout ({ name := L.nIHDR, data := ihdr } :: ((if b1 then [{ name := L.npHYs, data := pd }] else [])
        ++ ((if b2 then [{ name := L.nPLTE, data := pl }] else [])
            ++ ((if b3 then [{ name := L.ntRNS, data := tr }] else [])
                ++ [{ name := L.nIDAT, data := comp }, { name := L.nIEND, data := [] }]))))
      ihdr (if b1 then some pd else none) (if b2 then some pl else none) (if b3 then some tr else none) comp := by
  have names := fileNames_ok b1 b2 b3
  cases b1 <;> cases b2 <;> cases b3 <;> exact ⟨names, rfl, rfl, rfl, rfl, rfl, List.append_nil _⟩

/-- what the container reader demands of the chunk contents -/
structure OutOK (o : PngOut) : Prop where
  wpos : 0 < o.width
  hpos : 0 < o.height
  wlt : o.width < 4294967296
  hlt : o.height < 4294967296
  depth : o.depth = 1 ∨ o.depth = 2 ∨ o.depth = 4
  ctype : o.ctype = 0 ∨ o.ctype = 3
  grey : o.ctype = 0 → o.plte = [] ∧ (o.trns = [] ∨ ∃ v, o.trns = [0, v] ∧ v < 2 ^ o.depth)
  indexed : o.ctype = 3 → ∃ n, 0 < n ∧ o.plte.length = 3 * n ∧ n ≤ 2 ^ o.depth ∧ o.trns.length ≤ n

theorem drop4_be32 (n : Nat) (rest : List Nat) : List.drop 4 (RasterDocs.be32 n ++ rest) = rest := rfl

theorem ihdr_8 (W H d c : Nat) (h : 8 < (RasterDocs.be32 W ++ (RasterDocs.be32 H ++ [d, c, 0, 0, 0])).length) :
    (RasterDocs.be32 W ++ (RasterDocs.be32 H ++ [d, c, 0, 0, 0]))[8]'h = d := rfl
theorem ihdr_9 (W H d c : Nat) (h : 9 < (RasterDocs.be32 W ++ (RasterDocs.be32 H ++ [d, c, 0, 0, 0])).length) :
    (RasterDocs.be32 W ++ (RasterDocs.be32 H ++ [d, c, 0, 0, 0]))[9]'h = c := rfl
theorem ihdr_10 (W H d c : Nat) (h : 10 < (RasterDocs.be32 W ++ (RasterDocs.be32 H ++ [d, c, 0, 0, 0])).length) :
    (RasterDocs.be32 W ++ (RasterDocs.be32 H ++ [d, c, 0, 0, 0]))[10]'h = 0 := rfl
theorem ihdr_11 (W H d c : Nat) (h : 11 < (RasterDocs.be32 W ++ (RasterDocs.be32 H ++ [d, c, 0, 0, 0])).length) :
    (RasterDocs.be32 W ++ (RasterDocs.be32 H ++ [d, c, 0, 0, 0]))[11]'h = 0 := rfl
theorem ihdr_12 (W H d c : Nat) (h : 12 < (RasterDocs.be32 W ++ (RasterDocs.be32 H ++ [d, c, 0, 0, 0])).length) :
    (RasterDocs.be32 W ++ (RasterDocs.be32 H ++ [d, c, 0, 0, 0]))[12]'h = 0 := rfl

theorem phys_8 (ppm : Nat) (h : 8 < (RasterDocs.be32 ppm ++ (RasterDocs.be32 ppm ++ [1])).length) :
    (RasterDocs.be32 ppm ++ (RasterDocs.be32 ppm ++ [1]))[8]'h = 1 := rfl

/-- the colour table the container reader builds from PLTE / tRNS contents -/
def tableOf (o : PngOut) : List RGBA :=
  (L.chunks 3 (o.plte.length / 3) o.plte).zipIdx.map
    (fun e => (⟨e.1.getD 0 0, e.1.getD 1 0, e.1.getD 2 0, (if o.ctype = 0 then [] else o.trns).getD e.2 255⟩ : RGBA))

/-- what the container reader returns for the file the model writes -/
def containerOf (o : PngOut) (ppm : Nat) (comp : List Nat) : L.PngL :=
  { hdr := { width := o.width, height := o.height, depth := o.depth, ctype := o.ctype },
    plte := tableOf o,
    greyTrans := if o.ctype = 0 ∧ o.trns ≠ [] then some (o.trns.getD 0 0 * 256 + o.trns.getD 1 0) else none,
    phys := if ppm = 0 then none else some (ppm, ppm, 1),
    comp := comp }

theorem fileChunks_layout (o : PngOut) (ppm : Nat) (comp : List Nat) :
    Layout (fileChunks o ppm comp) (be32 o.width ++ be32 o.height ++ [o.depth, o.ctype, 0, 0, 0])
      (if ppm != 0 then some (be32 ppm ++ be32 ppm ++ [1]) else none) (if o.ctype != 0 then some o.plte else none)
      (if !o.trns.isEmpty then some o.trns else none) comp :=
  layout_of _ _ _ _ _ _ _ _

theorem ihdr_fields (W H d c : Nat) (hW : W < 4294967296) (hH : H < 4294967296) (ihdr : List Nat)
    (h : ihdr = be32 W ++ be32 H ++ [d, c, 0, 0, 0]) :
    ihdr.length = 13 ∧ L.be32 ihdr = W ∧ L.be32 (ihdr.drop 4) = H ∧ ihdr.getD 8 0 = d ∧ ihdr.getD 9 0 = c
    ∧ ihdr.getD 10 0 = 0 ∧ ihdr.getD 11 0 = 0 ∧ ihdr.getD 12 0 = 0 := by
  subst h
  refine ⟨rfl, ?_, be32_read H hH _, rfl, rfl, rfl, rfl, rfl⟩
  rw [List.append_assoc]; exact be32_read W hW _

attribute [local simp] containerOf tableOf be32_length drop4_be32 phys_8

theorem container_accepts (o : PngOut) (ok : OutOK o) (ppm : Nat) (hppm : ppm < 4294967296) (comp : List Nat) (hcomp : comp.length < 4294967296) :
    L.readPngContainer (pngFile o ppm comp) = .ok (containerOf o ppm comp) := by
  have h16 : (2 : Nat) ^ o.depth ≤ 16 := by rcases ok.depth with h | h | h <;> rw [h] <;> decide
  have hplte : o.plte.length < 4294967296 := by
    rcases ok.ctype with hc | hc
    · rw [(ok.grey hc).1]; decide
    · obtain ⟨n, _, hl, hn, _⟩ := ok.indexed hc; omega
  have htrns : o.trns.length < 4294967296 := by
    rcases ok.ctype with hc | hc
    · rcases (ok.grey hc).2 with h | ⟨v, h, _⟩ <;> rw [h] <;> simp
    · obtain ⟨n, _, hl, hn, ht⟩ := ok.indexed hc; omega
  obtain ⟨hsig, hch⟩ := png_file_chunks o ppm comp hplte htrns hcomp
  have lay := fileChunks_layout o ppm comp
  generalize fileChunks o ppm comp = cs at hch lay
  generalize hi : be32 o.width ++ be32 o.height ++ [o.depth, o.ctype, 0, 0, 0] = ihdr at lay
  obtain ⟨i13, iW, iH, i8, i9, i10, i11, i12⟩ := ihdr_fields o.width o.height o.depth o.ctype ok.wlt ok.hlt ihdr hi.symm
  have hW0 : (o.width == 0) = false := by have := ok.wpos; simp; omega
  have hH0 : (o.height == 0) = false := by have := ok.hpos; simp; omega
  have hdepth : [1, 2, 4, 8].contains o.depth = true := by rcases ok.depth with h | h | h <;> rw [h] <;> rfl
  have hct : (o.ctype == 0 || o.ctype == 3) = true := by rcases ok.ctype with h | h <;> rw [h] <;> rfl
  have nm := lay.names
  have hidat := of_decide_eq_false nm.idat
  have hphys : ∀ rest : List Nat, L.be32 (be32 ppm ++ rest) = ppm := fun rest => be32_read ppm hppm rest
  unfold L.readPngContainer
  simp only [hsig, hch, bne_self_eq_false, Bool.false_eq_true, if_false, lay.head, nm.last, lay.lastEmpty, nm.oneIHDR, nm.oneIEND,
    nm.known, hidat, nm.run, nm.once, nm.before, lay.findPlte, lay.findTrns, lay.findPhys, lay.payload,
    i13, iW, iH, i8, i9, i10, i11, i12, hW0, hH0, hdepth, hct, Bool.or_self, Bool.not_true]
  -- what is left are the checks of the PLTE, tRNS and pHYs contents, and the record returned
  rcases ok.ctype with hc | hc
  · -- greyscale: no PLTE; tRNS absent or one grey value below 2 ^ depth
    obtain ⟨hp, ht⟩ := ok.grey hc
    rcases ht with ht | ⟨v, ht, hv⟩
    · by_cases hp0 : ppm = 0 <;> simp [hc, hp, ht, hp0, L.chunks, hphys]
    · have hv' : ¬ 2 ^ o.depth ≤ v := by omega
      by_cases hp0 : ppm = 0 <;> simp [hc, hp, ht, hp0, L.chunks, hv', hphys]
  · -- indexed colour: PLTE holds n ≥ 1 entries, n ≤ 2 ^ depth; tRNS at most n values, and behind PLTE
    obtain ⟨n, hn, hl, hnd, htl⟩ := ok.indexed hc
    have hdiv : o.plte.length / 3 = n := by omega
    have hmod : o.plte.length % 3 = 0 := by omega
    have hne : o.plte ≠ [] := by intro h; rw [h] at hl; simp at hl; omega
    have h1 : ¬ n < o.trns.length := by omega
    have h2 : ¬ 2 ^ o.depth < n := by omega
    have hcl := chunks_length 3 n o.plte
    have hcne : L.chunks 3 n o.plte ≠ [] := by intro h; rw [h] at hcl; simp at hcl; omega
    have hord : ¬ List.idxOf L.ntRNS (cs.map (fun x => x.name)) < List.idxOf L.nPLTE (cs.map (fun x => x.name)) := by
      simpa [hc] using nm.order
    by_cases ht : o.trns = []
    · by_cases hp0 : ppm = 0 <;> simp [hc, ht, hp0, hne, hmod, hdiv, hcl, hcne, h2, hphys]
    · have hte : o.trns.isEmpty = false := by simpa [List.isEmpty_iff] using ht
      by_cases hp0 : ppm = 0 <;> simp [hc, ht, hte, hp0, hne, hmod, hdiv, hcl, hcne, h1, h2, hord, hphys]

end Proofs.RasterDocs
