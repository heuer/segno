/-
  Proofs.PngStream — the PNG scanline stream of the model (`Model.pngStream`) split into scanlines
  (`Proofs.Png.pngLines`), and the reference reconstruction (filter types 0 / 2) + unpacking of these
  scanlines gives the colour-index picture (`Proofs.Png.idxPicture`).
-/
import Proofs.PngDefs
import Proofs.Raster
import Props.C09

namespace Proofs.Png

open Model Spec Proofs.Raster

/-- a depth that divides 8 wastes no bits inside a byte: `n` samples fill ⌈n·d / 8⌉ bytes -/
theorem groups_eq_bytes (d n : Nat) (hd : d ∣ 8) : (n + 8 / d - 1) / (8 / d) = (n * d + 7) / 8 := by
  obtain ⟨k, hk⟩ := hd
  have hd0 : 0 < d := Nat.pos_of_ne_zero (fun h => by rw [h, Nat.zero_mul] at hk; cases hk)
  cases k with
  | zero => cases hk
  | succ k =>
    have h8 : 8 / d = k + 1 := by rw [hk]; exact Nat.mul_div_cancel_left _ hd0
    -- 7 = d·k + (d − 1)
    have hsplit : n * d + 7 = d * (n + k) + (d - 1) := by
      rw [Nat.mul_succ] at hk
      rw [Nat.mul_add, Nat.mul_comm d n]; omega
    rw [h8, hsplit]
    show (n + k) / (k + 1) = _
    rw [show (d * (n + k) + (d - 1)) / 8 = (d * (n + k) + (d - 1)) / d / (k + 1) by rw [Nat.div_div_eq_div_mul, ← hk],
      Nat.mul_add_div hd0, Nat.div_eq_of_lt (by omega : d - 1 < d)]
    rfl

theorem packRow_bytes (d : Nat) (hd : d ∣ 8) (row : List Nat) : (packRow d row).length = (row.length * d + 7) / 8 := by
  rw [packRow_length, groups_eq_bytes d _ hd]

/-- the bit depths `write_png` chooses -/
theorem depth_dvd {d : Nat} (hd : d = 1 ∨ d = 2 ∨ d = 4) : d ∣ 8 := by
  rcases hd with rfl | rfl | rfl <;> decide

theorem sample_fits {d : Nat} (hd : d ∣ 8) : 0 < 8 / d :=
  Nat.div_pos (Nat.le_of_dvd (by decide) hd) (Nat.pos_of_dvd_of_pos hd (by decide))

theorem foldBits_zeros (d k : Nat) : foldBits d (List.replicate k 0) = 0 := by
  rw [foldBits_eq]
  induction k with
  | zero => rfl
  | succ k ih => rw [List.replicate_succ, List.foldl_cons, Nat.zero_shiftLeft]; exact ih

theorem mem_packRow (d : Nat) (row : List Nat) (v : Nat) (hv : v ∈ packRow d row) :
    ∃ g, v = foldBits d (groupAt (8 / d) row g) := by
  unfold packRow groupsOf at hv
  simp only [List.map_map, List.mem_map, List.mem_range, Function.comp] at hv
  obtain ⟨g, _, rfl⟩ := hv
  exact ⟨g, rfl⟩

theorem packRow_lt (d : Nat) (row : List Nat) (hrow : ∀ v ∈ row, v < 2 ^ d) :
    ∀ v ∈ packRow d row, v < 256 := by
  intro v hv
  obtain ⟨g, rfl⟩ := mem_packRow d row v hv
  have h := foldBits_lt d _ (groupAt_bound (2 ^ d) (8 / d) (Nat.two_pow_pos _) row g hrow)
  rw [groupAt_length] at h
  exact Nat.lt_of_lt_of_le h (Nat.pow_le_pow_right (by decide) (Nat.mul_div_le 8 d))

theorem groupAt_zeros (k n g : Nat) : groupAt k (List.replicate n 0) g = List.replicate k 0 := by
  simp only [groupAt, List.drop_replicate, List.take_replicate, List.length_replicate, List.replicate_append_replicate]
  congr 1
  omega

theorem packRow_zeros (d n : Nat) : packRow d (List.replicate n 0) = List.replicate ((n + 8 / d - 1) / (8 / d)) 0 := by
  rw [List.eq_replicate_iff]
  refine ⟨by rw [packRow_length, List.length_replicate], ?_⟩
  intro v hv
  obtain ⟨g, rfl⟩ := mem_packRow d _ v hv
  rw [groupAt_zeros, foldBits_zeros]

theorem flat_append (l1 l2 : List Line) : flat (l1 ++ l2) = flat l1 ++ flat l2 := by
  simp [flat, List.flatMap_append]

theorem flat_replicate (n : Nat) (l : Line) : flat (List.replicate n l) = (List.replicate n (l.1 :: l.2)).flatten := by
  simp [flat, List.flatMap_replicate]

theorem flat_rowLines (d s b qz width : Nat) (row : List Nat) :
    flat (rowLines d s b qz width row)
      = scanline d 0 (fullRow s b qz row) ++ (List.replicate (s - 1) (scanline d 2 (List.replicate width 0))).flatten := by
  unfold rowLines
  show flat ([(0, packRow d (fullRow s b qz row))] ++ _) = _
  rw [flat_append, flat_replicate]
  simp [flat, scanline, upLine]

theorem pngStream_eq_flat (idx : List (List Nat)) (w d s b qz : Nat) :
    pngStream idx w d s b qz = flat (pngLines idx w d s b qz) := by
  unfold pngStream pngLines
  simp only [flat_append, flat_replicate, borderLine]
  have hflat : flat (idx.flatMap (rowLines d s b qz ((w + 2 * b) * s)))
      = idx.flatMap (fun row => flat (rowLines d s b qz ((w + 2 * b) * s) row)) := by
    unfold flat; rw [List.flatMap_assoc]
  rw [hflat]
  simp only [flat_rowLines]
  have hs : (if s > 1 then (List.replicate (s - 1) (scanline d 2 (List.replicate ((w + 2 * b) * s) 0))).flatten else [])
      = (List.replicate (s - 1) (scanline d 2 (List.replicate ((w + 2 * b) * s) 0))).flatten := by
    by_cases h : s > 1
    · simp [h]
    · have : s - 1 = 0 := by omega
      simp [h, this]
  rw [hs]
  by_cases hb : b > 0
  · simp only [hb, if_true, scanline, fullRow]
  · have hb0 : b = 0 := by omega
    subst hb0
    simp [scanline, fullRow]

theorem rowLines_length (d s b qz width : Nat) (row : List Nat) (hs : 0 < s) :
    (rowLines d s b qz width row).length = s := by
  simp [rowLines]; omega

theorem pngLines_length (idx : List (List Nat)) (w d s b qz : Nat) (hs : 0 < s) :
    (pngLines idx w d s b qz).length = (idx.length + 2 * b) * s := by
  unfold pngLines
  simp only [List.length_append, List.length_replicate,
    length_flatMap_const _ s idx (fun r _ => rowLines_length d s b qz _ r hs)]
  rw [Nat.add_mul, Nat.mul_assoc, Nat.two_mul, Nat.mul_comm s]
  omega

theorem scaleRow_length (s : Nat) (row : List Nat) : (scaleRow s row).length = row.length * s := by
  rw [Nat.mul_comm]
  exact length_flatMap_const _ s row (fun _ _ => List.length_replicate)

theorem fullRow_length (s b qz : Nat) (row : List Nat) : (fullRow s b qz row).length = (row.length + 2 * b) * s := by
  unfold fullRow
  simp only [List.length_append, List.length_replicate, scaleRow_length]
  rw [Nat.add_mul, Nat.mul_assoc, Nat.two_mul]
  omega

/-- the three kinds of scanline: quiet zone, a module row, "same as above" -/
theorem mem_pngLines {idx : List (List Nat)} {w d s b qz : Nat} {l : Line} (hl : l ∈ pngLines idx w d s b qz) :
    l = borderLine d ((w + 2 * b) * s) qz ∨ (∃ row ∈ idx, l = (0, packRow d (fullRow s b qz row)))
      ∨ l = upLine d ((w + 2 * b) * s) := by
  unfold pngLines at hl
  simp only [List.mem_append, List.mem_replicate, List.mem_flatMap] at hl
  rcases hl with (⟨_, rfl⟩ | ⟨row, hrow, hl⟩) | ⟨_, rfl⟩
  · exact .inl rfl
  · unfold rowLines at hl
    simp only [List.mem_cons, List.mem_replicate] at hl
    rcases hl with rfl | ⟨_, rfl⟩
    · exact .inr (.inl ⟨row, hrow, rfl⟩)
    · exact .inr (.inr rfl)
  · exact .inl rfl

theorem pngLines_line (idx : List (List Nat)) (w d s b qz : Nat) (hd : d ∣ 8)
    (hrows : ∀ r ∈ idx, r.length = w) :
    ∀ l ∈ pngLines idx w d s b qz, (l.1 = 0 ∨ l.1 = 2) ∧ l.2.length = ((w + 2 * b) * s * d + 7) / 8 := by
  intro l hl
  have hlen : ∀ row : List Nat, row.length = (w + 2 * b) * s → (packRow d row).length = ((w + 2 * b) * s * d + 7) / 8 :=
    fun row h => by rw [packRow_bytes d hd, h]
  obtain rfl | ⟨row, hrow, rfl⟩ | rfl := mem_pngLines hl
  · exact ⟨Or.inl rfl, hlen _ List.length_replicate⟩
  · exact ⟨Or.inl rfl, hlen _ (by rw [fullRow_length, hrows row hrow])⟩
  · exact ⟨Or.inr rfl, hlen _ List.length_replicate⟩

theorem recon_cons (prev : List Nat) (ft : Nat) (raw : List Nat) (rest : List Line) :
    recon prev ((ft, raw) :: rest)
      = (if ft == 2 then unfilterUp raw prev else raw) :: recon (if ft == 2 then unfilterUp raw prev else raw) rest := rfl

theorem recon_none (prev raw : List Nat) (rest : List Line) : recon prev ((0, raw) :: rest) = raw :: recon raw rest := rfl

theorem recon_up (prev raw : List Nat) (rest : List Line) :
    recon prev ((2, raw) :: rest) = unfilterUp raw prev :: recon (unfilterUp raw prev) rest := rfl

theorem recon_upLines (P : List Nat) (hP : ∀ v ∈ P, v < 256) (n : Nat) (rest : List Line) :
    recon P (List.replicate n (2, List.replicate P.length 0) ++ rest) = List.replicate n P ++ recon P rest := by
  induction n with
  | zero => rfl
  | succ n ih => rw [List.replicate_succ, List.cons_append, recon_up, Props.C09.up_filter_zero_row P hP, ih]; rfl

theorem mem_scaleRow (s : Nat) (row : List Nat) (v : Nat) (h : v ∈ scaleRow s row) : v ∈ row := by
  unfold scaleRow at h
  simp only [List.mem_flatMap, List.mem_replicate] at h
  obtain ⟨a, ha, _, rfl⟩ := h
  exact ha

theorem fullRow_bound (s b qz bound : Nat) (hqz : qz < bound) (row : List Nat) (hrow : ∀ v ∈ row, v < bound) :
    ∀ v ∈ fullRow s b qz row, v < bound := by
  intro v hv
  unfold fullRow at hv
  simp only [List.mem_append, List.mem_replicate] at hv
  rcases hv with (⟨_, rfl⟩ | hv) | ⟨_, rfl⟩
  · exact hqz
  · exact hrow v (mem_scaleRow s row v hv)
  · exact hqz

theorem recon_rowLines (d s b qz w : Nat) (hs : 0 < s) (hqz : qz < 2 ^ d)
    (row : List Nat) (hlen : row.length = w) (hrow : ∀ v ∈ row, v < 2 ^ d) (prev : List Nat) (rest : List Line) :
    recon prev (rowLines d s b qz ((w + 2 * b) * s) row ++ rest)
      = List.replicate s (packRow d (fullRow s b qz row)) ++ recon (packRow d (fullRow s b qz row)) rest := by
  have hup : upLine d ((w + 2 * b) * s) = (2, List.replicate (packRow d (fullRow s b qz row)).length 0) := by
    rw [upLine, packRow_zeros, packRow_length, fullRow_length, hlen]
  rw [rowLines, List.cons_append, recon_none, hup,
    recon_upLines _ (packRow_lt d _ (fullRow_bound s b qz _ hqz row hrow)), ← List.cons_append, ← List.replicate_succ,
    Nat.sub_add_cancel hs]

theorem recon_border (P : List Nat) (n : Nat) (rest : List Line) (R : List (List Nat))
    (hrest : ∀ prev, recon prev rest = R) (prev : List Nat) :
    recon prev (List.replicate n ((0, P) : Line) ++ rest) = List.replicate n P ++ R := by
  induction n generalizing prev with
  | zero => simpa using hrest prev
  | succ n ih => rw [List.replicate_succ, List.cons_append, recon_none, ih]; rfl

theorem recon_modules (d s b qz w : Nat) (hs : 0 < s) (hqz : qz < 2 ^ d)
    (idx : List (List Nat)) (hrows : ∀ r ∈ idx, r.length = w ∧ ∀ v ∈ r, v < 2 ^ d)
    (rest : List Line) (R : List (List Nat)) (hrest : ∀ prev, recon prev rest = R) (prev : List Nat) :
    recon prev (idx.flatMap (rowLines d s b qz ((w + 2 * b) * s)) ++ rest)
      = (idx.map (fun row => packRow d (fullRow s b qz row))).flatMap (List.replicate s) ++ R := by
  induction idx generalizing prev with
  | nil => simpa using hrest prev
  | cons r idx ih =>
    have hr := hrows r (by simp)
    rw [List.flatMap_cons, List.append_assoc, recon_rowLines d s b qz w hs hqz r hr.1 hr.2,
      ih (fun r' h' => hrows r' (List.mem_cons_of_mem _ h'))]
    simp

/-- no condition on the depth: the filter works on bytes -/
theorem recon_scanlines (idx : List (List Nat)) (w d s b qz : Nat) (hs : 0 < s) (hqz : qz < 2 ^ d)
    (hrows : ∀ r ∈ idx, r.length = w ∧ ∀ v ∈ r, v < 2 ^ d) (prev : List Nat) :
    recon prev (pngLines idx w d s b qz)
      = ((List.replicate b (List.replicate ((w + 2 * b) * s) qz) ++ idx.map (fullRow s b qz)
          ++ List.replicate b (List.replicate ((w + 2 * b) * s) qz)).map (packRow d)).flatMap (List.replicate s) := by
  unfold pngLines borderLine
  have hlast : ∀ prev, recon prev (List.replicate (b * s) ((0, packRow d (List.replicate ((w + 2 * b) * s) qz)) : Line))
      = List.replicate (b * s) (packRow d (List.replicate ((w + 2 * b) * s) qz)) := by
    intro prev
    have := recon_border (packRow d (List.replicate ((w + 2 * b) * s) qz)) (b * s) [] [] (fun _ => rfl) prev
    simpa using this
  show recon prev (_ ++ _ ++ _) = _
  rw [List.append_assoc, recon_border _ _ _ _ (fun prev => recon_modules d s b qz w hs hqz idx hrows _ _ hlast prev)]
  simp [List.flatMap_append, List.flatMap_replicate, List.flatten_replicate_replicate, List.map_append, Function.comp_def]

theorem map_range_pad {α : Type} (f : Nat → α) (q : α) (l : List α) (b : Nat)
    (hout : ∀ i, ¬ (b ≤ i ∧ i < b + l.length) → f i = q) (hin : ∀ i (h : i < l.length), f (b + i) = l[i]) :
    (List.range (l.length + 2 * b)).map f = List.replicate b q ++ l ++ List.replicate b q := by
  have hq : ∀ (g : Nat → Nat), (∀ i, i < b → ¬ (b ≤ g i ∧ g i < b + l.length)) →
      (List.range b).map (fun i => f (g i)) = List.replicate b q := by
    intro g hg
    rw [List.map_congr_left (g := fun _ => q) (fun i hi => hout _ (hg i (List.mem_range.1 hi))), List.map_const',
      List.length_range]
  rw [show l.length + 2 * b = b + (l.length + b) by omega, List.range_add, List.range_add]
  simp only [List.map_append, List.map_map, Function.comp_def]
  rw [hq (fun i => i) (by intro i hi; omega), hq (fun i => b + (l.length + i)) (by intro i hi; omega), List.append_assoc]
  congr 2
  apply List.ext_getElem (by simp)
  intro i h1 _
  simp only [List.length_map, List.length_range] at h1
  simp [hin i h1]

theorem scaleRow_replicate (s n v : Nat) : scaleRow s (List.replicate n v) = List.replicate (n * s) v := by
  unfold scaleRow
  rw [List.flatMap_replicate, List.flatten_replicate_replicate]

theorem scaleRow_append (s : Nat) (l1 l2 : List Nat) : scaleRow s (l1 ++ l2) = scaleRow s l1 ++ scaleRow s l2 := by
  unfold scaleRow
  rw [List.flatMap_append]

theorem cellRow_outside (idx : List (List Nat)) (w b qz ii : Nat) (h : ¬ (b ≤ ii ∧ ii < b + idx.length)) :
    (List.range (w + 2 * b)).map (fun jj => idxCell idx w b qz ii jj) = List.replicate (w + 2 * b) qz := by
  have : (fun jj => idxCell idx w b qz ii jj) = fun _ => qz := funext fun jj => if_neg (fun h' => h ⟨h'.1, h'.2.1⟩)
  rw [this, List.map_const', List.length_range]

theorem cellRow_inside (idx : List (List Nat)) (w b qz ii : Nat) (h1 : b ≤ ii) (h2 : ii < b + idx.length)
    (hlen : (idx.getD (ii - b) []).length = w) :
    (List.range (w + 2 * b)).map (fun jj => idxCell idx w b qz ii jj)
      = List.replicate b qz ++ idx.getD (ii - b) [] ++ List.replicate b qz := by
  subst hlen
  apply map_range_pad
  · intro jj hjj
    exact if_neg (fun h => hjj h.2.2)
  · intro j hj
    rw [idxCell, if_pos ⟨h1, h2, by omega, by omega⟩, Nat.add_sub_cancel_left, List.getD_eq_getElem?_getD,
      List.getElem?_eq_getElem hj, Option.getD_some]

theorem picture_rows (idx : List (List Nat)) (w s b qz : Nat) (hrows : ∀ r ∈ idx, r.length = w) :
    (List.range (idx.length + 2 * b)).map
        (fun ii => scaleRow s ((List.range (w + 2 * b)).map (fun jj => idxCell idx w b qz ii jj)))
      = List.replicate b (List.replicate ((w + 2 * b) * s) qz) ++ idx.map (fullRow s b qz)
          ++ List.replicate b (List.replicate ((w + 2 * b) * s) qz) := by
  have := map_range_pad (fun ii => scaleRow s ((List.range (w + 2 * b)).map (fun jj => idxCell idx w b qz ii jj)))
    (List.replicate ((w + 2 * b) * s) qz) (idx.map (fullRow s b qz)) b ?_ ?_
  · rwa [List.length_map] at this
  · intro ii hii
    rw [List.length_map] at hii
    show scaleRow s _ = _
    rw [cellRow_outside idx w b qz ii hii, scaleRow_replicate]
  · intro i hi
    rw [List.length_map] at hi
    have hget : idx.getD (b + i - b) [] = idx[i] := by simp [hi]
    show scaleRow s _ = _
    rw [cellRow_inside idx w b qz (b + i) (by omega) (by omega) (by rw [hget]; exact hrows _ (List.getElem_mem _)), hget,
      List.getElem_map]
    simp only [fullRow, scaleRow_append, scaleRow_replicate]

theorem idxPicture_eq (idx : List (List Nat)) (w s b qz : Nat) (hrows : ∀ r ∈ idx, r.length = w) :
    idxPicture idx w s b qz
      = (List.replicate b (List.replicate ((w + 2 * b) * s) qz) ++ idx.map (fullRow s b qz)
          ++ List.replicate b (List.replicate ((w + 2 * b) * s) qz)).flatMap (List.replicate s) := by
  unfold idxPicture iterWith
  rw [picture_rows idx w s b qz hrows]

theorem map_flatMap_replicate {α β : Type} (f : α → β) (s : Nat) (l : List α) :
    (l.flatMap (List.replicate s)).map f = (l.map f).flatMap (List.replicate s) := by
  simp only [List.map_flatMap, List.flatMap_map, List.map_replicate]

/-- for every depth at which a byte holds a sample (`hk`: 1 ≤ d ≤ 8, a divisor of 8 or not) -/
theorem recon_unpack (idx : List (List Nat)) (w d s b qz : Nat) (hk : 0 < 8 / d) (hs : 0 < s) (hqz : qz < 2 ^ d)
    (hrows : ∀ r ∈ idx, r.length = w ∧ ∀ v ∈ r, v < 2 ^ d) :
    (recon [] (pngLines idx w d s b qz)).map (unpackRow d ((w + 2 * b) * s)) = idxPicture idx w s b qz := by
  rw [recon_scanlines idx w d s b qz hs hqz hrows, idxPicture_eq idx w s b qz (fun r hr => (hrows r hr).1),
    map_flatMap_replicate, List.map_map]
  congr 1
  conv => rhs; rw [← List.map_id (_ ++ _ ++ _)]
  apply List.map_congr_left
  intro r hr
  have hq : (List.replicate ((w + 2 * b) * s) qz).length = (w + 2 * b) * s ∧ ∀ v ∈ List.replicate ((w + 2 * b) * s) qz, v < 2 ^ d :=
    ⟨List.length_replicate, fun v hv => (List.mem_replicate.1 hv).2 ▸ hqz⟩
  have hgood : r.length = (w + 2 * b) * s ∧ ∀ v ∈ r, v < 2 ^ d := by
    simp only [List.mem_append, List.mem_replicate, List.mem_map] at hr
    rcases hr with (⟨_, rfl⟩ | ⟨row, hrow, rfl⟩) | ⟨_, rfl⟩
    · exact hq
    · exact ⟨by rw [fullRow_length, (hrows row hrow).1], fullRow_bound s b qz _ hqz row (hrows row hrow).2⟩
    · exact hq
  show unpackRow d ((w + 2 * b) * s) (packRow d r) = r
  rw [← hgood.1]
  exact unpack_packRow d hk r hgood.2

theorem idxPicture_pixel (idx : List (List Nat)) (w s b qz : Nat) (hs : 0 < s) (x y : Nat)
    (hx : x < (w + 2 * b) * s) (hy : y < (idx.length + 2 * b) * s) :
    ((idxPicture idx w s b qz).getD y []).getD x 0 = idxCell idx w b qz (y / s) (x / s) := by
  unfold idxPicture
  rw [iterWith_eq _ _ _ _ _ hs, getD_map_range _ _ _ _ hy, getD_map_range _ _ _ _ hx]

end Proofs.Png
