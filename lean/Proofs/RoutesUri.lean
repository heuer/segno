/-
  The keyword maps of the data-URI routes: what a pass-through wrapper hands to the
  serialiser, completed with the serialiser's defaults, equals the completed map of a direct call with the
  wrapper's DIFFERING defaults made explicit.
-/
import Proofs.RoutesExec

namespace Proofs.Routes
open Model.Cli Model.Routes

theorem cget_dropKeys (names : List String) (kw : Config) (k : String) :
    cget (dropKeys names kw) k = if names.contains k then none else cget kw k := by
  unfold dropKeys
  rw [cget_filter kw (fun x => !names.contains x) k]
  cases names.contains k <;> rfl

theorem free_dropKeys (names dropped : List String) (kw : Config) (hd : ∀ k ∈ names, dropped.contains k = false) :
    Free names (dropKeys dropped kw) ↔ Free names kw := by
  unfold Free
  refine forall₂_congr fun k hk => ?_
  rw [cget_dropKeys, hd k hk]
  rfl

theorem cget_withDefaults (d kw : Config) (k : String) :
    cget (withDefaults d kw) k = match cget kw k with | some v => some v | none => cget d k := by
  unfold withDefaults
  rw [cget_append, cget_filter d (fun x => !kw.any (·.1 == x)) k, ← isSome_cget]
  cases cget kw k
  · cases cget d k <;> rfl
  · rfl

theorem dropKeys_nil (kw : Config) : dropKeys [] kw = kw := by
  simp [dropKeys]

theorem withDefaults_nil (kw : Config) : withDefaults [] kw = kw := by
  simp [withDefaults]

/-- the parameters of a wrapper it does not hand on -/
def notPassed (sig : Sig) (passes : List String) : List String :=
  (sig.params.filter (fun p => !passes.contains p.1)).map (·.1)

theorem contains_notPassed (sig : Sig) (passes : List String) (k : String) :
    (notPassed sig passes).contains k = (hasKey sig.params k && !passes.contains k) := by
  rw [Bool.eq_iff_iff]
  simp only [notPassed, hasKey, List.mem_map, List.mem_filter, Bool.and_eq_true, List.any_eq_true,
    Bool.not_eq_true', beq_iff_eq, List.contains_eq_mem, decide_eq_false_iff_not, decide_eq_true_eq]
  exact ⟨fun ⟨p, ⟨hp, hn⟩, hk⟩ => hk ▸ ⟨⟨p, hp, rfl⟩, hn⟩, fun ⟨⟨p, hp, hk⟩, hn⟩ => ⟨p, ⟨hp, hk ▸ hn⟩, hk⟩⟩

theorem through_lookup (sig : Sig) (passes : List String) (kw b inner : Config)
    (h : through sig passes kw = .ok (b, inner)) (hsub : ∀ k ∈ passes, hasKey sig.params k = true) (k : String) :
    cget inner k = cget (withDefaults (passes.map fun p => (p, dflt sig.params p)) (dropKeys (notPassed sig passes) kw)) k := by
  rw [through_cget sig passes kw b inner h hsub k, cget_withDefaults, cget_dropKeys, contains_notPassed, cget_keys]
  cases hp : passes.contains k
  · cases hasKey sig.params k <;> cases cget kw k <;> rfl
  · rw [hsub k (by simpa using hp)]
    cases cget kw k <;> rfl

theorem through_cget_other (sig : Sig) (passes : List String) (kw b inner : Config)
    (h : through sig passes kw = .ok (b, inner)) (hsub : ∀ k ∈ passes, hasKey sig.params k = true)
    (hall : notPassed sig passes = []) (k : String) (hk : passes.contains k = false) : cget inner k = cget kw k := by
  rw [through_lookup sig passes kw b inner h hsub, hall, dropKeys_nil, cget_withDefaults, cget_keys, hk]
  cases cget kw k <;> rfl

/-- the last three hypotheses are checks over the signature tables -/
theorem through_complete (key : String) (sig : Sig) (passes : List String) (kw b inner defaults D : Config)
    (h : through sig passes kw = .ok (b, inner))
    (hd : serializerDefaults key = some defaults)
    (hsub : ∀ k ∈ passes, hasKey sig.params k = true)
    (hDefaults : defaults.all (fun d => !passes.contains d.1 || (dflt sig.params d.1 == (cget D d.1).getD d.2)) = true)
    (hKnown : passes.all (hasKey defaults) = true)
    (hD : D.all (fun e => passes.contains e.1) = true) :
    completeKw key inner = completeKw key (withDefaults D (dropKeys (notPassed sig passes) kw)) := by
  rw [completeKw_of_cget_eq key _ _ (through_lookup sig passes kw b inner h hsub)]
  generalize dropKeys (notPassed sig passes) kw = X
  -- left: all the wrapper's defaults for `passes`; right: only `D`.  Outside `passes` neither has a key:
  have hDnone : ∀ k, passes.contains k = false → cget D k = none := by
    intro k hk
    rw [cget_eq_none_iff]
    intro e he hek
    have := List.all_eq_true.1 hD e he
    rw [hek, hk] at this
    cases this
  have hsame (k : String) (hp : passes.contains k = false) :
      cget (withDefaults (passes.map fun p => (p, dflt sig.params p)) X) k = cget (withDefaults D X) k := by
    rw [cget_withDefaults, cget_withDefaults, cget_keys, hp, hDnone k hp]
    rfl
  apply completeKw_congr key _ _ defaults hd
  · -- on `passes` the serialiser's default for `d` is the wrapper's, up to `D`
    intro d hdm
    cases hp : passes.contains d.1
    · rw [hsame d.1 hp]
    · have := List.all_eq_true.1 hDefaults d hdm
      rw [hp, Bool.not_true, Bool.false_or, beq_iff_eq] at this
      rw [cget_withDefaults, cget_withDefaults, cget_keys, hp, this]
      cases cget X d.1 <;> rfl
  · -- a key in `passes` is known to the serialiser, the others are the same on both sides
    have hknown {c1 c2 : Config} (hs : ∀ k, passes.contains k = false → cget c1 k = cget c2 k)
        (h1 : ∀ k, (cget c1 k).isSome = true → hasKey defaults k = true) (k : String) (hk : (cget c2 k).isSome = true) :
        hasKey defaults k = true := by
      cases hp : passes.contains k
      · exact h1 k (hs k hp ▸ hk)
      · exact List.all_eq_true.1 hKnown k (by simpa using hp)
    exact ⟨hknown hsame, hknown fun k hp => (hsame k hp).symm⟩

theorem pngDefaults_eq : serializerDefaults "png" = some pngDefaults := by decide +kernel
theorem svgDefaults_eq : serializerDefaults "svg" = some svgDefaults := by decide +kernel

theorem free_uriSaveKw (kw : Config) (hf : Free saveReserved kw) : Free saveReserved (uriSaveKw kw) := by
  intro k hk
  unfold uriSaveKw
  rw [cget_withDefaults, cget_dropKeys, hf k hk]
  simp only [saveReserved, List.mem_cons, List.not_mem_nil, or_false] at hk
  rcases hk with rfl | rfl | rfl | rfl | rfl <;> decide

end Proofs.Routes
