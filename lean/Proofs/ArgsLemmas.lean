/-
  Which exceptions the normalisers and combination checks of Model.Args can raise (the tactic `err_cases` walks the
  branches of an equation `… = .error e`), the combination checks as five named conditions (`ComboOK`,
  `comboChecks_ok_iff`), and `Model.encode` as these checks followed by a chain of named stages (`encode_eq`: `encTail`
  over `pickVersion`, `ownCapacityCheck`, `maskRangeCheck`, `defaultLevel`), with `encodeLookup` as `encode` plus the
  codec look-up (`encodeLookup_ok`, `_err`).
-/
import Model.Args
import Proofs.Except

namespace Proofs.ArgsLemmas
open Model Model.Args Model.Cli Gen
open Proofs.Except (pure_eq_ok throw_ne_ok ite_throw_ok throw_bind RaisesOnly)

instance instDecEqExcept {ε α : Type} [DecidableEq ε] [DecidableEq α] : DecidableEq (Except ε α) := fun a b =>
  match a, b with
  | .ok x, .ok y => if h : x = y then isTrue (by rw [h]) else isFalse (by intro e; cases e; exact h rfl)
  | .error x, .error y => if h : x = y then isTrue (by rw [h]) else isFalse (by intro e; cases e; exact h rfl)
  | .ok _, .error _ => isFalse (by intro e; cases e)
  | .error _, .ok _ => isFalse (by intro e; cases e)

theorem ite_bind {m : Type → Type} [Monad m] {α β : Type} (c : Prop) [Decidable c] (x y : m α) (k : α → m β) :
    ((if c then x else y) >>= k) = if c then x >>= k else y >>= k := by
  split <;> rfl

/-- splits every `match` / `if` of an equation `… = .error e` and closes the branches in which the
    error is the expected one (`rfl`) or the equation is absurd -/
macro "err_cases" h:ident : tactic => `(tactic| (
  simp only [bind, Except.bind, pure, Except.pure, throw, throwThe, MonadExceptOf.throw] at $h:ident
  repeat' split at $h:ident
  all_goals (first | (cases $h:ident; rfl) | (cases $h:ident) | skip)))

theorem normalizeVersion_err (v : PyV) : RaisesOnly (· = .valueError) (normalizeVersion v) := by
  intro e h
  unfold normalizeVersion at h
  err_cases h

theorem normalizeMode_err (v : PyV) : RaisesOnly (· = .valueError) (normalizeMode v) := by
  intro e h
  unfold normalizeMode at h
  err_cases h

theorem normalizeErrorLevel_err (v : PyV) : RaisesOnly (· = .valueError) (normalizeErrorLevel v) := by
  intro e h
  unfold normalizeErrorLevel at h
  err_cases h

theorem comboChecks_err (v : Option Int) (er : Option Nat) (m : Option Nat) (eci : Bool) (micro : Option Bool) :
    RaisesOnly (· = .valueError) (comboChecks v er m eci micro) := by
  intro e h
  unfold comboChecks at h
  err_cases h

def isMicroVer (version : Option Int) : Bool :=
  match version with | some v => Gen.MICRO_VERSIONS.contains v | none => false

/-- none of the five conditions under which `encoder.encode` refuses a combination of arguments holds -/
structure ComboOK (version : Option Int) (error mode : Option Nat) (eci : Bool) (micro : Option Bool) : Prop where
  microFalse : (micro == some false && isMicroVer version) = false
  microTrue : (micro == some true && version.isSome && !isMicroVer version) = false
  modeSupported : ∀ md v, mode = some md → version = some v → isModeSupported md v = some true
  levelH : (error == some Gen.ERROR_LEVEL_H && (micro == some true || isMicroVer version)) = false
  eciMicro : (eci && (micro == some true || isMicroVer version)) = false

theorem comboChecks_ok_iff {version : Option Int} {error mode : Option Nat} {eci : Bool} {micro : Option Bool} {u : Unit} :
    comboChecks version error mode eci micro = .ok u ↔ ComboOK version error mode eci micro := by
  have fields : ComboOK version error mode eci micro ↔ _ ∧ _ ∧ _ ∧ _ ∧ _ :=
    ⟨fun ⟨h1, h2, h3, h4, h5⟩ => ⟨h1, h2, h3, h4, h5⟩, fun ⟨h1, h2, h3, h4, h5⟩ => ⟨h1, h2, h3, h4, h5⟩⟩
  rw [fields]
  unfold comboChecks
  cases version with
  | none => cases mode <;> simp [throw_bind, ite_throw_ok, isMicroVer, pure_eq_ok]
  | some v =>
    cases mode with
    | none => simp [throw_bind, ite_throw_ok, isMicroVer, pure_eq_ok]
    | some md =>
      have hms : (∀ md' v', some md = some md' → some v = some v' → isModeSupported md' v' = some true) ↔
          isModeSupported md v = some true := ⟨fun h => h _ _ rfl rfl, by rintro h _ _ ⟨⟩ ⟨⟩; exact h⟩
      simp only [throw_bind, ite_throw_ok, isMicroVer, hms]
      generalize isModeSupported md v = supported
      rcases supported with _ | _ | _ <;> simp [ite_throw_ok, throw_ne_ok, pure_eq_ok]

theorem comboChecks_refuses {v : Option Int} {er m : Option Nat} {eci : Bool} {micro : Option Bool}
    (hne : comboChecks v er m eci micro ≠ .ok ()) : comboChecks v er m eci micro = .error .valueError := by
  cases h : comboChecks v er m eci micro with
  | ok u => exact absurd h hne
  | error e => rw [comboChecks_err _ _ _ _ _ _ h]

theorem ComboOK.micro_ne_true {v : Option Int} {er m : Option Nat} {eci : Bool} {micro : Option Bool}
    (h : ComboOK v er m eci micro) (he : eci = true) : micro ≠ some true := by
  rintro rfl
  have := h.eciMicro
  rw [he] at this
  cases this

theorem micro_of_eci (micro : Option Bool) (eci : Bool) (h : eci = true → micro ≠ some true) :
    eci = true → (if (eci && micro.isNone) = true then some false else micro) = some false := by
  rintro rfl
  rcases micro with _ | _ | _
  · rfl
  · rfl
  · exact absurd rfl (h rfl)

/-- a call that passed the combination checks does not reach the `assert not (eci and micro)` of `find_version`
    (`encTail` hands it `micro` with `None` read as `False` under ECI) -/
theorem combo_not_eci_micro {v : Option Int} {er m : Option Nat} {eci : Bool} {micro : Option Bool} {u : Unit}
    (h : comboChecks v er m eci micro = .ok u) :
    (eci && (if eci && micro.isNone then some false else micro) == some true) = false := by
  cases eci with
  | false => rfl
  | true => rw [micro_of_eci micro true (comboChecks_ok_iff.1 h).micro_ne_true rfl]; rfl

theorem sequenceVersionCheck_err (version : Option Int) (symbolCount : PyV) :
    RaisesOnly (· = .valueError) (sequenceVersionCheck version symbolCount) := by
  cases version <;> exact .ite (.error rfl) (.ok _)

theorem normalizeMask_err (v : PyV) (b : Bool) :
    RaisesOnly (fun e => e = .valueError ∨ (e = .typeError ∧ maskRequest v = .typeError)) (normalizeMask v b) := by
  unfold normalizeMask
  split
  · exact .ok _
  · rename_i h; exact .error (.inr ⟨rfl, h⟩)
  · exact .error (.inl rfl)
  · exact .ite (.ok _) (.error (.inl rfl))

theorem symbolCountCheck_err (v : PyV) :
    RaisesOnly (fun e => e = .valueError ∨ (e = .typeError ∧ v ≠ .none ∧ asInt v = none)) (symbolCountCheck v) := by
  unfold symbolCountCheck
  split
  · exact .ok _
  · rename_i hne
    split
    · exact .ite (.ok _) (.error (.inl rfl))
    · rename_i hint
      split
      · exact .ite (.ok _) (.error (.inl rfl))
      · exact .error (.inr ⟨rfl, hne, hint⟩)

theorem encodeLookup_ok (c : Call) (parts : List Part) (er : Option Nat) (v : Option Int) (m : Option Nat)
    (mask : Option Nat) (eci : Bool) (micro : Option Bool) (r : Code)
    (h : encodeLookup c parts er v m mask eci micro = .ok r) :
    encode parts er v m mask eci micro c.boost c.eciNumber = .ok r := by
  unfold encodeLookup at h
  split at h
  · -- ValueError of `encode` with an unknown codec: every branch is an error
    split at h
    · split at h <;> cases h
    · cases h
  · exact h

theorem encodeLookup_err {P : PyErr → Prop} (c : Call) (parts : List Part) (er : Option Nat) (v : Option Int) (m : Option Nat)
    (mask : Option Nat) (eci : Bool) (micro : Option Bool) (hl : P .lookupError)
    (h : ∀ f, RaisesOnly P (encode parts er v m mask eci micro c.boost f)) :
    RaisesOnly P (encodeLookup c parts er v m mask eci micro) := by
  unfold encodeLookup
  split
  · rename_i he _
    split
    · split
      · exact .error hl
      · rename_i he'; exact .error (h _ _ he')
    · exact .error (h _ _ he)
  · exact h _

theorem upperC_eq_M (c : Char) (h : upperC c = 'M') : c = 'M' ∨ c = 'm' := by
  unfold upperC at h
  split at h <;> first | (right; rfl) | (exact absurd h (by decide)) | (left; exact h)

theorem upperC_digit (c d : Char) (hd : isDigit d = true) (h : upperC c = d) : c = d := by
  unfold upperC at h
  split at h <;> first | exact h | (subst h; exact absurd hd (by decide))

def pickVersion (version : Option Int) (guessed : Int) : R Int :=
  match version with
  | none => pure guessed
  | some v => if guessed > v then throw PyErr.dataOverflow else pure v

def ownCapacityCheck (segs : List Segment) (v guessed : Int) (error' : Option Nat) (eci : Bool) : R Unit :=
  if v != guessed then
    match capacity v error', bitLengthWithOverhead segs v eci false with
    | some cap, some bl => if cap ≥ bl then pure () else throw PyErr.dataOverflow
    | _, _ => throw PyErr.dataOverflow
  else pure ()

def maskRangeCheck (v : Int) (mask : Option Nat) : R Unit :=
  match mask with
  | some mk => if (v < 1 && mk ≥ 4) || mk ≥ 8 then throw PyErr.valueError else pure ()
  | none => pure ()

def defaultLevel (error : Option Nat) (v : Int) : Option Nat :=
  if error.isNone && v != Gen.VERSION_M1 then some Gen.ERROR_LEVEL_L else error

/-- `encoder.encode` after its argument checks (the statements of `Model.encode` that follow them), as a chain of binds;
    the proofs about `encode` unfold it and walk the chain stage by stage, so it has no lemmas of its own -/
def encTail (parts : List Part) (error : Option Nat) (version : Option Int) (mask : Option Nat)
    (eci : Bool) (micro : Option Bool) (boost : Bool) (eciNumber : String → Option Nat) : R Code :=
  prepareData parts >>= fun segs =>
  findVersion segs error eci (if eci && micro.isNone then some false else micro) >>= fun guessed =>
  pickVersion version guessed >>= fun v =>
  ownCapacityCheck segs v guessed (defaultLevel error v) eci >>= fun _ =>
  maskRangeCheck v mask >>= fun _ =>
  encodeCore segs (defaultLevel error v) v mask eci boost eciNumber

/-- the five checks at the head of `Model.encode`, followed by anything, are `comboChecks` followed by the same
    (the two differ in the order of the `match` arms only) -/
theorem comboChecks_then {α : Type} (version : Option Int) (error mode : Option Nat) (eci : Bool) (micro : Option Bool) (T : R α) :
    (do
      let isMicroVer := match version with | some v => Gen.MICRO_VERSIONS.contains v | none => false
      if micro == some false && isMicroVer then throw PyErr.valueError
      if micro == some true && version.isSome && !isMicroVer then throw PyErr.valueError
      match mode, version with
      | some md, some v =>
        match isModeSupported md v with
        | none => throw PyErr.valueError
        | some false => throw PyErr.valueError
        | some true => pure ()
      | _, _ => pure ()
      if error == some Gen.ERROR_LEVEL_H && (micro == some true || isMicroVer) then throw PyErr.valueError
      if eci && (micro == some true || isMicroVer) then throw PyErr.valueError
      T) = (comboChecks version error mode eci micro >>= fun _ => T) := by
  unfold comboChecks
  cases version with
  | none => cases mode <;> simp only [ite_bind, throw_bind, pure_bind]
  | some v =>
    cases mode with
    | none => simp only [ite_bind, throw_bind, pure_bind]
    | some md =>
      simp only [ite_bind, throw_bind]
      generalize isModeSupported md v = supported
      rcases supported with _ | _ | _ <;> simp only [ite_bind, throw_bind, pure_bind]

theorem encode_eq (parts : List Part) (error : Option Nat) (version : Option Int) (mode : Option Nat) (mask : Option Nat)
    (eci : Bool) (micro : Option Bool) (boost : Bool) (f : String → Option Nat) :
    encode parts error version mode mask eci micro boost f
      = (comboChecks version error mode eci micro >>= fun _ => encTail parts error version mask eci micro boost f) := by
  -- `T` is what follows the five checks in `Model.encode` (found by unification)
  refine (comboChecks_then version error mode eci micro _).trans (bind_congr fun _ => ?_)
  unfold encTail pickVersion ownCapacityCheck maskRangeCheck defaultLevel
  refine bind_congr fun segs => bind_congr fun guessed => ?_
  cases version <;> cases mask <;> simp only [ite_bind, throw_bind, pure_bind]
  all_goals
    generalize capacity _ _ = cap
    generalize bitLengthWithOverhead _ _ _ _ = len
    cases cap <;> cases len <;> simp only [ite_bind, throw_bind, pure_bind]

theorem find_val_mem {κ β : Type} (t : List (κ × β)) (p : κ × β → Bool) (x : β)
    (h : (t.find? p).map (·.2) = some x) : x ∈ t.map (·.2) := by
  simp only [Option.map_eq_some_iff] at h
  obtain ⟨a, ha, rfl⟩ := h
  exact List.mem_map.2 ⟨a, List.mem_of_find?_eq_some ha, rfl⟩

theorem assocStr_mem {β : Type} (t : List (String × β)) (k : Str) (x : β) (h : assocStr t k = some x) :
    x ∈ t.map (·.2) :=
  find_val_mem t _ x h

theorem normalizeVersion_range (v : PyV) (x : Int) (h : normalizeVersion v = .ok (some x)) : -3 ≤ x ∧ x ≤ 40 := by
  unfold normalizeVersion at h
  split at h
  · cases h
  · dsimp only at h
    -- whichever way the candidate was found, it is returned only after the range test
    split at h
    · cases h
    · split at h
      · rename_i hc; cases h; simp [Gen.MICRO_VERSIONS] at hc; omega
      · cases h

theorem normalizeErrorLevel_range (v : PyV) (x : Nat) (h : normalizeErrorLevel v = .ok (some x)) :
    x ∈ Gen.ERROR_MAPPING.map (·.2) := by
  unfold normalizeErrorLevel at h
  split at h
  · cases h
  · -- a name
    split at h
    · rename_i hc; cases h; exact assocStr_mem _ _ _ hc
    · cases h
  · -- a number equal to one of the constants
    split at h
    · rename_i hc; cases h
      obtain ⟨i, _, hi⟩ := Option.bind_eq_some_iff.1 hc
      exact find_val_mem _ _ _ hi
    · cases h

theorem normalizeMode_range (v : PyV) (x : Nat) (h : normalizeMode v = .ok (some x)) :
    x ∈ Gen.MODE_MAPPING.map (·.2) := by
  unfold normalizeMode at h
  split at h
  · cases h
  · split at h
    · rename_i hc; cases h
      obtain ⟨i, _, hi⟩ := Option.bind_eq_some_iff.1 hc
      exact find_val_mem _ _ _ hi
    · split at h
      · split at h
        · rename_i hc; cases h; exact assocStr_mem _ _ _ hc
        · cases h
      · cases h

end Proofs.ArgsLemmas
