/-
  Proofs.Geometry — the facts about every version −3 ≤ v ≤ 40 that Proofs/Placement2.lean takes as hypotheses: the count
  of data modules (kernel-checked in Proofs/Geometry{A,B,C,D}.lean) and the skeleton (Proofs/Cells.lean; the table
  `ALIGNMENT_POS` enters here, through `Props.C02.alignment_pos_is_annexE` and `Proofs.Align.centres_of_version`); the
  strips (`strips_ok`, Proofs/GeometryS.lean) come with the import.  Declares in `Proofs.Placement2`, beside `countOK`
  and `skelRows`.
-/
import Proofs.Placement2
import Proofs.Cells
import Proofs.GeometryS
import Proofs.GeometryA
import Proofs.GeometryB
import Proofs.GeometryC
import Proofs.GeometryD

namespace Proofs.Placement2

theorem allVersions_split :
    allVersions = versionsA ++ versionsB ++ versionsC ++ versionsD := by decide

theorem count_all : allVersions.all countOK = true := by
  rw [allVersions_split]
  simp only [List.all_append, countA, countB, countC, countD, Bool.and_self]

theorem count_ok (v : Int) (h1 : -3 ≤ v) (h2 : v ≤ 40) : countOK v = true :=
  List.all_eq_true.mp count_all v (mem_allVersions v h1 h2)

theorem m0_rows_all (v : Int) (h1 : -3 ≤ v) (h2 : v ≤ 40) : m0L (Spec.size v) = .ok (skelRows 0 v) := by
  by_cases hv : v < 1
  · exact Cells.m0_micro v h1 hv
  · exact Cells.m0_qr v (by omega) fun hv2 => Cells.alignmentPos_centres v hv2 h2

theorem functionMatrix_rows_all (v : Int) (h1 : -3 ≤ v) (h2 : v ≤ 40) :
    (Model.functionMatrix (Spec.size v)).map toRows = .ok (skelRows 1 v) :=
  functionMatrix_rows v (m0_rows_all v h1 h2)

theorem functionMatrix_skeleton (v : Int) (h1 : -3 ≤ v) (h2 : v ≤ 40) :
    ∃ fm, Model.functionMatrix (Spec.size v) = .ok fm ∧ toRows fm = skelRows 1 v := by
  have h := functionMatrix_rows_all v h1 h2
  cases hfm : Model.functionMatrix (Spec.size v) with
  | error e => rw [hfm] at h; cases h
  | ok fm => rw [hfm] at h; exact ⟨fm, rfl, Except.ok.inj h⟩

end Proofs.Placement2
