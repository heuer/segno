/-
  The post-processing of the data-URI routes (Model/Routes.lean) against the reference
  decoders (Spec/Decoders.lean): base64 and percent-encoding are read back, `_replace_quotes` is characterised
  (`Spec.Decoders.Pointwise QuoteStep`, fixed iff no `HasQuotedAttr`), and the judge's copy of it is the model's.
-/
import Model.Routes
import Spec.Decoders
import Spec.Routes

namespace Proofs.RoutesCodec
open Model.Routes Spec.Decoders

theorem b64Val_b64Char : ∀ n, n < 64 → b64Val (b64Char n) = some n := by decide +kernel
theorem b64Char_ne_pad : ∀ n, n < 64 → b64Char n ≠ '=' := by decide +kernel

/-- one group of the encoder against one group of the reader; `=` is no character of the alphabet (`b64Char_ne_pad`),
    so the reader takes the padded branch only at the end -/
theorem b64_roundtrip : (bs : List Nat) → (∀ b ∈ bs, b < 256) → b64decode (b64encode bs) = some bs
  | [], _ => by simp [b64encode, b64decode]
  | [a], h => by
    have ha : a < 256 := h a (by simp)
    simp only [b64encode, b64decode]
    rw [b64Val_b64Char _ (by omega), b64Val_b64Char _ (by omega)]
    simp only [and_self, if_true, Option.some.injEq, List.cons.injEq, and_true]
    omega
  | [a, b], h => by
    have ha : a < 256 := h a (by simp)
    have hb : b < 256 := h b (by simp)
    simp only [b64encode, b64decode]
    rw [b64Val_b64Char _ (by omega), b64Val_b64Char _ (by omega)]
    have h3 : b64Char (b % 16 * 4) ≠ '=' := b64Char_ne_pad _ (by omega)
    simp only [h3, false_and, if_false]
    rw [b64Val_b64Char _ (by omega)]
    simp only [and_self, if_true, Option.some.injEq, List.cons.injEq, and_true]
    omega
  | a :: b :: c :: rest, h => by
    have ha : a < 256 := h a (by simp)
    have hb : b < 256 := h b (by simp)
    have hc : c < 256 := h c (by simp)
    have ih := b64_roundtrip rest (fun x hx => h x (by simp [hx]))
    simp only [b64encode, b64decode]
    rw [b64Val_b64Char _ (by omega), b64Val_b64Char _ (by omega)]
    have h3 : b64Char (b % 16 * 4 + c / 64) ≠ '=' := b64Char_ne_pad _ (by omega)
    have h4 : b64Char (c % 64) ≠ '=' := b64Char_ne_pad _ (by omega)
    simp only [h3, h4, false_and, if_false]
    rw [b64Val_b64Char _ (by omega), b64Val_b64Char _ (by omega), ih]
    simp only [Option.map_some, Option.some.injEq, List.cons.injEq, and_true]
    omega

theorem hexVal_hexUpper : ∀ n, n < 16 → hexVal? (hexUpper n) = some n := by decide +kernel
theorem toNat_ofNat : ∀ b, b < 256 → (Char.ofNat b).toNat = b := by decide +kernel
theorem ofNat_ne_pct : ∀ b, b < 256 → b ≠ 37 → Char.ofNat b ≠ '%' := by decide +kernel

/-- the counter of `pctDecodeGo` (and of `replaceQuotesGo` below) says how many characters the step before has
    already consumed: the two hex digits after `%`, the body of a rewritten attribute -/
theorem pctDecodeGo_skip : ∀ (k : Nat) (l : List Char), pctDecodeGo k l = pctDecodeGo 0 (l.drop k)
  | 0, l => by simp
  | k + 1, [] => by simp [pctDecodeGo]
  | k + 1, _ :: cs => by
    simp only [pctDecodeGo, List.drop_succ_cons]
    exact pctDecodeGo_skip k cs

theorem pct_byte (safe : List Nat) (h37 : isSafe safe 37 = false) (b : Nat) (hb : b < 256) (rest : List Char) :
    pctDecodeGo 0 (pctByte safe b ++ rest) = b :: pctDecodeGo 0 rest := by
  unfold pctByte
  by_cases hs : isSafe safe b = true
  · have hne : b ≠ 37 := by
      intro h
      rw [h, h37] at hs
      exact absurd hs (by simp)
    simp only [hs, if_true, List.cons_append, List.nil_append, pctDecodeGo, ofNat_ne_pct b hb hne, if_false, toNat_ofNat b hb]
  · simp only [hs, Bool.false_eq_true, if_false, List.cons_append, List.nil_append, pctDecodeGo, if_true,
      hexVal_hexUpper _ (show b / 16 < 16 by omega), hexVal_hexUpper _ (show b % 16 < 16 by omega)]
    simp only [List.cons.injEq, and_true]
    omega

theorem pct_roundtrip (safe : List Nat) (h37 : isSafe safe 37 = false) :
    (bs : List Nat) → (∀ b ∈ bs, b < 256) → pctDecode (pctEncode safe bs) = bs
  | [], _ => by simp [pctEncode, pctDecode, pctDecodeGo]
  | b :: bs, h => by
    have ih := pct_roundtrip safe h37 bs (fun x hx => h x (by simp [hx]))
    simp only [pctEncode, pctDecode, List.flatMap_cons] at ih ⊢
    rw [pct_byte safe h37 b (h b (by simp)), ih]

/-- the encoded text consists of ASCII letters, digits, `_.-~`, the safe characters and `%` -/
theorem pctByte_chars (safe : List Nat) (b : Nat) (hb : b < 256) :
    ∀ c ∈ pctByte safe b, c = '%' ∨ (∃ n, n < 16 ∧ c = hexUpper n) ∨ (isSafe safe c.toNat = true) := by
  intro c hc
  unfold pctByte at hc
  by_cases hs : isSafe safe b = true
  · simp only [hs, if_true, List.mem_singleton] at hc
    right; right
    rw [hc, toNat_ofNat b hb]; exact hs
  · simp only [hs, Bool.false_eq_true, if_false, List.mem_cons, List.not_mem_nil, or_false] at hc
    rcases hc with h | h | h
    · left; exact h
    · right; left; exact ⟨b / 16, by omega, h⟩
    · right; left; exact ⟨b % 16, by omega, h⟩

theorem rq_skip : ∀ (k : Nat) (l : List Nat), replaceQuotesGo k l = replaceQuotesGo 0 (l.drop k)
  | 0, l => by simp
  | k + 1, [] => by simp [replaceQuotesGo]
  | k + 1, _ :: bs => by
    simp only [replaceQuotesGo, List.drop_succ_cons]
    exact rq_skip k bs

theorem of_mem_takeWhile {α : Type} (p : α → Bool) : ∀ (l : List α) (x : α), x ∈ l.takeWhile p → p x = true
  | [], _, h => by simp at h
  | y :: ys, x, h => by
    rw [List.takeWhile_cons] at h
    split at h
    · rcases List.mem_cons.1 h with rfl | h
      · assumption
      · exact of_mem_takeWhile p ys x h
    · simp at h

theorem drop_takeWhile {α : Type} (p : α → Bool) (l : List α) : l.drop (l.takeWhile p).length = l.dropWhile p := by
  have := List.drop_left (l₁ := l.takeWhile p) (l₂ := l.dropWhile p)
  rwa [List.takeWhile_append_dropWhile] at this

theorem takeWhile_body {q : Nat} (body post : List Nat) (h : q ∉ body) :
    (body ++ q :: post).takeWhile (· != q) = body := by
  rw [List.takeWhile_append_of_pos (fun a ha => by simpa using fun (e : a = q) => h (e ▸ ha))]
  simp

/-! The scan of `replaceQuotesGo` (61 is `=`, 34 `"`, 39 `'`): at `="` it looks for the closing quote; where an attribute value
    starts (`StartsAttr` of Spec/Decoders.lean) both quotes become `'`, everywhere else the byte is copied. -/

theorem rq_quote (rest : List Nat) :
    replaceQuotesGo 0 (61 :: 34 :: rest) =
      if !(rest.takeWhile (· != 34)).isEmpty && (rest.dropWhile (· != 34)).head? == some 34 then
        61 :: 39 :: (rest.takeWhile (· != 34) ++ 39 :: replaceQuotesGo 0 (rest.dropWhile (· != 34)).tail)
      else 61 :: replaceQuotesGo 0 (34 :: rest) := by
  rw [replaceQuotesGo]
  simp only [if_true, drop_takeWhile]
  rw [rq_skip, List.drop_succ_cons, ← List.drop_drop, drop_takeWhile]
  simp

theorem rq_other (b : Nat) (bs : List Nat) (h : ∀ rest, b :: bs ≠ 61 :: 34 :: rest) :
    replaceQuotesGo 0 (b :: bs) = b :: replaceQuotesGo 0 bs := by
  conv => lhs; unfold replaceQuotesGo
  split
  next hb =>
    subst hb
    split
    · exact absurd rfl (h _)
    · rfl
  next => rfl

theorem rq_attr (body post : List Nat) (hne : body ≠ []) (h : 34 ∉ body) :
    replaceQuotesGo 0 (61 :: 34 :: (body ++ 34 :: post)) = 61 :: 39 :: (body ++ 39 :: replaceQuotesGo 0 post) := by
  have hd : (body ++ 34 :: post).dropWhile (· != 34) = 34 :: post := by
    rw [List.dropWhile_append_of_pos (fun a ha => by simpa using fun (e : a = 34) => h (e ▸ ha))]
    simp
  rw [rq_quote, takeWhile_body body post h, hd]
  simp [hne]

theorem startsAttr_of_cond (rest : List Nat)
    (h : (!(rest.takeWhile (· != 34)).isEmpty && (rest.dropWhile (· != 34)).head? == some 34) = true) :
    StartsAttr (61 :: 34 :: rest) := by
  simp only [Bool.and_eq_true, Bool.not_eq_eq_eq_not, Bool.not_true, beq_iff_eq, List.isEmpty_eq_false_iff] at h
  refine ⟨rest.takeWhile (· != 34), (rest.dropWhile (· != 34)).tail, ?_, h.1, fun hm => ?_⟩
  · have hd : rest.dropWhile (· != 34) = 34 :: (rest.dropWhile (· != 34)).tail := by
      cases hdw : rest.dropWhile (· != 34) with
      | nil => rw [hdw] at h; cases h.2
      | cons x xs => rw [hdw] at h; cases h.2; rfl
    rw [← hd, List.takeWhile_append_dropWhile]
  · simpa using of_mem_takeWhile (· != 34) rest 34 hm

theorem rq_noattr (b : Nat) (bs : List Nat) (h : ¬ StartsAttr (b :: bs)) :
    replaceQuotesGo 0 (b :: bs) = b :: replaceQuotesGo 0 bs := by
  by_cases hq : ∃ rest, b :: bs = 61 :: 34 :: rest
  · obtain ⟨rest, he⟩ := hq
    cases he
    rw [rq_quote, if_neg fun hc => h (startsAttr_of_cond rest hc)]
  · exact rq_other b bs fun rest he => hq ⟨rest, he⟩

theorem pointwise_append_left (body : List Nat) {l1 l2 : List Nat} (h : Pointwise QuoteStep l1 l2) :
    Pointwise QuoteStep (body ++ l1) (body ++ l2) := by
  induction body with
  | nil => exact h
  | cons x xs ih => exact Pointwise.cons (Or.inl rfl) ih

theorem rq_pointwise_aux : ∀ (n : Nat) (d : List Nat), d.length ≤ n → Pointwise QuoteStep d (replaceQuotesGo 0 d)
  | _, [], _ => by simp only [replaceQuotesGo]; exact Pointwise.nil
  | 0, _ :: _, h => by simp at h
  | n + 1, b :: bs, h => by
    by_cases hs : StartsAttr (b :: bs)
    · obtain ⟨body, post, he, hne, hq⟩ := hs
      rw [he, rq_attr body post hne hq]
      have hl : post.length ≤ n := by
        have := congrArg List.length he
        simp at this h
        omega
      exact Pointwise.cons (Or.inl rfl) (Pointwise.cons (Or.inr ⟨rfl, rfl⟩)
        (pointwise_append_left body (Pointwise.cons (Or.inr ⟨rfl, rfl⟩) (rq_pointwise_aux n post hl))))
    · rw [rq_noattr b bs hs]
      exact Pointwise.cons (Or.inl rfl) (rq_pointwise_aux n bs (by simp at h; omega))

theorem rq_pointwise (d : List Nat) : Pointwise QuoteStep d (replaceQuotes d) :=
  rq_pointwise_aux d.length d (Nat.le_refl _)

theorem pointwise_lt : ∀ {d d' : List Nat}, Pointwise QuoteStep d d' → (∀ b ∈ d, b < 256) → ∀ b ∈ d', b < 256
  | _, _, .nil, _ => by intro b hb'; simp at hb'
  | _, _, @Pointwise.cons _ a c l1 l2 hr ht, hb => by
    intro x hx
    simp only [List.mem_cons] at hx
    rcases hx with rfl | hx
    · rcases hr with h1 | ⟨_, h2⟩
      · rw [← h1]; exact hb a (by simp)
      · rw [h2]; decide
    · exact pointwise_lt ht (fun y hy => hb y (by simp [hy])) x hx

theorem rq_fixed_of_no_attr : ∀ d : List Nat, ¬ HasQuotedAttr d → replaceQuotesGo 0 d = d
  | [], _ => by simp [replaceQuotesGo]
  | b :: bs, h => by
    have hs : ¬ StartsAttr (b :: bs) := fun hs => h ⟨[], b :: bs, rfl, hs⟩
    have ht : ¬ HasQuotedAttr bs := fun ⟨pre, l, he, hl⟩ => h ⟨b :: pre, l, by simp [he], hl⟩
    rw [rq_noattr b bs hs, rq_fixed_of_no_attr bs ht]

theorem rq_changed_of_attr : ∀ d : List Nat, HasQuotedAttr d → replaceQuotesGo 0 d ≠ d
  | [], ⟨pre, l, he, body, post, hl, _, _⟩ => by
    subst hl
    cases pre <;> simp at he
  | b :: bs, hh => by
    by_cases hs : StartsAttr (b :: bs)
    · obtain ⟨body, post, he, hne, hq⟩ := hs
      rw [he, rq_attr body post hne hq]
      simp
    · rw [rq_noattr b bs hs]
      obtain ⟨pre, l, he, hl⟩ := hh
      have ht : HasQuotedAttr bs := by
        cases pre with
        | nil => simp at he; rw [← he] at hl; exact absurd hl hs
        | cons p ps => simp at he; exact ⟨ps, l, he.2, hl⟩
      intro e
      simp at e
      exact rq_changed_of_attr bs ht e

theorem rewrite_quote (f : Nat) (rest : List Nat) :
    Spec.Routes.rewriteQuotes (f + 1) (61 :: 34 :: rest) =
      if !(rest.takeWhile (· != 34)).isEmpty && (rest.dropWhile (· != 34)).head? == some 34 then
        61 :: 39 :: (rest.takeWhile (· != 34) ++ 39 :: Spec.Routes.rewriteQuotes f (rest.dropWhile (· != 34)).tail)
      else 61 :: Spec.Routes.rewriteQuotes f (34 :: rest) := by
  rw [Spec.Routes.rewriteQuotes]
  simp only [drop_takeWhile, List.drop_one]

/-- the judge's D12 rewriting (Spec/Routes.lean, with fuel) is the model's `replaceQuotes` -/
theorem judge_rewrite_eq : ∀ (f : Nat) (d : List Nat), d.length < f → Spec.Routes.rewriteQuotes f d = replaceQuotesGo 0 d
  | 0, _, h => by simp at h
  | f + 1, [], _ => by simp [Spec.Routes.rewriteQuotes, replaceQuotesGo]
  | f + 1, b :: bs, h => by
    by_cases hq : ∃ rest, b :: bs = 61 :: 34 :: rest
    · obtain ⟨rest, he⟩ := hq
      cases he
      have hl : (rest.dropWhile (· != 34)).tail.length < f := by
        have := congrArg List.length (List.takeWhile_append_dropWhile (p := (· != 34)) (l := rest))
        simp only [List.length_append, List.length_cons, List.length_tail] at this h ⊢
        omega
      rw [rq_quote, rewrite_quote, judge_rewrite_eq f _ hl, judge_rewrite_eq f (34 :: rest) (by simpa using h)]
    · have hne : ∀ rest, b :: bs = 61 :: 34 :: rest → False := fun rest he => hq ⟨rest, he⟩
      rw [rq_other b bs hne, Spec.Routes.rewriteQuotes.eq_4 f b bs fun rest hb hbs => hne rest (by rw [hb, hbs]), judge_rewrite_eq f bs (by simpa using h)]
end Proofs.RoutesCodec
