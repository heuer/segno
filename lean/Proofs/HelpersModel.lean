/-
  Proofs.HelpersModel — the WIFI and MeCard builders of Model/Helpers.lean written as "prefix ++ rendered fields ++
  terminator" (`wifiData_eq`, `mecardData_eq`); in front `str.translate` as a per-character map (`escOf`, `translate_eq`),
  which Proofs/HelpersVcard.lean uses for the vCard tables.  The behaviour of the escaping table is a hypothesis (`Escaping escMecard mecardSpecial`, proved
  of the generated table in `Props.C16.mecard_table_escapes`); `Gen.MECARD_ESCAPE` is never unfolded here.
-/
import Proofs.Helpers
import Model.Helpers
import Gen.Helpers

namespace Proofs.Helpers
open Spec.Helpers Model.Helpers

/-- what `str.translate(table)` does to one character -/
def escOf (table : List (Char × Option (List Char))) (c : Char) : List Char :=
  match table.lookup c with
  | none => [c]
  | some none => []
  | some (some r) => r

theorem translate_eq (table : List (Char × Option (List Char))) (s : List Char) :
    translate table s = s.flatMap (escOf table) := rfl

theorem escOf_of_not_key (table : List (Char × Option (List Char))) (c : Char) (h : ∀ p ∈ table, c ≠ p.1) :
    escOf table c = [c] := by
  have : table.lookup c = none := List.lookup_eq_none_iff.mpr (fun p hp => by simpa using h p hp)
  rw [escOf, this]

/-- characters the MeCard / WIFI syntax requires to be escaped -/
def mecardSpecial (c : Char) : Prop := c = '\\' ∨ c = ';' ∨ c = ':' ∨ c = '"'

abbrev escMecard : Char → List Char := escOf Gen.MECARD_ESCAPE

theorem escapeMecard_eq (s : List Char) : escapeMecard s = s.flatMap escMecard := rfl

theorem optVal_eq (o : Option Str) : optVal o = if truthy o then [o.getD []] else [] := by
  rcases o with _ | _ | _ <;> rfl

section
variable (E : Escaping escMecard mecardSpecial)
include E

theorem noop_of_plain (s : List Char) (h : ∀ c ∈ s, ¬ mecardSpecial c) : s.flatMap escMecard = s :=
  escape_noop E s h

theorem wifiData_eq (a : WifiArgs) (hsec : ∀ s, a.security = some s → ∀ c ∈ wifiToken s, ¬ mecardSpecial c) :
    wifiData a = wifiPrefix ++ (render escMecard (wifiFields a) ++ (if a.hidden then [] else [';'])) := by
  have htok : truthy a.security = true → (wifiToken (a.security.getD [])).flatMap escMecard = wifiToken (a.security.getD []) := by
    intro ht
    cases hs : a.security with
    | none => rw [hs] at ht; cases ht
    | some s => exact escape_noop E _ (hsec s hs)
  have htrue : ['t', 'r', 'u', 'e'].flatMap escMecard = ['t', 'r', 'u', 'e'] :=
    escape_noop E _ (by simp [mecardSpecial])
  have hw : ∀ s, wifiSecurity s = wifiToken s := fun _ => rfl
  unfold wifiData wifiFields
  rw [optVal_eq]
  cases ht : truthy a.security <;> cases a.password <;> cases a.hidden <;>
    simp [wifiPrefix, render, fieldText, escapeMecard_eq, htrue, hw, htok, ht]

omit E in
theorem wifi_keys (a : WifiArgs) : ∀ f ∈ wifiFields a, KeyOk f.1 := by
  intro f hf
  simp only [wifiFields, List.mem_append, List.mem_map, List.mem_singleton] at hf
  rcases hf with ((⟨_, _, rfl⟩ | rfl) | hf) | hf
  · simp [KeyOk]
  · simp [KeyOk]
  · split at hf
    · simp at hf; subst hf; simp [KeyOk]
    · simp at hf
  · split at hf
    · simp at hf; subst hf; simp [KeyOk]
    · simp at hf

omit E in
theorem mecardField_eq (key v : List Char) : mecardField key v = render escMecard [(key, v)] := by
  simp [mecardField, render, fieldText, escapeMecard_eq]

omit E in
theorem mecardOpt_eq (key : List Char) (o : Option Str) :
    mecardOpt key o = render escMecard ((optVal o).map (fun s => (key, s))) := by
  rw [mecardOpt, optVal_eq]
  split
  · exact mecardField_eq key _
  · rfl

omit E in
theorem multiValues_eq (a : Arg) : multiValues a = a.values := by cases a <;> rfl

omit E in
theorem mecardMulti_eq (key : List Char) (a : Arg) :
    mecardMulti key a = render escMecard (a.values.map (fun s => (key, s))) := by
  unfold mecardMulti
  rw [multiValues_eq]
  induction a.values with
  | nil => simp [render]
  | cons v rest ih => simp [render, mecardField, fieldText, escapeMecard_eq] at ih ⊢; exact ih

omit E in
theorem any_truthy_eq (l : List (Option Str)) :
    l.any truthy = !((l.map (·.getD [])).all (·.isEmpty)) := by
  induction l with
  | nil => rfl
  | cons o rest ih => rcases o with _ | _ | _ <;> simp [truthy, ih]

theorem commaJoin_escape (l : List Str) :
    (Spec.Helpers.commaJoin l).flatMap escMecard = Model.Helpers.commaJoin (l.map (·.flatMap escMecard)) := by
  have hc : escMecard ',' = [','] := E.other ',' (by simp [mecardSpecial])
  fun_induction Spec.Helpers.commaJoin l with
  | case1 => rfl
  | case2 x => rfl
  | case3 x rest hrest ih =>
    rw [List.flatMap_append, List.flatMap_cons, hc, ih, List.map_cons, Model.Helpers.commaJoin]
    · rfl
    · simpa using hrest

theorem bday_eq (o : Option Str) (hb : ∀ b, o = some b → ∀ c ∈ b, ¬ mecardSpecial c) :
    (if truthy o then ['B', 'D', 'A', 'Y', ':'] ++ o.getD [] ++ [';'] else [])
      = render escMecard ((optVal o).map (fun s => (['B', 'D', 'A', 'Y'], s))) := by
  rw [optVal_eq]
  split
  next ht =>
    cases o with
    | none => cases ht
    | some s => simp [render, fieldText, escape_noop E s (hb s rfl)]
  · rfl

theorem adr_eq (a : MecardArgs) :
    (if (mecardAdrProps a).any truthy
      then ['A', 'D', 'R', ':'] ++ Model.Helpers.commaJoin ((mecardAdrProps a).map (fun o => escapeMecard (o.getD []))) ++ [';'] else [])
      = render escMecard (if (mecardAdr a).all (·.isEmpty) then [] else [(['A', 'D', 'R'], Spec.Helpers.commaJoin (mecardAdr a))]) := by
  have hm : mecardAdr a = (mecardAdrProps a).map (·.getD []) := rfl
  rw [any_truthy_eq, ← hm]
  cases hall : (mecardAdr a).all (·.isEmpty)
  · have := commaJoin_escape E (mecardAdr a)
    rw [hm, List.map_map] at this
    simp only [Bool.not_false, if_true, Bool.false_eq_true, if_false, render, fieldText, List.map_cons, List.map_nil,
      List.flatten_cons, List.flatten_nil, List.append_nil, hm]
    simp only [escapeMecard_eq, List.cons_append, List.nil_append, List.cons.injEq, true_and, List.append_cancel_right_eq]
    exact this.symm
  · simp [render]

theorem mecardData_eq (a : MecardArgs) (hb : ∀ b, a.birthday = some b → ∀ c ∈ b, ¬ mecardSpecial c) :
    mecardData a = mecardPrefix ++ (render escMecard (mecardFields a) ++ [';']) := by
  unfold mecardData mecardFields
  rw [bday_eq E a.birthday hb, adr_eq E a]
  simp only [mecardField_eq, mecardOpt_eq, mecardMulti_eq, render_append, mecardPrefix, List.append_assoc]

omit E in
theorem mecard_keys (a : MecardArgs) : ∀ f ∈ mecardFields a, KeyOk f.1 := by
  intro f hf
  simp only [mecardFields, List.mem_append, List.mem_map, List.mem_ite_nil_left, List.mem_cons, List.not_mem_nil, or_false] at hf
  rcases hf with ((((((((rfl | ⟨_, _, rfl⟩) | ⟨_, _, rfl⟩) | ⟨_, _, rfl⟩) | ⟨_, _, rfl⟩) | ⟨_, _, rfl⟩) | ⟨_, _, rfl⟩) | ⟨_, _, rfl⟩)
    | ⟨_, rfl⟩) | ⟨_, _, rfl⟩ <;> simp [KeyOk]

end

end Proofs.Helpers
