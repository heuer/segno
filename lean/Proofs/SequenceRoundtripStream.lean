/-
  Proofs.SequenceRoundtripStream — the reference stream parser `Spec.parseStream` applied to a data
  bit stream that starts with the Structured Append header 0011 ‖ i₄ ‖ total₄ ‖ parity₈: one iteration
  reads the header (`go_sa_hdr`), after which the written segments are read as in any other stream
  (`Proofs.StreamParse.go_items_tail`): `parseStream_sa_list_tail`, which Proofs/SequenceRoundtrip.lean applies to
  each symbol of a sequence.
-/
import Proofs.StreamParse
import Model.Sequence

namespace Proofs.SequenceRoundtrip
open Model Spec Proofs.StreamParse

theorem sa_fields (i total parity : Nat) (ht : total < 16) (hp : parity < 256) :
    appendBits i 4 ++ appendBits total 4 ++ appendBits parity 8 = appendBits (i * 4096 + total * 256 + parity) 16 := by
  rw [Proofs.Roundtrip.appendBits_append i 4 4 total (by omega), Proofs.Roundtrip.appendBits_append (i * 2 ^ 4 + total) (4 + 4) 8 parity (by omega)]
  have e : (i * 2 ^ 4 + total) * 2 ^ 8 + parity = i * 4096 + total * 256 + parity := by omega
  rw [e]

theorem saHeader_eq (i total parity : Nat) (ht : total < 16) (hp : parity < 256) :
    saHeader (some (i, total, parity)) = appendBits 3 4 ++ appendBits (i * 4096 + total * 256 + parity) 16 := by
  unfold saHeader
  rw [← sa_fields i total parity ht hp]
  simp only [List.append_assoc]
  rfl

theorem go_sa (v : Int) (st : List Nat) (tlen mb fuel pos : Nat) (eci : Option Nat) (p x p2 : Nat)
    (h : (st.length - pos == 0 || allZero ((st.drop pos).take (min (st.length - pos) tlen))) = false)
    (hv : v > 0)
    (hmi : takeBits st pos mb = some (3, p))
    (hx : takeBits st p 16 = some (x, p2)) :
    parseStream.go v st tlen mb (fuel + 1) pos eci none []
      = parseStream.go v st tlen mb fuel p2 eci (some (x / 4096, (x / 256) % 16, x % 256)) [] := by
  rw [parseStream.go]
  simp only [h, hmi, hx, hv, decide_true, Bool.true_and]
  simp

theorem go_sa_hdr (v : Int) (st pre post : List Nat) (i total parity fuel : Nat) (eci : Option Nat)
    (hv : v > 0) (hi : i < 16) (ht : total < 16) (hp : parity < 256)
    (hst : st = pre ++ saHeader (some (i, total, parity)) ++ post) :
    parseStream.go v st (terminatorLen v) (modeBits v) (fuel + 1) pre.length eci none []
      = parseStream.go v st (terminatorLen v) (modeBits v) fuel (pre.length + 20) eci (some (i, total, parity)) [] := by
  rw [terminatorLen_qr hv, modeBits_qr hv]
  generalize hX : i * 4096 + total * 256 + parity = x
  have hx16 : x < 2 ^ 16 := by omega
  rw [saHeader_eq i total parity ht hp, hX] at hst
  have hst' : st = pre ++ (appendBits 3 4 ++ [] ++ appendBits x 16 ++ post) := by
    rw [hst]; simp only [List.append_assoc, List.append_nil]
  have hlen : st.length - pre.length = 20 + post.length := by
    rw [hst]; simp only [List.length_append, Proofs.Roundtrip.appendBits_length]; omega
  have h : (st.length - pre.length == 0 ||
      allZero ((st.drop pre.length).take (min (st.length - pre.length) 4))) = false := by
    rw [hlen]
    have : (20 + post.length == 0) = false := by simp
    rw [this, Bool.false_or, hst', List.drop_left]
    exact not_allZero_header 3 4 x 16 _ [] post (by decide) hx16 (by omega) (Or.inl (by decide))
  have t1 := Proofs.Roundtrip.takeBits_at st pre (appendBits x 16 ++ post) 3 4 pre.length
    (by rw [hst]; simp only [List.append_assoc]) rfl (by decide)
  have t2 := Proofs.Roundtrip.takeBits_at st (pre ++ appendBits 3 4) post x 16 (pre.length + 4)
    (by rw [hst]; simp only [List.append_assoc])
    (by rw [List.length_append, Proofs.Roundtrip.appendBits_length]) hx16
  rw [go_sa v st 4 4 fuel pre.length eci (pre.length + 4) x (pre.length + 4 + 16) h hv t1 t2]
  have e1 : x / 4096 = i := by omega
  have e2 : x / 256 % 16 = total := by omega
  have e3 : x % 256 = parity := by omega
  rw [e1, e2, e3]

theorem parseStream_sa_list_tail (v : Int) (eci : Bool) (f : String → Option Nat) (items : List (List Nat × Model.Segment))
    (segBits : List (List Nat)) (tail : List Nat) (i total parity : Nat)
    (h1 : 1 ≤ v) (h2 : v ≤ 40) (hi : i < 16) (ht : total < 16) (hp : parity < 256)
    (hok : ∀ x ∈ items, ItemOk v eci f x)
    (hw : (items.map (·.2)).mapM (fun s => Model.writeSegment s v eci f) = .ok segBits)
    (htail : allZero (tail.take (min tail.length (terminatorLen v))) = true) :
    Spec.parseStream v (saHeader (some (i, total, parity)) ++ segBits.flatten ++ tail)
      = .ok { sa := some (i, total, parity), segments := items.map (expected eci f),
              endPos := (saHeader (some (i, total, parity)) ++ segBits.flatten).length } := by
  have hlen : (saHeader (some (i, total, parity))).length = ([] : List Nat).length + 20 :=
    Proofs.Sequence.saHeader_length (some (i, total, parity))
  unfold parseStream
  dsimp only
  refine (go_sa_hdr v (saHeader (some (i, total, parity)) ++ segBits.flatten ++ tail) [] (segBits.flatten ++ tail) i total parity
    ((saHeader (some (i, total, parity)) ++ segBits.flatten ++ tail).length + 1) none (by omega) hi ht hp
    (by simp only [List.nil_append, List.append_assoc])).trans ?_
  rw [← hlen]
  exact go_items_tail v eci f items segBits _ tail _ [] _ (by omega) h2 (fun _ => h1) hok hw htail
    (by simp only [List.length_append]; omega)

end Proofs.SequenceRoundtrip
