/-
  Proofs.TieA — what every tie rests on: the map from the exception classes of the translated code (`Gen.Py.PyExc`) to the
  outcomes of the hand-written model (`Model.PyErr`) with the composition of tied steps behind it (`toR_bind_map`), and the
  bridge between the Python containers of the translation and the access functions of the model: a tuple subscript against
  `List.getElem?` (`index_map_ofNat`), `i in d.values()` against the search of a name table by value (`in_values_tie`), a nested
  dict `T[a][b]` in dict order against a flat sorted table of `Gen.Tables` (the checker `sameTable` with `nested_of_sameTable`).
-/
import Gen.Funcs
import Model.Args
import Model.Iter
import Model.Sequence
import Model.Png
import Model.RasterDocs
import Proofs.Except
import Mathlib.Tactic.SplitIfs

namespace Proofs.TieA
open Gen.Py

/-- exception class of the translated code ↦ outcome of the model.  The model has no `AttributeError` /
    `ZeroDivisionError` of its own (Model/Args.lean: an uncaught `AttributeError` is a `typeError` outcome). -/
def exc : PyExc → Model.PyErr
  | .valueError => .valueError | .dataOverflow => .dataOverflow | .indexError => .indexError
  | .keyError => .keyError | .typeError => .typeError | .attributeError => .typeError
  | .assertionError => .assertionError | .unicodeError => .unicodeError | .lookupError => .lookupError
  | .zeroDivisionError => .typeError
  | .stopIteration => .typeError | .fuelExhausted => .typeError
  | .unboundLocalError => .typeError

def toR {α : Type} (x : M α) : Model.R α := x.mapError exc

@[simp] theorem toR_ok {α : Type} (a : α) : toR (Except.ok a : M α) = Except.ok a := rfl
@[simp] theorem toR_error {α : Type} (e : PyExc) : toR (Except.error e : M α) = Except.error (exc e) := rfl

theorem toR_bind {α β : Type} (x : M α) (f : α → M β) :
    toR (Gen.Py.bind x f) = (toR x) >>= (fun a => toR (f a)) := by
  cases x <;> rfl

theorem toR_ok_inv {α : Type} {x : M α} {a : α} (h : toR x = .ok a) : x = .ok a := by
  cases x with
  | error e => cases h
  | ok b => simp only [toR_ok, Except.ok.injEq] at h; rw [h]

theorem toR_err_inv {α : Type} {x : M α} {e' : Model.PyErr} (h : toR x = .error e') : ∃ e, x = .error e ∧ exc e = e' := by
  cases x with
  | error e => exact ⟨e, rfl, by simpa using h⟩
  | ok b => cases h

theorem toR_bind_map {α β γ δ : Type} {x : M α} {y : Model.R β} {f : β → α} {k : α → M γ} {k' : β → Model.R δ} {g : δ → γ}
    (hx : toR x = y.map f) (hk : ∀ b, y = .ok b → toR (k (f b)) = (k' b).map g) :
    toR (Gen.Py.bind x k) = (y >>= k').map g := by
  cases y with
  | error e =>
    obtain ⟨ex, he, hee⟩ := toR_err_inv hx
    rw [he]
    exact congrArg Except.error hee
  | ok b =>
    rw [toR_ok_inv hx]
    exact hk b rfl

def ofOption {α : Type} (e : PyExc) : Option α → M α
  | some a => .ok a
  | none => .error e

@[simp] theorem ofOption_some {α : Type} (e : PyExc) (a : α) : ofOption e (some a) = .ok a := rfl
@[simp] theorem ofOption_none {α : Type} (e : PyExc) : ofOption e (none : Option α) = .error e := rfl

/-- closes a linear-arithmetic goal, also when it is stated as an equation between Booleans -/
macro "bool_omega" : tactic => `(tactic| first | omega | (rw [Bool.eq_iff_iff]; simp; omega))

/-- `xs[p]` for a natural index: the access of `List`, `IndexError` beyond the end -/
theorem index_nat {α : Type} (xs : List α) (p : Nat) : index xs (p : Int) = ofOption .indexError xs[p]? := by
  unfold index
  by_cases h : p < xs.length
  · rw [if_pos ⟨by omega, by omega⟩]
    simp [h]
  · rw [if_neg (by omega), if_neg (by omega), List.getElem?_eq_none (by omega)]
    rfl

theorem index_map_ofNat (l : List Nat) (n : Nat) :
    index (l.map Int.ofNat) (n : Int) = ofOption .indexError (l[n]?.map Int.ofNat) := by
  rw [index_nat, List.getElem?_map]

theorem any_values (vals : List Int) (tab : List (String × Nat)) (i : Int)
    (h1 : ∀ x ∈ vals, ∃ kv ∈ tab, (kv.2 : Int) = x) (h2 : ∀ kv ∈ tab, (kv.2 : Int) ∈ vals) :
    vals.any (fun y => i == y) = (tab.find? (fun kv => (kv.2 : Int) == i)).isSome := by
  rw [Bool.eq_iff_iff, List.any_eq_true, List.find?_isSome]
  constructor
  · rintro ⟨x, hx, hix⟩
    obtain ⟨kv, hkv, rfl⟩ := h1 x hx
    exact ⟨kv, hkv, by rw [beq_iff_eq] at hix ⊢; exact hix.symm⟩
  · rintro ⟨kv, hkv, hi⟩
    exact ⟨_, h2 kv hkv, by rw [beq_iff_eq] at hi ⊢; exact hi.symm⟩

/-- `if i in d.values(): return i`, otherwise `ValueError`, against the model's search of the name table by value:
    the constant found is `i` itself -/
theorem in_values_tie (vals : List Int) (tab : List (String × Nat)) (i : Int)
    (h1 : ∀ x ∈ vals, ∃ kv ∈ tab, (kv.2 : Int) = x) (h2 : ∀ kv ∈ tab, (kv.2 : Int) ∈ vals) :
    toR (if vals.any (fun y => i == y) then (Except.ok (some i) : M (Option Int)) else .error .valueError)
      = Except.map (Option.map Int.ofNat)
          (match (tab.find? (fun kv => (kv.2 : Int) == i)).map (·.2) with
           | some c => (pure (some c) : Model.R (Option Nat))
           | none => throw Model.PyErr.valueError) := by
  rw [any_values vals tab i h1 h2]
  cases h : tab.find? (fun kv => (kv.2 : Int) == i) with
  | none => rfl
  | some kv =>
    have := List.find?_some h
    rw [beq_iff_eq] at this
    simp only [Option.isSome_some, if_true, Option.map_some, ← this]
    rfl

theorem lookup_absent {κ ν : Type} [BEq κ] (d : List (κ × ν)) (k : κ) (h : ∀ kv ∈ d, (kv.1 == k) = false) :
    lookup d k = .error .keyError := by
  unfold lookup
  rw [List.find?_eq_none.mpr]
  intro x hx
  simp [h x hx]

theorem lookup_cases {κ ν : Type} [BEq κ] (d : List (κ × ν)) (k : κ) :
    lookup d k = .error .keyError ∨ ∃ p ∈ d, (p.1 == k) = true ∧ lookup d k = .ok p.2 := by
  unfold lookup
  cases hf : d.find? (fun kv => kv.1 == k) with
  | none => exact Or.inl rfl
  | some p => exact Or.inr ⟨p, List.mem_of_find?_eq_some hf, List.find?_some (p := fun kv : κ × ν => kv.1 == k) hf, rfl⟩

theorem lookup_cast {β γ : Type} (c : β → γ) (T : List (Nat × β)) (k : Nat) :
    lookup (T.map (fun p => ((p.1 : Int), c p.2))) (k : Int) = ofOption .keyError ((Model.assoc T k).map c) := by
  induction T with
  | nil => rfl
  | cons p t ih =>
    unfold lookup Model.assoc at ih ⊢
    have e : (((p.1 : Nat) : Int) == (k : Int)) = (p.1 == k) := by
      rw [Bool.eq_iff_iff]; simp only [beq_iff_eq]; omega
    simp only [List.map_cons, List.find?_cons, e]
    cases p.1 == k
    · exact ih
    · rfl
/-- the nested dict `T` (keys `κ₁`, `κ₂`) and the flat table `G` (keys `ι₁`, `ι₂`) hold the same entries: every row of `G` is
    found in `T` under the translated keys with the translated value, and every key pair of `T` is the translation of one of `G` -/
def sameTable {ι₁ ι₂ κ₁ κ₂ α β : Type} [BEq κ₁] [BEq κ₂] [DecidableEq β]
    (T : List (κ₁ × List (κ₂ × β))) (G : List (ι₁ × ι₂ × α)) (k₁ : ι₁ → κ₁) (k₂ : ι₂ → κ₂) (f : α → β) : Bool :=
  G.all (fun x => decide (Gen.Py.bind (lookup T (k₁ x.1)) (fun d => lookup d (k₂ x.2.1)) = .ok (f x.2.2))) &&
  T.all (fun p => p.2.all (fun kv => G.any (fun x => k₁ x.1 == p.1 && k₂ x.2.1 == kv.1)))

/-- … then `T[k₁ a][k₂ b]` is the row `(a, b, _)` of `G` for EVERY pair of keys, `KeyError` where `G` has none -/
theorem nested_of_sameTable {ι₁ ι₂ κ₁ κ₂ α β : Type} [BEq κ₁] [LawfulBEq κ₁] [BEq κ₂] [LawfulBEq κ₂] [DecidableEq β]
    [BEq ι₁] [LawfulBEq ι₁] [BEq ι₂] [LawfulBEq ι₂]
    {T : List (κ₁ × List (κ₂ × β))} {G : List (ι₁ × ι₂ × α)} {k₁ : ι₁ → κ₁} {k₂ : ι₂ → κ₂} {f : α → β}
    (h : sameTable T G k₁ k₂ f = true) (h₁ : ∀ a a', k₁ a = k₁ a' → a = a') (h₂ : ∀ b b', k₂ b = k₂ b' → b = b') (a : ι₁) (b : ι₂) :
    Gen.Py.bind (lookup T (k₁ a)) (fun d => lookup d (k₂ b))
      = ofOption .keyError (((G.find? (fun x => x.1 == a && x.2.1 == b)).map (·.2.2)).map f) := by
  simp only [sameTable, Bool.and_eq_true, List.all_eq_true, decide_eq_true_eq, List.any_eq_true, beq_iff_eq] at h
  obtain ⟨hG, hT⟩ := h
  cases hf : G.find? (fun x => x.1 == a && x.2.1 == b) with
  | some x =>
    have hx := List.find?_some hf
    simp only [Bool.and_eq_true, beq_iff_eq] at hx
    rw [← hx.1, ← hx.2]
    exact hG x (List.mem_of_find?_eq_some hf)
  | none =>
    -- a hit in `T` would be the translation of a row of `G` with these keys
    rcases lookup_cases T (k₁ a) with hl | ⟨p, hp, hpa, hl⟩ <;> rw [hl]
    · rfl
    · rw [bind_ok]
      rcases lookup_cases p.2 (k₂ b) with hl2 | ⟨kv, hkv, hkb, -⟩
      · exact hl2
      · obtain ⟨x, hx, e1, e2⟩ := hT p hp kv hkv
        have := List.find?_eq_none.mp hf x hx
        rw [h₁ _ _ (e1.trans (beq_iff_eq.mp hpa)), h₂ _ _ (e2.trans (beq_iff_eq.mp hkb))] at this
        simp at this

/-- the level key of a flat table (−1 = no level) as the key `None` / level of the dict -/
def unKey (k : Int) : Option Int := if k = -1 then none else some k

theorem unKey_lvlKey (e : Option Nat) : unKey (Model.lvlKey e) = e.map Int.ofNat := by
  cases e with
  | none => rfl
  | some n => exact if_neg (show ¬ ((n : Int) = -1) by omega)

theorem unKey_inj (b b' : Int) (h : unKey b = unKey b') : b = b' := by
  unfold unKey at h
  split at h <;> split at h <;> simp_all

theorem version_level_of_sameTable {α β : Type} [DecidableEq β] {T : List (Int × List (Option Int × β))} {G : List (Int × Int × α)}
    {f : α → β} (h : sameTable T G id unKey f = true) (v : Int) (e : Option Nat) :
    Gen.Py.bind (lookup T v) (fun d => lookup d (e.map Int.ofNat)) = ofOption .keyError ((Model.lookup2 G v (Model.lvlKey e)).map f) := by
  rw [← unKey_lvlKey]
  exact nested_of_sameTable h (fun _ _ h => h) unKey_inj v (Model.lvlKey e)

/-- the two dumps of `consts.FORMAT_INFO` (that of the translation, that of `Gen.Tables`) agree -/
theorem format_info_tables : Gen.Funcs.T_consts_FORMAT_INFO = Gen.FORMAT_INFO.map Int.ofNat := by decide
theorem format_info_micro_tables : Gen.Funcs.T_consts_FORMAT_INFO_MICRO = Gen.FORMAT_INFO_MICRO.map Int.ofNat := by decide

/-- a mode without an entry in `consts.SUPPORTED_MODES` -/
theorem isModeSupported_unknown (mode : Nat) (h : mode ≠ 1 ∧ mode ≠ 2 ∧ mode ≠ 4 ∧ mode ≠ 7 ∧ mode ≠ 8 ∧ mode ≠ 13) (v : Int) :
    Model.isModeSupported mode v = none := by
  have keys : ∀ x ∈ Gen.SUPPORTED_MODES, x.1 ∈ [1, 2, 4, 7, 8, 13] := by decide
  unfold Model.isModeSupported Model.assoc
  rw [List.find?_eq_none.mpr, Option.map_none, Option.map_none]
  intro x hx
  have := keys x hx
  simp only [List.mem_cons, List.not_mem_nil, or_false] at this
  simp only [beq_iff_eq]
  omega

end Proofs.TieA
