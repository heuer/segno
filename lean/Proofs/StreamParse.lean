/-
  The reference stream parser `Spec.parseStream` on what `Model.writeSegment` writes (`writeSegment_eq`: an ECI header
  `eciPart`, a mode indicator `modePart`, count and payload): one loop iteration consumes an ECI header (`go_eci_hdr`) or
  mode indicator, count and payload of a segment (`go_body`); a tail that starts with enough zero bits stops it
  (`go_stop_tail`, `isoTail_stop`).  `go_items_tail` puts these together, from any position, header triple and
  accumulated segments.  What the other files use: `ItemOk` (the hypotheses on one data / segment pair), `expected`
  (the segment the parser should report for it, with the ECI number `eciOf`), and `parseStream_list_tail`,
  `parseStream_single_tail` (from the start of a stream).
-/
import Spec.Decode
import Spec.Sizing
import Model.Encoder
import Proofs.Roundtrip
import Proofs.Stream
import Proofs.Sizing
import Proofs.Except

namespace Proofs.StreamParse
open Model Spec

theorem terminatorLen_qr {v : Int} (hv : v > 0) : terminatorLen v = 4 := if_pos hv

theorem modeBits_qr {v : Int} (hv : v > 0) : modeBits v = 4 := if_pos hv

/-- one iteration of `parseStream.go` over a segment header and payload, given what each read returns -/
theorem go_segment (v : Int) (st : List Nat) (tlen mb fuel pos : Nat) (eci : Option Nat)
    (sa : Option (Nat × Nat × Nat)) (acc : List Spec.Segment) (mi mode p p1 w cnt p2 p3 : Nat) (bytes : List Nat)
    (h : (st.length - pos == 0 || allZero ((st.drop pos).take (min (st.length - pos) tlen))) = false)
    (hmi : takeBits st pos mb = some (mi, p))
    (h3 : (decide (v > 0) && mi == 3) = false) (h7 : (decide (v > 0) && mi == 7) = false)
    (hmode : (if v > 0 then mi else microModeToQR mi) = mode)
    (hsub : (mode = 13 ∧ takeBits st p 4 = some (1, p1)) ∨ (mode ≠ 13 ∧ p1 = p))
    (hw : cciBits mode v = some w)
    (hcnt : takeBits st p1 w = some (cnt, p2))
    (hpc : parseChars st mode cnt p2 [] = .ok (bytes, p3)) :
    parseStream.go v st tlen mb (fuel + 1) pos eci sa acc
      = parseStream.go v st tlen mb fuel p3 none sa
          (acc ++ [{ mode := mode, eci := eci, count := cnt, bytes := bytes }]) := by
  rw [parseStream.go]
  simp only [h, hmi, h3, h7, hmode, Bool.false_eq_true, if_false]
  rcases hsub with ⟨h13, hs⟩ | ⟨h13, rfl⟩
  · subst h13
    simp only [hs, hw, hcnt, hpc, beq_self_eq_true, if_true]
  · have : (mode == 13) = false := by simpa using h13
    simp only [this, hw, hcnt, hpc, Bool.false_eq_true, if_false]

theorem allZero_append (a b : List Nat) : allZero (a ++ b) = (allZero a && allZero b) := by
  simp [allZero, List.all_append]

theorem allZero_replicate (n : Nat) : allZero (List.replicate n 0) = true := by
  simp [allZero]

theorem bitsToNat_allZero (l : List Nat) (h : allZero l = true) : Spec.bitsToNat l = 0 := by
  unfold Spec.bitsToNat
  induction l with
  | nil => rfl
  | cons x xs ih =>
    simp only [allZero, List.all_cons, Bool.and_eq_true, beq_iff_eq] at h
    obtain ⟨rfl, hx⟩ := h
    simp only [List.foldl_cons]
    exact ih (by simpa [allZero] using hx)

theorem allZero_take_prefix (a b : List Nat) (k : Nat) (hk : a.length ≤ k)
    (h : allZero ((a ++ b).take k) = true) : allZero a = true := by
  rw [List.take_append, List.take_of_length_le hk, allZero_append, Bool.and_eq_true] at h
  exact h.1

theorem appendBits_allZero (x w : Nat) (hx : x < 2 ^ w) (h : allZero (appendBits x w) = true) : x = 0 := by
  have := bitsToNat_allZero _ h
  rwa [Proofs.Roundtrip.bits_roundtrip w x hx] at this

theorem not_allZero_header (mi mb cnt cl k : Nat) (sub rest : List Nat)
    (hmi : mi < 2 ^ mb) (hcnt : cnt < 2 ^ cl) (hk : mb ≤ k)
    (h : mi ≠ 0 ∨ (sub = [] ∧ cnt ≠ 0 ∧ mb + cl ≤ k)) :
    allZero ((appendBits mi mb ++ sub ++ appendBits cnt cl ++ rest).take k) = false := by
  cases hz : allZero ((appendBits mi mb ++ sub ++ appendBits cnt cl ++ rest).take k) with
  | false => rfl
  | true =>
    exfalso
    rcases h with h | ⟨rfl, h, hk2⟩
    · rw [List.append_assoc, List.append_assoc] at hz
      have := allZero_take_prefix _ _ k (by rw [Proofs.Roundtrip.appendBits_length]; exact hk) hz
      exact h (appendBits_allZero mi mb hmi this)
    · rw [List.append_nil] at hz
      have := allZero_take_prefix _ _ k
        (by rw [List.length_append, Proofs.Roundtrip.appendBits_length, Proofs.Roundtrip.appendBits_length]; exact hk2) hz
      rw [allZero_append, Bool.and_eq_true] at this
      exact h (appendBits_allZero cnt cl hcnt this.2)

/-- `write_segment` tests `v < 1` where `bit_length_with_overhead` tests `v > 0` -/
theorem cciLen_writeSegment (m : Nat) (v : Int) (h1 : -3 ≤ v) (h2 : v ≤ 40) :
    cciLen m (if v < 1 then v else Gen.version_range v) = cciBits m v := by
  have h := Proofs.Sizing.cciLen_eq m v h1 h2
  by_cases hv : v < 1
  · have hv' : ¬ v > 0 := by omega
    simpa only [hv, hv', if_true, if_false] using h
  · have hv' : v > 0 := by omega
    simpa only [hv, hv', if_true, if_false] using h

/-- the ECI header of `write_segment` -/
def eciPart (s : Model.Segment) (eci : Bool) (eciNumber : String → Option Nat) : R (List Nat) :=
  if eci && s.mode == Gen.MODE_BYTE && s.encoding != some Gen.DEFAULT_BYTE_ENCODING then
    match eciNumber (s.encoding.getD "") with
    | some n => pure (appendBits Gen.MODE_ECI 4 ++ appendBits n 8)
    | none => throw PyErr.valueError
  else pure []

/-- the mode indicator of `write_segment` -/
def modePart (mode : Nat) (v : Int) : R (List Nat) :=
  if !(decide (v < 1)) then
    pure (appendBits mode 4 ++ (if mode == Gen.MODE_HANZI then appendBits 1 4 else []))
  else if v > Gen.VERSION_M1 then
    match assoc Gen.MODE_TO_MICRO_MODE_MAPPING mode with
    | some mm => pure (appendBits mm (v + 3).toNat)
    | none => throw PyErr.keyError
  else pure []

theorem writeSegment_eq (s : Model.Segment) (v : Int) (eci : Bool) (f : String → Option Nat) :
    writeSegment s v eci f =
      (eciPart s eci f).bind (fun e => (modePart s.mode v).bind (fun m =>
        match cciLen s.mode (if v < 1 then v else Gen.version_range v) with
        | some cl => .ok (e ++ m ++ appendBits s.charCount cl ++ s.bits)
        | none => .error PyErr.keyError)) := by
  unfold writeSegment eciPart modePart
  dsimp only
  -- both sides branch on the same conditions; in each branch they agree by computation
  by_cases c : v > Gen.VERSION_M1 <;> simp only [c, if_true, if_false] <;>
    cases cciLen s.mode (if v < 1 then v else Gen.version_range v) <;>
    cases f (s.encoding.getD "") <;>
    cases assoc Gen.MODE_TO_MICRO_MODE_MAPPING s.mode <;>
    cases (eci && s.mode == Gen.MODE_BYTE && s.encoding != some Gen.DEFAULT_BYTE_ENCODING) <;>
    cases decide (v < 1) <;>
    rfl

theorem writeSegment_ok (s : Model.Segment) (v : Int) (eci : Bool) (f : String → Option Nat)
    (bits : List Nat) (h1 : -3 ≤ v) (h2 : v ≤ 40) (hw : writeSegment s v eci f = .ok bits) :
    ∃ e m cl, eciPart s eci f = .ok e ∧ modePart s.mode v = .ok m ∧ cciBits s.mode v = some cl ∧
      bits = e ++ m ++ appendBits s.charCount cl ++ s.bits := by
  rw [writeSegment_eq] at hw
  cases he : eciPart s eci f with
  | error x => rw [he] at hw; cases hw
  | ok e =>
    cases hm : modePart s.mode v with
    | error x => rw [he, hm] at hw; cases hw
    | ok m =>
      rw [he, hm, cciLen_writeSegment s.mode v h1 h2] at hw
      cases hc : cciBits s.mode v with
      | none => rw [hc] at hw; cases hw
      | some cl =>
        rw [hc] at hw
        exact ⟨e, m, cl, rfl, rfl, rfl, (Except.ok.inj hw).symm⟩


/-- the mode indicator written by the model, as the parser will see it -/
theorem modePart_spec (mode : Nat) (v : Int) (m : List Nat) (cl : Nat) (h1 : -3 ≤ v) (h2 : v ≤ 40)
    (hmode : mode ∈ [1, 2, 4, 8, 13]) (hm : modePart mode v = .ok m) (hc : cciBits mode v = some cl) :
    ∃ mi, m = appendBits mi (modeBits v) ++ (if mode = 13 then appendBits 1 4 else [])
      ∧ mi < 2 ^ modeBits v
      ∧ (if v > 0 then mi else microModeToQR mi) = mode
      ∧ (decide (v > 0) && mi == 3) = false ∧ (decide (v > 0) && mi == 7) = false
      ∧ modeBits v ≤ terminatorLen v
      ∧ (mi ≠ 0 ∨ (mode ≠ 13 ∧ modeBits v + cl ≤ terminatorLen v)) := by
  simp only [List.mem_cons, List.mem_nil_iff, or_false] at hmode
  by_cases hv : v > 0
  · -- QR: the mode constant itself, in four bits
    unfold modePart at hm
    rw [if_pos (by simp; omega)] at hm
    cases hm
    simp only [modeBits_qr hv, terminatorLen_qr hv, hv, if_true, decide_true, Bool.true_and]
    refine ⟨mode, ?_, ?_, rfl, ?_, ?_, Nat.le_refl _, Or.inl ?_⟩ <;>
      rcases hmode with rfl | rfl | rfl | rfl | rfl <;> first | rfl | decide
  · have hv' : v = -3 ∨ v = -2 ∨ v = -1 ∨ v = 0 := by omega
    rcases hv' with rfl | rfl | rfl | rfl <;> rcases hmode with rfl | rfl | rfl | rfl | rfl <;>
      first
        | exact absurd (Option.isSome_of_eq_some hc) (by decide)
        | (cases hm; cases hc; first | exact ⟨0, by decide⟩ | exact ⟨1, by decide⟩ | exact ⟨2, by decide⟩ | exact ⟨3, by decide⟩)

/-- one iteration over mode indicator ‖ count ‖ payload of a `make_segment` result.  The header is not taken
    for a terminator: the mode indicator is non-zero, or (Micro QR numeric, indicator 0) the count is. -/
theorem go_body (data : List Nat) (mode : Option Nat) (enc : String) (s : Model.Segment) (v : Int)
    (m : List Nat) (cl : Nat) (pre post st : List Nat) (fuel : Nat) (eci : Option Nat)
    (sa : Option (Nat × Nat × Nat)) (acc : List Spec.Segment)
    (h1 : -3 ≤ v) (h2 : v ≤ 40) (hd : ∀ b ∈ data, b < 256) (hne : ¬ v > 0 → data ≠ [])
    (hm : mode ∈ [none, some 1, some 2, some 4, some 8, some 13])
    (hs : Model.makeSegment data mode enc = .ok s)
    (hmp : modePart s.mode v = .ok m) (hc : cciBits s.mode v = some cl) (hcount : s.charCount < 2 ^ cl)
    (hst : st = pre ++ (m ++ appendBits s.charCount cl ++ s.bits) ++ post) :
    parseStream.go v st (terminatorLen v) (modeBits v) (fuel + 1) pre.length eci sa acc
      = parseStream.go v st (terminatorLen v) (modeBits v) fuel
          (pre.length + (m ++ appendBits s.charCount cl ++ s.bits).length) none sa
          (acc ++ [{ mode := s.mode, eci := eci, count := s.charCount, bytes := data }]) := by
  obtain ⟨k, hmode, hrep, hseg⟩ := Proofs.Modes.makeSegment_ok_cases data mode enc s hm hs
  have hsm : s.mode = k := by rw [hseg]; rfl
  rw [← hsm] at hmode
  obtain ⟨mi, hmeq, hmi, hmq, h3, h7, hmt, hnz⟩ := modePart_spec s.mode v m cl h1 h2 hmode hmp hc
  generalize hsubdef : (if s.mode = 13 then appendBits 1 4 else []) = sub at hmeq
  have hsublen : (s.mode = 13 ∧ sub = appendBits 1 4) ∨ (s.mode ≠ 13 ∧ sub = []) := by
    by_cases h13 : s.mode = 13
    · rw [if_pos h13] at hsubdef; exact Or.inl ⟨h13, hsubdef.symm⟩
    · rw [if_neg h13] at hsubdef; exact Or.inr ⟨h13, hsubdef.symm⟩
  subst hmeq
  have hst' : st = pre ++ (appendBits mi (modeBits v) ++ sub ++ appendBits s.charCount cl ++ (s.bits ++ post)) := by
    rw [hst]; simp only [List.append_assoc]
  -- what `go_segment` asks for: the parser does not stop here (`h`, from `hz`), then its four reads, each at the end of
  -- what is written in front of it (`tmi`, `tsub`, `tcnt`, `tpc`)
  have hz : allZero (((st.drop pre.length).take (min (st.length - pre.length) (terminatorLen v)))) = false := by
    rw [hst', List.drop_left]
    have hlen : (pre ++ (appendBits mi (modeBits v) ++ sub ++ appendBits s.charCount cl ++ (s.bits ++ post))).length
        - pre.length = modeBits v + sub.length + cl + (s.bits ++ post).length := by
      simp only [List.length_append, Proofs.Roundtrip.appendBits_length]; omega
    rw [hlen]
    apply not_allZero_header mi (modeBits v) s.charCount cl _ sub (s.bits ++ post) hmi hcount (by omega)
    rcases hnz with hnz | ⟨hn13, hle⟩
    · exact Or.inl hnz
    · by_cases hmi0 : mi = 0
      · right
        rcases hsublen with ⟨h13, _⟩ | ⟨_, hsub⟩
        · exact absurd h13 hn13
        · refine ⟨hsub, ?_, ?_⟩
          · -- a zero mode indicator is Micro QR numeric, whose count is the number of digits
            by_cases hv : v > 0
            · rw [if_pos hv, hmi0] at hmq
              rw [← hmq] at hmode; exact absurd hmode (by decide)
            · rw [if_neg hv, hmi0] at hmq
              subst hsm
              rw [hseg, ← hmq]
              exact fun h0 => hne hv (List.eq_nil_of_length_eq_zero h0)
          · rw [hsub]; simp only [List.length_nil]; omega
      · exact Or.inl hmi0
  have h : (st.length - pre.length == 0 ||
      allZero ((st.drop pre.length).take (min (st.length - pre.length) (terminatorLen v)))) = false := by
    rw [hz, Bool.or_false]
    cases hr : (st.length - pre.length == 0) with
    | false => rfl
    | true =>
      rw [beq_iff_eq] at hr
      rw [hr] at hz
      simp [allZero] at hz
  have tmi := Proofs.Roundtrip.takeBits_at st pre (sub ++ appendBits s.charCount cl ++ (s.bits ++ post))
    mi (modeBits v) pre.length (by rw [hst']; simp only [List.append_assoc]) rfl hmi
  have tsub : (s.mode = 13 ∧ takeBits st (pre.length + modeBits v) 4 = some (1, pre.length + modeBits v + sub.length))
      ∨ (s.mode ≠ 13 ∧ pre.length + modeBits v + sub.length = pre.length + modeBits v) := by
    rcases hsublen with ⟨h13, hsub⟩ | ⟨h13, hsub⟩
    · left
      refine ⟨h13, ?_⟩
      have := Proofs.Roundtrip.takeBits_at st (pre ++ appendBits mi (modeBits v))
        (appendBits s.charCount cl ++ (s.bits ++ post)) 1 4 (pre.length + modeBits v)
        (by rw [hst', hsub]; simp only [List.append_assoc])
        (by rw [List.length_append, Proofs.Roundtrip.appendBits_length]) (by decide)
      rw [this, hsub, Proofs.Roundtrip.appendBits_length]
    · right
      exact ⟨h13, by rw [hsub]; rfl⟩
  have tcnt := Proofs.Roundtrip.takeBits_at st (pre ++ appendBits mi (modeBits v) ++ sub) (s.bits ++ post)
    s.charCount cl (pre.length + modeBits v + sub.length)
    (by rw [hst']; simp only [List.append_assoc])
    (by simp only [List.length_append, Proofs.Roundtrip.appendBits_length]) hcount
  have tpc := Proofs.Roundtrip.segment_roundtrip data mode enc s
    (pre ++ appendBits mi (modeBits v) ++ sub ++ appendBits s.charCount cl) post hd hm hs
  have hst'' : pre ++ appendBits mi (modeBits v) ++ sub ++ appendBits s.charCount cl ++ s.bits ++ post = st := by
    rw [hst']; simp only [List.append_assoc]
  rw [hst''] at tpc
  have hpos : (pre ++ appendBits mi (modeBits v) ++ sub ++ appendBits s.charCount cl).length
      = pre.length + modeBits v + sub.length + cl := by
    simp only [List.length_append, Proofs.Roundtrip.appendBits_length]
  rw [hpos] at tpc
  rw [go_segment v st (terminatorLen v) (modeBits v) fuel pre.length eci sa acc mi s.mode
    (pre.length + modeBits v) (pre.length + modeBits v + sub.length) cl s.charCount
    (pre.length + modeBits v + sub.length + cl) (pre.length + modeBits v + sub.length + cl + s.bits.length) data
    h tmi h3 h7 hmq tsub hc tcnt tpc]
  congr 1
  simp only [List.length_append, Proofs.Roundtrip.appendBits_length]
  omega

theorem go_stop_tail (v : Int) (st : List Nat) (tlen mb fuel : Nat) (sa : Option (Nat × Nat × Nat))
    (acc : List Spec.Segment) (bits tail : List Nat) (hst : st = bits ++ tail)
    (hz : allZero (tail.take (min tail.length tlen)) = true) :
    parseStream.go v st tlen mb (fuel + 1) bits.length none sa acc
      = .ok { sa := sa, segments := acc, endPos := bits.length } := by
  have hl : st.length - bits.length = tail.length := by rw [hst, List.length_append]; omega
  rw [parseStream.go, hl, hst, List.drop_left, hz, Bool.or_true, if_pos rfl]
  rfl

theorem allZero_take_replicate_append (n k : Nat) (l : List Nat) (h : k ≤ n) :
    allZero ((List.replicate n 0 ++ l).take k) = true := by
  rw [List.take_append_of_le_length (by rw [List.length_replicate]; exact h), List.take_replicate]
  exact allZero_replicate _

theorem isoTail_zero (v : Int) (cap len k : Nat) (hk : k ≤ min (cap - len) (terminatorLen v)) :
    allZero ((isoTail v cap len).take k) = true := by
  unfold isoTail
  dsimp only
  generalize (if fourBitFinal v = true then cap - 4 else cap) = full
  split
  · have := allZero_take_replicate_append (cap - len) k [] (by omega)
    rwa [List.append_nil] at this
  · rw [List.append_assoc]
    exact allZero_take_replicate_append _ k _ (by omega)

theorem d1Tail_zero (v : Int) (cap len k : Nat) (hk : k ≤ min (cap - len) (terminatorLen v)) :
    allZero ((d1Tail v cap len).take k) = true := by
  unfold d1Tail
  dsimp only
  split
  · exact isoTail_zero v cap len k hk
  · exact allZero_take_replicate_append _ k _ (by omega)

theorem go_eci_hdr (v : Int) (st pre post : List Nat) (n fuel : Nat) (eci : Option Nat)
    (sa : Option (Nat × Nat × Nat)) (acc : List Spec.Segment) (hv : v > 0) (hn : n < 128)
    (hst : st = pre ++ (appendBits 7 4 ++ appendBits n 8) ++ post) :
    parseStream.go v st (terminatorLen v) (modeBits v) (fuel + 1) pre.length eci sa acc
      = parseStream.go v st (terminatorLen v) (modeBits v) fuel (pre.length + 12) (some n) sa acc := by
  rw [terminatorLen_qr hv, modeBits_qr hv]
  have hn' : n < 2 ^ 8 := by omega
  -- the loop goes on (`h`: 0111 is not a terminator), reads the mode indicator 7 (`t1`) and the assignment number in 8 bits (`t2`)
  have hst' : st = pre ++ (appendBits 7 4 ++ [] ++ appendBits n 8 ++ post) := by
    rw [hst]; simp only [List.append_assoc, List.append_nil]
  have hlen : st.length - pre.length = 12 + post.length := by
    rw [hst]; simp only [List.length_append, Proofs.Roundtrip.appendBits_length]; omega
  have h : (st.length - pre.length == 0 ||
      allZero ((st.drop pre.length).take (min (st.length - pre.length) 4))) = false := by
    rw [hlen]
    have : (12 + post.length == 0) = false := by simp
    rw [this, Bool.false_or, hst', List.drop_left]
    exact not_allZero_header 7 4 n 8 _ [] post (by decide) hn' (by omega) (Or.inl (by decide))
  have t1 := Proofs.Roundtrip.takeBits_at st pre (appendBits n 8 ++ post) 7 4 pre.length
    (by rw [hst]; simp only [List.append_assoc]) rfl (by decide)
  have t2 := Proofs.Roundtrip.takeBits_at st (pre ++ appendBits 7 4) post n 8 (pre.length + 4)
    (by rw [hst]; simp only [List.append_assoc])
    (by rw [List.length_append, Proofs.Roundtrip.appendBits_length]) hn'
  rw [parseStream.go]
  simp only [h, t1, t2, hv, hn, if_true, decide_true, Bool.true_and]
  simp

theorem isoTail_stop (v : Int) (cap len : Nat) (e : Option Nat)
    (hc : Model.capacity v e = some cap) (hl : len ≤ cap) :
    allZero ((isoTail v cap len).take (min (isoTail v cap len).length (terminatorLen v))) = true := by
  have := Proofs.Stream.isoTail_length v cap len e hc hl
  exact isoTail_zero v cap len _ (by omega)

theorem d1Tail_stop (v : Int) (cap len : Nat) (e : Option Nat)
    (hc : Model.capacity v e = some cap) (hl : len ≤ cap) :
    allZero ((d1Tail v cap len).take (min (d1Tail v cap len).length (terminatorLen v))) = true := by
  have := Proofs.Stream.d1Tail_length v cap len e hc hl
  exact d1Tail_zero v cap len _ (by omega)

/-- the ECI designator `write_segment` puts in front of a segment (none: no ECI header) -/
def eciOf (s : Model.Segment) (eci : Bool) (eciNumber : String → Option Nat) : Option Nat :=
  if eci && s.mode == Gen.MODE_BYTE && s.encoding != some Gen.DEFAULT_BYTE_ENCODING then
    eciNumber (s.encoding.getD "")
  else none

theorem eciPart_ok (s : Model.Segment) (eci : Bool) (f : String → Option Nat) (e : List Nat)
    (h : eciPart s eci f = .ok e) :
    (eciOf s eci f = none ∧ e = []) ∨
    (eci = true ∧ ∃ n, eciOf s eci f = some n ∧ e = appendBits 7 4 ++ appendBits n 8) := by
  unfold eciPart at h
  unfold eciOf
  by_cases c : (eci && s.mode == Gen.MODE_BYTE && s.encoding != some Gen.DEFAULT_BYTE_ENCODING) = true
  · rw [if_pos c] at h
    rw [if_pos c]
    right
    refine ⟨by simp only [Bool.and_eq_true] at c; exact c.1.1, ?_⟩
    cases hf : f (s.encoding.getD "") with
    | none => rw [hf] at h; cases h
    | some n => rw [hf] at h; exact ⟨n, rfl, (Except.ok.inj h).symm⟩
  · rw [if_neg c] at h
    rw [if_neg c]
    exact Or.inl ⟨rfl, (Except.ok.inj h).symm⟩

theorem cci_table_pos : cciTable.all (fun x => decide (0 < x.2.2)) = true := by decide +kernel

theorem cci_pos {m : Nat} {v : Int} {cl : Nat} (h : cciBits m v = some cl) : 0 < cl := by
  unfold cciBits at h
  rw [Option.map_eq_some_iff] at h
  obtain ⟨x, hx, rfl⟩ := h
  have := List.all_eq_true.mp cci_table_pos x (List.mem_of_find?_eq_some hx)
  simpa using this

/-- what the round trip asks of a pair (data bytes, segment `makeSegment` built from them) in version `v`: bytes, not empty in
    a Micro QR Code, a count that fits the count indicator, an ECI number of one byte -/
def ItemOk (v : Int) (eci : Bool) (f : String → Option Nat) (x : List Nat × Model.Segment) : Prop :=
  (∀ b ∈ x.1, b < 256) ∧ (¬ v > 0 → x.1 ≠ []) ∧
  (∃ mode enc, mode ∈ [none, some 1, some 2, some 4, some 8, some 13] ∧ Model.makeSegment x.1 mode enc = .ok x.2) ∧
  (∀ w, cciBits x.2.mode v = some w → x.2.charCount < 2 ^ w) ∧
  (∀ n, eciOf x.2 eci f = some n → n < 128)

/-- the segment the reference parser should report for such a pair -/
def expected (eci : Bool) (f : String → Option Nat) (x : List Nat × Model.Segment) : Spec.Segment :=
  { mode := x.2.mode, eci := eciOf x.2 eci f, count := x.2.charCount, bytes := x.1 }

/-- one written segment (with or without ECI header) costs at most two iterations, and no more
    iterations than it has bits -/
theorem go_written (v : Int) (eci : Bool) (f : String → Option Nat) (x : List Nat × Model.Segment)
    (bits pre post st : List Nat) (sa : Option (Nat × Nat × Nat)) (acc : List Spec.Segment)
    (h1 : -3 ≤ v) (h2 : v ≤ 40) (hev : eci = true → 1 ≤ v) (hx : ItemOk v eci f x)
    (hw : Model.writeSegment x.2 v eci f = .ok bits) (hst : st = pre ++ bits ++ post) :
    ∃ u, u ≤ bits.length ∧ ∀ fuel,
      parseStream.go v st (terminatorLen v) (modeBits v) (fuel + u) pre.length none sa acc
        = parseStream.go v st (terminatorLen v) (modeBits v) fuel (pre.length + bits.length) none sa
            (acc ++ [expected eci f x]) := by
  obtain ⟨hd, hne, ⟨mode, enc, hm, hs⟩, hcount, hn⟩ := hx
  obtain ⟨e, m, cl, he, hmp, hc, hb⟩ := writeSegment_ok x.2 v eci f bits h1 h2 hw
  have hcl := cci_pos hc
  rcases eciPart_ok x.2 eci f e he with ⟨hnone, rfl⟩ | ⟨heci, n, hsome, rfl⟩
  · refine ⟨1, ?_, ?_⟩
    · rw [hb]; simp only [List.length_append, Proofs.Roundtrip.appendBits_length]; omega
    · intro fuel
      rw [List.nil_append] at hb
      have := go_body x.1 mode enc x.2 v m cl pre post st fuel none sa acc h1 h2 hd hne hm hs hmp hc
        (hcount cl hc) (by rw [hst, hb])
      rw [← hb] at this
      rw [this]
      unfold expected
      rw [hnone]
  · refine ⟨2, ?_, ?_⟩
    · rw [hb]; simp only [List.length_append, Proofs.Roundtrip.appendBits_length]; omega
    · intro fuel
      have step1 := go_eci_hdr v st pre ((m ++ appendBits x.2.charCount cl ++ x.2.bits) ++ post) n (fuel + 1)
        none sa acc (by have := hev heci; omega) (hn n hsome) (by rw [hst, hb]; simp only [List.append_assoc])
      have step2 := go_body x.1 mode enc x.2 v m cl (pre ++ (appendBits 7 4 ++ appendBits n 8)) post st fuel
        (some n) sa acc h1 h2 hd hne hm hs hmp hc (hcount cl hc)
        (by rw [hst, hb]; simp only [List.append_assoc])
      have hl : (pre ++ (appendBits 7 4 ++ appendBits n 8)).length = pre.length + 12 := by
        simp only [List.length_append, Proofs.Roundtrip.appendBits_length]
      have hbl : pre.length + 12 + (m ++ appendBits x.2.charCount cl ++ x.2.bits).length
          = pre.length + bits.length := by
        rw [hb]; simp only [List.length_append, Proofs.Roundtrip.appendBits_length]; omega
      rw [hl, hbl] at step2
      refine Eq.trans step1 (Eq.trans step2 ?_)
      unfold expected
      rw [hsome]

theorem go_items (v : Int) (eci : Bool) (f : String → Option Nat) (tail st : List Nat)
    (h1 : -3 ≤ v) (h2 : v ≤ 40) (hev : eci = true → 1 ≤ v) :
    ∀ (items : List (List Nat × Model.Segment)) (segBits : List (List Nat)) (pre : List Nat)
      (sa : Option (Nat × Nat × Nat)) (acc : List Spec.Segment),
      (∀ x ∈ items, ItemOk v eci f x) →
      (items.map (·.2)).mapM (fun s => Model.writeSegment s v eci f) = .ok segBits →
      st = pre ++ segBits.flatten ++ tail →
      ∃ u, u ≤ segBits.flatten.length ∧ ∀ fuel,
        parseStream.go v st (terminatorLen v) (modeBits v) (fuel + u) pre.length none sa acc
          = parseStream.go v st (terminatorLen v) (modeBits v) fuel (pre.length + segBits.flatten.length)
              none sa (acc ++ items.map (expected eci f))
  | [], segBits, pre, sa, acc, _, hw, _ => by
    cases hw
    exact ⟨0, Nat.le_refl _, fun fuel => by simp⟩
  | x :: rest, segBits, pre, sa, acc, hok, hw, hst => by
    rw [List.map_cons] at hw
    obtain ⟨b, bs, hwb, hwr, rfl⟩ := Proofs.Except.mapM_ok_cons.1 hw
    rw [List.flatten_cons] at hst
    -- the first item costs `u1` iterations, the others `u2` from where it ends; each count is stated for every fuel left over,
    -- so the two add up
    obtain ⟨u1, hu1, step1⟩ := go_written v eci f x b pre (bs.flatten ++ tail) st sa acc h1 h2 hev
      (hok x (List.mem_cons_self ..)) hwb (by rw [hst]; simp only [List.append_assoc])
    obtain ⟨u2, hu2, step2⟩ := go_items v eci f tail st h1 h2 hev rest bs (pre ++ b) sa (acc ++ [expected eci f x])
      (fun y hy => hok y (List.mem_cons_of_mem _ hy)) hwr (by rw [hst]; simp only [List.append_assoc])
    refine ⟨u2 + u1, by rw [List.flatten_cons, List.length_append]; omega, fun fuel => ?_⟩
    rw [← Nat.add_assoc, step1 (fuel + u2)]
    have := step2 fuel
    rw [List.length_append] at this
    rw [this, List.flatten_cons, List.length_append, Nat.add_assoc, List.map_cons, List.append_assoc]
    rfl

/-- from any state of the parser, and for ANY tail beginning with enough zeros -/
theorem go_items_tail (v : Int) (eci : Bool) (f : String → Option Nat) (items : List (List Nat × Model.Segment))
    (segBits : List (List Nat)) (pre tail : List Nat) (sa : Option (Nat × Nat × Nat)) (acc : List Spec.Segment) (fuel : Nat)
    (h1 : -3 ≤ v) (h2 : v ≤ 40) (hev : eci = true → 1 ≤ v)
    (hok : ∀ x ∈ items, ItemOk v eci f x)
    (hw : (items.map (·.2)).mapM (fun s => Model.writeSegment s v eci f) = .ok segBits)
    (htail : allZero (tail.take (min tail.length (terminatorLen v))) = true)
    (hfuel : segBits.flatten.length < fuel) :
    parseStream.go v (pre ++ segBits.flatten ++ tail) (terminatorLen v) (modeBits v) fuel pre.length none sa acc
      = .ok { sa := sa, segments := acc ++ items.map (expected eci f), endPos := (pre ++ segBits.flatten).length } := by
  obtain ⟨u, hu, step⟩ := go_items v eci f tail _ h1 h2 hev items segBits pre sa acc hok hw rfl
  obtain ⟨k, rfl⟩ : ∃ k, fuel = (k + 1) + u := ⟨fuel - u - 1, by omega⟩
  rw [step (k + 1), ← List.length_append]
  exact go_stop_tail v _ _ _ k sa _ (pre ++ segBits.flatten) tail rfl htail

theorem parseStream_list_tail (v : Int) (eci : Bool) (f : String → Option Nat) (items : List (List Nat × Model.Segment))
    (segBits : List (List Nat)) (tail : List Nat)
    (h1 : -3 ≤ v) (h2 : v ≤ 40) (hev : eci = true → 1 ≤ v)
    (hok : ∀ x ∈ items, ItemOk v eci f x)
    (hw : (items.map (·.2)).mapM (fun s => Model.writeSegment s v eci f) = .ok segBits)
    (htail : allZero (tail.take (min tail.length (terminatorLen v))) = true) :
    Spec.parseStream v (segBits.flatten ++ tail)
      = .ok { sa := none, segments := items.map (expected eci f), endPos := segBits.flatten.length } :=
  go_items_tail v eci f items segBits [] tail none [] _ h1 h2 hev hok hw htail
    (by rw [List.length_append]; omega)

theorem parseStream_single_tail (v : Int) (eci : Bool) (f : String → Option Nat) (x : List Nat × Model.Segment)
    (bits tail : List Nat) (h1 : -3 ≤ v) (h2 : v ≤ 40) (hev : eci = true → 1 ≤ v) (hx : ItemOk v eci f x)
    (hw : Model.writeSegment x.2 v eci f = .ok bits)
    (htail : allZero (tail.take (min tail.length (terminatorLen v))) = true) :
    Spec.parseStream v (bits ++ tail)
      = .ok { sa := none, segments := [expected eci f x], endPos := bits.length } := by
  have := parseStream_list_tail v eci f [x] [bits] tail h1 h2 hev (by simpa using hx)
    (by rw [List.map_cons, List.map_nil, List.mapM_cons, hw]; rfl) htail
  simpa using this

end Proofs.StreamParse
