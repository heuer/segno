/-
  Proofs.PngIndex — the colour indexes of the PNG writer model: what a successful `writePng` went through
  (`writePng_ok`), and the colour index of every module for both iterators of `indexRows`; before that, what the writer
  relies on of a palette built from at most 16 colours (`PaletteFacts`).
-/
import Proofs.PngPalette
import Proofs.PngStream
import Proofs.Except

namespace Proofs.Png

open Model Spec Proofs.Raster Proofs.Except

/-- `clr_map = {k: png_color(colormap[k]) for k in colormap}` -/
def parseColormap (colormap : List (Nat × ColorArg)) : R (List (Nat × PColor)) :=
  colormap.mapM (fun e => do let c ← pngColor e.2; pure (e.1, c))

theorem parseColormap_eq (cm : List (Nat × ColorArg)) : parseColormap cm = parseMap pngColor cm := rfl

theorem parseColormap_length (cm : List (Nat × ColorArg)) (clrMap : List (Nat × PColor)) (h : parseColormap cm = .ok clrMap) :
    clrMap.length = cm.length := by
  rw [parseColormap_eq] at h
  rw [(parseMap_ok pngColor .transparent cm clrMap h).2, List.length_map]

theorem depth_facts (n : Nat) (h16 : n ≤ 16) :
    let d := if n > 2 then (if n < 5 then 2 else 4) else 1
    (d = 1 ∨ d = 2 ∨ d = 4) ∧ n ≤ 2 ^ d := by
  intro d
  by_cases h2 : n > 2
  · by_cases h5 : n < 5 <;> simp only [d, h2, h5, if_true, if_false] <;> exact ⟨by decide, by omega⟩
  · simp only [d, h2, if_false]; exact ⟨by decide, by omega⟩

theorem typeIndex_lt_of_mem (p : PaletteInfo) (t : Nat) (c : PColor) (hc : cmGet p.clrMap t = some c) (hm : c ∈ p.palette) :
    typeIndex p t < p.palette.length := by
  unfold typeIndex
  rw [hc]
  exact List.idxOf_lt_length_iff.2 hm

theorem typeIndex_none (p : PaletteInfo) (t : Nat) (h : cmGet p.clrMap t = none) : typeIndex p t = 0 := by
  simp [typeIndex, h]

theorem paletteFrom_facts (P0 : List PColor) (clrMap : List (Nat × PColor)) (p : PaletteInfo)
    (hp : paletteFrom P0 clrMap = .ok p) (hnd : P0.Nodup) (hsorted : P0.Pairwise (fun a b => keyLe a b = true))
    (hlen16 : P0.length ≤ 16) :
    p.n = P0.length ∧ p.palette.length = P0.length
    ∧ (p.depth = 1 ∨ p.depth = 2 ∨ p.depth = 4) ∧ p.palette.length ≤ 2 ^ p.depth
    ∧ (∀ t, cmGet p.clrMap t = none ↔ cmGet clrMap t = none)
    ∧ (∀ t c, cmGet clrMap t = some c → c ∈ P0 → typeIndex p t < p.palette.length) := by
  have hd := depth_facts P0.length hlen16
  obtain ⟨_, rfl⟩ | ⟨rest, T, rfl, _, rfl⟩ | ⟨rfl, rfl⟩ | ⟨rfl, rfl⟩ | ⟨rfl, rfl⟩ := paletteFrom_ok P0 clrMap p hp hnd hsorted
  · have hl := length_plteOrder P0
    exact ⟨rfl, hl, hd.1, hl ▸ hd.2, fun _ => Iff.rfl,
      fun t c hc hmem => typeIndex_lt_of_mem _ t c hc ((mem_plteOrder P0 c).2 hmem)⟩
  · have hl : (T :: (rest.filter (fun x => x.isRgba) ++ rest.filter (fun c => !c.isRgba))).length
        = (PColor.transparent :: rest).length := by
      rw [List.length_cons, length_plteOrder, List.length_cons]
    refine ⟨rfl, hl, hd.1, hl ▸ hd.2, fun t => ?_, fun t c hc hmem => ?_⟩
    · show cmGet (clrMap.map _) t = none ↔ _
      rw [cmGet_replace]
      cases cmGet clrMap t <;> simp
    · apply typeIndex_lt_of_mem _ t (if c == PColor.transparent then T else c)
      · show cmGet (clrMap.map _) t = _
        rw [cmGet_replace, hc]; rfl
      · show _ ∈ T :: _
        split
        · exact List.mem_cons_self
        · next hct =>
          exact List.mem_cons_of_mem _ ((mem_plteOrder rest c).2 ((List.mem_cons.1 hmem).resolve_left (by simpa using hct)))
  all_goals
    exact ⟨rfl, rfl, Or.inl rfl, (by decide : 2 ≤ 2 ^ 1), fun _ => Iff.rfl,
      fun t c hc hmem => typeIndex_lt_of_mem _ t c hc (by simpa [or_comm] using hmem)⟩

theorem buildPalette_n (setOrder : List PColor → List PColor) (hset : SetOrderOK setOrder) (clrMap : List (Nat × PColor))
    (p : PaletteInfo) (hp : buildPalette setOrder clrMap = .ok p) : p.n = (palette0 setOrder clrMap).length := by
  obtain ⟨_, rfl⟩ | ⟨_, _, _, _, rfl⟩ | ⟨h, rfl⟩ | ⟨h, rfl⟩ | ⟨h, rfl⟩ :=
    paletteFrom_ok (palette0 setOrder clrMap) clrMap p hp (nodup_palette0 setOrder hset clrMap) (sorted_palette0 setOrder clrMap)
  · rfl
  · rfl
  all_goals exact (congrArg List.length h).symm

theorem length_palette0_le (setOrder : List PColor → List PColor) (hset : SetOrderOK setOrder) (clrMap : List (Nat × PColor)) :
    (palette0 setOrder clrMap).length ≤ clrMap.length := by
  have := (nodup_palette0 setOrder hset clrMap).length_le_of_subset (fun x hx => (mem_palette0 setOrder hset clrMap x).1 hx)
  rwa [List.length_map] at this

/-- what the writer relies on of a palette built from at most 16 colours: a PNG bit depth, the module types of the map
    (none lost), every colour index within the depth -/
structure PaletteFacts (clrMap : List (Nat × PColor)) (p : PaletteInfo) : Prop where
  depth : p.depth = 1 ∨ p.depth = 2 ∨ p.depth = 4
  keys : ∀ t, cmGet p.clrMap t = none ↔ cmGet clrMap t = none
  index_lt : ∀ t, typeIndex p t < 2 ^ p.depth

theorem buildPalette_facts (setOrder : List PColor → List PColor) (hset : SetOrderOK setOrder) (clrMap : List (Nat × PColor))
    (p : PaletteInfo) (hp : buildPalette setOrder clrMap = .ok p) (hlen : clrMap.length ≤ 16) : PaletteFacts clrMap p := by
  obtain ⟨-, -, hd, hle, hnone, hidx⟩ := paletteFrom_facts (palette0 setOrder clrMap) clrMap p hp
    (nodup_palette0 setOrder hset clrMap) (sorted_palette0 setOrder clrMap)
    (Nat.le_trans (length_palette0_le setOrder hset clrMap) hlen)
  refine ⟨hd, hnone, ?_⟩
  intro t
  cases hc : cmGet clrMap t with
  | none =>
    rw [typeIndex_none p t ((hnone t).2 hc)]
    exact Nat.two_pow_pos _
  | some c =>
    have := hidx t c hc ((mem_palette0 setOrder hset clrMap c).2 (cmGet_mem _ _ _ hc))
    omega

theorem borderForRange_pos (w h : Nat) (border : Option Num) (b : Nat) (hb : borderForRange w h border = .ok b) (hpos : 0 < b) :
    borderPositive w h border = true := by
  unfold borderForRange at hb
  split at hb
  · cases hb
    simp only [borderPositive, decide_eq_true_eq]
    omega
  · cases hb
    simp only [borderPositive, decide_eq_true_eq]
    omega
  · cases hb

theorem writePng_ok (setOrder : List PColor → List PColor) (M : List (List Nat)) (w h : Nat) (colormap : List (Nat × ColorArg))
    (scale : Num) (border : Option Num) (out : PngOut) (hw : writePng setOrder M w h colormap scale border = .ok out) :
    ∃ clrMap p b idx,
      parseColormap colormap = .ok clrMap ∧ buildPalette setOrder clrMap = .ok p ∧ borderForRange w h border = .ok b
      ∧ indexRows p M w h = .ok idx ∧ 0 < scale.toInt.toNat
      ∧ (useVerbose p = false → (cmGet p.clrMap Gen.TYPE_QUIET_ZONE).isSome = true ∧ (cmGet p.clrMap Gen.TYPE_FINDER_PATTERN_DARK).isSome = true)
      ∧ (0 < b → (cmGet p.clrMap Gen.TYPE_QUIET_ZONE).isSome = true)
      ∧ out = { width := (w + 2 * b) * scale.toInt.toNat, height := (h + 2 * b) * scale.toInt.toNat, depth := p.depth,
                ctype := if p.isGrey then 0 else 3, plte := plteBytes p, trns := trnsBytes p,
                idat := pngStream idx w p.depth scale.toInt.toNat b (typeIndex p Gen.TYPE_QUIET_ZONE) } := by
  unfold writePng at hw
  obtain ⟨_, h1, hw⟩ := bind_ok.1 hw
  obtain ⟨_, _, hw⟩ := bind_ok.1 hw
  obtain ⟨clrMap, h3, hw⟩ := bind_ok.1 hw
  obtain ⟨p, h4, hw⟩ := bind_ok.1 hw
  by_cases hA : (!useVerbose p && ((cmGet p.clrMap Gen.TYPE_QUIET_ZONE).isNone || (cmGet p.clrMap Gen.TYPE_FINDER_PATTERN_DARK).isNone)) = true
  · simp only [hA, if_true] at hw
    cases hw
  by_cases hB : (borderPositive w h border && (cmGet p.clrMap Gen.TYPE_QUIET_ZONE).isNone) = true
  · simp only [hA, hB, if_true] at hw
    cases hw
  simp only [hA, hB] at hw
  obtain ⟨b, h5, hw⟩ := bind_ok.1 hw
  obtain ⟨idx, h6, hw⟩ := bind_ok.1 hw
  cases hw
  refine ⟨clrMap, p, b, idx, h3, h4, h5, h6, checkValidScale_ok _ _ h1, fun hv => ?_, fun hb => ?_, rfl⟩
  · rw [hv] at hA
    cases hq : cmGet p.clrMap Gen.TYPE_QUIET_ZONE <;> cases hf : cmGet p.clrMap Gen.TYPE_FINDER_PATTERN_DARK <;>
      simp [hq, hf] at hA ⊢
  · rw [borderForRange_pos w h border b h5 hb] at hB
    cases hq : cmGet p.clrMap Gen.TYPE_QUIET_ZONE <;> simp [hq] at hB ⊢

theorem indexRows_verbose (p : PaletteInfo) (M : List (List Nat)) (w h : Nat) (idx : List (List Nat))
    (hv : useVerbose p = true) (hi : indexRows p M w h = .ok idx) :
    ∃ A, alignmentMatrix w = .ok A ∧ idx.length = h ∧ (∀ r ∈ idx, r.length = w)
      ∧ ∀ i j, i < h → j < w →
          (cmGet p.clrMap (verboseCell M A w h 0 i j)).isSome = true
          ∧ (idx.getD i []).getD j 0 = typeIndex p (verboseCell M A w h 0 i j) := by
  unfold indexRows at hi
  simp only [hv, if_true] at hi
  obtain ⟨rows, hr, hi⟩ := bind_ok.1 hi
  obtain ⟨A, hA, rfl⟩ := matrixIterVerbose_page M w h 0 rows hr
  split at hi
  · cases hi
  · next hany =>
    cases hi
    refine ⟨A, hA, by simp, fun r hr' => ?_, fun i j hi' hj' => ⟨?_, by simp [List.getD_eq_getElem?_getD, hi', hj']⟩⟩
    · simp only [List.map_map, List.mem_map, List.mem_range] at hr'
      obtain ⟨y, _, rfl⟩ := hr'
      simp
    · -- a type without colour anywhere in the grid would have raised KeyError
      cases hc : cmGet p.clrMap (verboseCell M A w h 0 i j) with
      | some c => rfl
      | none =>
        refine absurd ?_ hany
        simp only [List.any_eq_true, List.mem_map, List.mem_range]
        exact ⟨_, ⟨i, hi', rfl⟩, _, List.mem_map.2 ⟨j, List.mem_range.2 hj', rfl⟩, by rw [hc]; rfl⟩

theorem indexRows_cheap (p : PaletteInfo) (M : List (List Nat)) (w h : Nat) (idx : List (List Nat))
    (hv : useVerbose p = false) (hM : WellFormed M w h) (hi : indexRows p M w h = .ok idx) :
    idx.length = h ∧ (∀ r ∈ idx, r.length = w)
      ∧ ∀ i j, i < h → j < w →
          cellL M i j ≤ 1
          ∧ (idx.getD i []).getD j 0 = typeIndex p (if cellL M i j = 0 then Gen.TYPE_QUIET_ZONE else Gen.TYPE_FINDER_PATTERN_DARK) := by
  obtain ⟨hlen, hrows⟩ := hM
  unfold indexRows at hi
  simp only [hv, Bool.false_eq_true, if_false] at hi
  split at hi
  · cases hi
  · next hany =>
    cases hi
    refine ⟨by simp [hlen], fun r hr => ?_, fun i j hi' hj' => ?_⟩
    · obtain ⟨r0, hr0, rfl⟩ := List.mem_map.1 hr
      simp [hrows r0 hr0]
    · have hiM : i < M.length := by omega
      have hjr : j < M[i].length := by rw [hrows _ (List.getElem_mem hiM)]; exact hj'
      have hcell : cellL M i j = M[i][j] := by
        simp [cellL, List.getD_eq_getElem?_getD, hiM, hjr]
      rw [hcell]
      constructor
      · -- a value above 1 anywhere in the matrix would have raised KeyError
        refine Nat.le_of_not_lt fun hgt => hany ?_
        simp only [List.any_eq_true, decide_eq_true_eq]
        exact ⟨M[i], List.getElem_mem hiM, M[i][j], List.getElem_mem hjr, hgt⟩
      · simp only [List.getD_eq_getElem?_getD, List.getElem?_map, List.getElem?_eq_getElem hiM, Option.map_some,
          Option.getD_some, List.getElem?_eq_getElem hjr]
        by_cases h0 : M[i][j] = 0 <;> simp [h0]

end Proofs.Png
