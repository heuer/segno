/-
  `make_segment`, kanji and hanzi mode: the loop over `range(0, n, 2)` reads `segment_data[i]`, `segment_data[i + 1]`, checks
  trail byte and code range (`ValueError`) and writes 13 bits per pair; the model is `(Model.pairs data).mapM …` then `.flatten`:
  the first failing pair decides on both sides (`pair_loop`).  The two modes differ in constants only (`dblGroup` in Proofs/Modes.lean, `dbl_step`).
  The kanji loop is also the code's last `else`: it runs for every requested mode number other than 1, 2, 4, 13.
-/
import Proofs.TieA3Alnum
import Proofs.TieA2Mode

namespace Proofs.TieA3
open Gen.Py Proofs.TieA Proofs.TieA2 Model

theorem grp_int (c k m : Nat) (ki mi : Int) (hk : ki = (k : Int)) (hm : mi = (m : Int)) (h : k ≤ c) :
    ((c : Int) - ki) / (256 : Int) * mi + band ((c : Int) - ki) (255 : Int) = ((((c - k) >>> 8) * m + ((c - k) &&& 255) : Nat) : Int) := by
  subst hk hm
  have e : (c : Int) - (k : Int) = ((c - k : Nat) : Int) := by omega
  rw [e]
  generalize c - k = d
  have hb : band (d : Int) 255 = ((d &&& 255 : Nat) : Int) := rfl
  rw [hb, Nat.shiftRight_eq_div_pow]
  push_cast
  rfl

theorem dbl_step (acc : List Nat) (a b : Nat) (hb : b < 256) (trI : Bool) (tr : Nat → Bool) (htr : trI = tr b)
    (lo1 hi1 k1 lo2 hi2 k2 m : Nat) (h1 : k1 ≤ lo1) (h2 : k2 ≤ lo2) :
    toR (if (!trI) = true then Except.error PyExc.valueError
      else if (decide ((lo1 : Int) ≤ bor ((a : Int) * (256 : Int)) (b : Int)) && decide (bor ((a : Int) * (256 : Int)) (b : Int) ≤ (hi1 : Int))) = true then
        Except.ok (toI acc ++ Gen.Py.appendBits ((bor ((a : Int) * (256 : Int)) (b : Int) - (k1 : Int)) / (256 : Int) * (m : Int)
          + band (bor ((a : Int) * (256 : Int)) (b : Int) - (k1 : Int)) (255 : Int)) (13 : Int))
      else if (decide ((lo2 : Int) ≤ bor ((a : Int) * (256 : Int)) (b : Int)) && decide (bor ((a : Int) * (256 : Int)) (b : Int) ≤ (hi2 : Int))) = true then
        Except.ok (toI acc ++ Gen.Py.appendBits ((bor ((a : Int) * (256 : Int)) (b : Int) - (k2 : Int)) / (256 : Int) * (m : Int)
          + band (bor ((a : Int) * (256 : Int)) (b : Int) - (k2 : Int)) (255 : Int)) (13 : Int))
      else (Except.error PyExc.valueError : M (List Int)))
    = (dblGroup tr lo1 hi1 k1 lo2 hi2 k2 m (a, b)).map (fun bs => toI (acc ++ bs)) := by
  rw [bor_shift8 a b hb, htr]
  unfold dblGroup
  generalize hc : a * 256 + b = c
  have cast_le : ∀ x y : Nat, decide ((x : Int) ≤ (y : Int)) = decide (x ≤ y) := fun x y => by
    rw [Bool.eq_iff_iff]; simp only [decide_eq_true_eq]; omega
  simp only [cast_le]
  cases tr b
  · rfl
  · by_cases c1 : (decide (lo1 ≤ c) && decide (c ≤ hi1)) = true
    · have : k1 ≤ c := by simp only [Bool.and_eq_true, decide_eq_true_eq] at c1; omega
      rw [grp_int c k1 m _ _ rfl rfl this, appendBits_lit _ 13 _ (13 : Int) rfl rfl]
      simp [hc, c1, Except.map, Bind.bind, Except.bind, Pure.pure, Except.pure]
    · by_cases c2 : (decide (lo2 ≤ c) && decide (c ≤ hi2)) = true
      · have : k2 ≤ c := by simp only [Bool.and_eq_true, decide_eq_true_eq] at c2; omega
        rw [grp_int c k2 m _ _ rfl rfl this, appendBits_lit _ 13 _ (13 : Int) rfl rfl]
        simp [hc, c1, c2, Except.map, Bind.bind, Except.bind, Pure.pure, Except.pure]
      · simp [hc, c1, c2, Except.map, Bind.bind, Except.bind, Proofs.Except.throw_eq_error, exc]

theorem pairs_eq_range (l : List Nat) :
    pairs l = (List.range (l.length / 2)).map (fun j => (l.getD (2 * j) 0, l.getD (2 * j + 1) 0)) := by
  induction l using pairs.induct with
  | case1 a b rest ih =>
    rw [pairs, ih, show (a :: b :: rest).length / 2 = rest.length / 2 + 1 by simp only [List.length_cons]; omega,
      List.range_succ_eq_map, List.map_cons, List.map_map]
    congr 1
  | case2 l h =>
    match l, h with
    | [], _ => rfl
    | [a], _ => simp [pairs]
    | a :: b :: rest, h => exact absurd rfl (h a b rest)
/-- the loop over `range(0, len(data), 2)` that reads `data[i]`, `data[i + 1]` (twice) and hands them to `K`, which appends the
    bits of the pair or raises, against `mapM` over `Model.pairs` -/
theorem pair_index_loop (data : List Nat) (hd : ∀ b ∈ data, b < 256) (hev : data.length % 2 = 0)
    (K : List Int → Int → Int → Int → M (List Int)) (grp : Nat × Nat → R (List Nat))
    (hK : ∀ (acc : List Nat) (a b : Nat), b < 256 → toR (K (toI acc) (a : Int) (b : Int) (b : Int)) = (grp (a, b)).map (fun bs => toI (acc ++ bs))) :
    toR (foldlM (rangeStep 0 (data.length : Int) 2) ([] : List Int) (fun acc i =>
        Gen.Py.bind (index (toI data) i) (fun t5 =>
          Gen.Py.bind (index (toI data) (i + (1 : Int))) (fun t6 =>
            Gen.Py.bind (index (toI data) (i + (1 : Int))) (fun t7 => K acc t5 t6 t7)))))
      = ((pairs data).mapM grp).map (fun gs => toI gs.flatten) := by
  rw [rangeStep_nat, show (data.length + 2 - 1) / 2 = data.length / 2 by omega]
  refine Eq.trans (pair_loop _ (fun (j : Nat) => (0 : Int) + Int.ofNat j * Int.ofNat 2)
    (fun j => grp (data.getD (2 * j) 0, data.getD (2 * j + 1) 0)) (List.range (data.length / 2)) ?_ []) ?_
  · intro acc j hj
    have hj' : j < data.length / 2 := List.mem_range.mp hj
    have hm : data.getD (2 * j + 1) 0 ∈ data := by
      rw [List.getD_eq_getElem _ _ (by omega)]; exact List.getElem_mem _
    have e0 : (0 : Int) + Int.ofNat j * Int.ofNat 2 = ((2 * j : Nat) : Int) := by simp only [Int.ofNat_eq_natCast]; push_cast; omega
    have e1 : ((2 * j : Nat) : Int) + 1 = ((2 * j + 1 : Nat) : Int) := by push_cast; rfl
    simp only [e0, e1]
    rw [Proofs.TieA2.index_toI data (2 * j) (by omega), Proofs.TieA2.index_toI data (2 * j + 1) (by omega)]
    exact hK acc _ _ (hd _ hm)
  · rw [pairs_eq_range data, List.mapM_map]
    simp only [List.nil_append]
    rfl

theorem findMode_kanji_even (data : List Nat) (h : findMode data = 8) : data.length % 2 = 0 := by
  have hr := findMode_representable data
  rw [h, Proofs.Modes.representable_8, Proofs.Modes.allPairs_eq] at hr
  exact eq_of_beq (Bool.and_eq_true _ _ ▸ hr).1

theorem make_segment_hanzi_py (raw : String) (data : List Nat) (enc : Option String) (encName : String)
    (intOf : List Int → M Int) (hd : ∀ b ∈ data, b < 256) (hev : data.length % 2 = 0) :
    toR (Gen.Funcs3.make_segment raw (some (13 : Int)) enc (.ok (toI data, (data.length : Int), encName)) (findMode data : Int) intOf)
      = ((pairs data).mapM hanziGroup).map
          (fun gs => (toI gs.flatten, ((data.length / 2 : Nat) : Int), (13 : Int), (none : Option String))) := by
  have hlt : ¬ ((13 : Int) < (findMode data : Int)) := by have := findMode_le_8 data; omega
  have hlen : (((data.length : Int) % (2 : Int)) != 0) = false := by simp; omega
  unfold Gen.Funcs3.make_segment
  mode_branch [hlt, hlen]
  rw [toR_bind, pair_index_loop data hd hev _ hanziGroup (fun acc a b hb =>
    dbl_step acc a b hb _ (fun lo => 0xa1 ≤ lo && lo ≤ 0xfe) (by rw [Bool.eq_iff_iff]; simp) 0xa1a1 0xaafe 0xa1a1 0xb0a1 0xfafe 0xa6a1 0x60
      (by omega) (by omega))]
  cases List.mapM hanziGroup (pairs data) <;> simp [Except.map, Bind.bind, Except.bind]

theorem make_segment_hanzi_model (data : List Nat) (encName : String) (hev : data.length % 2 = 0) :
    Model.makeSegment data (some 13) encName
      = ((pairs data).mapM hanziGroup).map
          (fun gs => { bits := gs.flatten, charCount := data.length / 2, mode := 13, encoding := none }) := by
  have hlt : ¬ (13 < findMode data) := by have := findMode_le_8 data; omega
  rw [makeSegment_accepted data (some 13) encName 13 (.inl rfl) (.inr hlt)]
  unfold Proofs.Modes.segBody Proofs.Modes.segBits
  simp [hev]
  cases List.mapM hanziGroup (pairs data) <;> rfl

/-- the translation in kanji mode: requested (8), or any requested mode number other than 1, 2, 4, 13 that is not below the
    mode found (the code's last `else`; the number of characters is halved for 8 only), even number of bytes -/
theorem make_segment_kanji_py (raw : String) (data : List Nat) (m : Nat) (enc : Option String) (encName : String)
    (intOf : List Int → M Int) (hd : ∀ b ∈ data, b < 256) (hev : data.length % 2 = 0)
    (hm : m ≠ 1 ∧ m ≠ 2 ∧ m ≠ 4 ∧ m ≠ 13) (hge : ¬ m < findMode data) :
    toR (Gen.Funcs3.make_segment raw (some (m : Int)) enc (.ok (toI data, (data.length : Int), encName)) (findMode data : Int) intOf)
      = ((pairs data).mapM kanjiGroup).map
          (fun gs => (toI gs.flatten, ((if m = 8 then data.length / 2 else data.length : Nat) : Int), (m : Int), (none : Option String))) := by
  obtain ⟨hm1, hm2, hm4, hm13⟩ := hm
  have e1 : ((m : Int) == (1 : Int)) = false := by simp; omega
  have e2 : ((m : Int) == (2 : Int)) = false := by simp; omega
  have e4 : ((m : Int) == (4 : Int)) = false := by simp; omega
  have e13 : ((m : Int) == (13 : Int)) = false := by simp; omega
  have hlt : ¬ ((m : Int) < (findMode data : Int)) := by omega
  have hlen : (((data.length : Int) % (2 : Int)) != 0) = false := by simp; omega
  unfold Gen.Funcs3.make_segment
  mode_branch [e1, e2, e4, e13, hlt, hlen, Bool.and_false]
  rw [toR_bind, pair_index_loop data hd hev _ kanjiGroup (fun acc a b hb =>
    dbl_step acc a b hb _ isSjisTrail (Props.TieA.is_shift_jis_trail_byte_tie b) 0x8140 0x9ffc 0x8140 0xe040 0xebbf 0xc140 0xc0 (by omega) (by omega))]
  by_cases h8 : m = 8
  · subst h8
    cases List.mapM kanjiGroup (pairs data) <;> simp [Except.map, Bind.bind, Except.bind]
  · have e8 : ((m : Int) == (8 : Int)) = false := by simp; omega
    cases List.mapM kanjiGroup (pairs data) <;> simp [Except.map, Bind.bind, Except.bind, e8, h8]

theorem make_segment_kanji_model (data : List Nat) (m : Nat) (encName : String) (hev : data.length % 2 = 0)
    (hm : m ≠ 1 ∧ m ≠ 2 ∧ m ≠ 4 ∧ m ≠ 13) (hge : ¬ m < findMode data) :
    Model.makeSegment data (some m) encName
      = ((pairs data).mapM kanjiGroup).map
          (fun gs => { bits := gs.flatten, charCount := if m = 8 then data.length / 2 else data.length, mode := m, encoding := none }) := by
  obtain ⟨hm1, hm2, hm4, hm13⟩ := hm
  rw [makeSegment_accepted data (some m) encName m (.inl rfl) (.inr hge)]
  unfold Proofs.Modes.segBody Proofs.Modes.segBits
  simp [hev, hm1, hm2, hm4, hm13]
  cases List.mapM kanjiGroup (pairs data) <;> rfl

theorem make_segment_kanji_none_py (raw : String) (data : List Nat) (enc : Option String) (encName : String)
    (intOf : List Int → M Int) (hd : ∀ b ∈ data, b < 256) (hg : findMode data = 8) :
    toR (Gen.Funcs3.make_segment raw (none : Option Int) enc (.ok (toI data, (data.length : Int), encName)) (findMode data : Int) intOf)
      = ((pairs data).mapM kanjiGroup).map
          (fun gs => (toI gs.flatten, ((data.length / 2 : Nat) : Int), (8 : Int), (none : Option String))) :=
  (congrArg toR (make_segment_found raw data none enc _ intOf 8 hg (.inl rfl))).trans
    (make_segment_kanji_py raw data 8 enc encName intOf hd (findMode_kanji_even data hg) (by omega) (by omega))

theorem make_segment_kanji_none_model (data : List Nat) (encName : String) (hg : findMode data = 8) :
    Model.makeSegment data none encName
      = ((pairs data).mapM kanjiGroup).map
          (fun gs => { bits := gs.flatten, charCount := data.length / 2, mode := 8, encoding := none }) := by
  rw [makeSegment_none, hg]
  exact make_segment_kanji_model data 8 encName (findMode_kanji_even data hg) (by omega) (by omega)

end Proofs.TieA3
