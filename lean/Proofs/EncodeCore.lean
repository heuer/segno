/-
  Proofs.EncodeCore — `_encode` (`Model.encodeCore`) read backwards: it is boosting, then header ‖
  written segments, then `Model.encodeTail` (`encodeCore_eq`); a call returns the symbol `c` exactly when
  every stage returned, and the values it went through are the fields of `Tail` / `Run`
  (`encodeTail_iff`, `encodeCore_iff`).
  The records about an accepted call nest, outermost first: `Proofs.EncodeStages.Accepted` (the stages of `encode` in
  front of `_encode`; its field `core` is what `encodeCore_iff` reads), `Run` (the bits written for the segments, and a
  `Tail`), `Tail` (capacity, padded stream, final message, and a `Chain`), `Proofs.EndToEnd.Chain` (the five matrices).
  What the matrices of a chain satisfy is `Proofs.EndToEnd.ChainFacts` (Proofs/EndToEndFinal.lean); what the reference
  reader finds in the symbol is the lemmas `Tail.take` … `Tail.decodes` (Proofs/EndToEnd.lean).
  Declares `Chain` in `Proofs.EndToEnd`, beside `ChainFacts`, and all else in `Proofs.Sequence`, beside Proofs/Sequence.lean.
-/
import Model.Sequence
import Proofs.Except
import Proofs.Stream
import Props.C02

namespace Proofs.EndToEnd
open Model

/-- the matrix stages of `_encode`: skeleton `m0`, codewords placed `m1`, masked `m2`, format information
    `m3`, version information `m4` -/
structure Chain (v : Int) (e : Option Nat) (mask : Option Nat) (mk : Nat) (bits : List Nat) (m4 : Matrix) where
  m0 : Matrix
  m1 : Matrix
  m2 : Matrix
  m3 : Matrix
  hm0 : addAlignmentPatterns (addFinderPatterns (makeMatrix (Spec.size v)) (Spec.size v)) (Spec.size v) = .ok m0
  hm1 : addCodewords m0 bits v = .ok m1
  hm2 : findAndApplyBestMask m1 mask = .ok (mk, m2)
  hm3 : addFormatInfo m2 v e mk = .ok m3
  hm4 : addVersionInfo m3 v = .ok m4

end Proofs.EndToEnd

namespace Proofs.Sequence
open Model Proofs.Except

theorem encodeCore_eq (segs : List Segment) (error : Option Nat) (v : Int) (mask : Option Nat) (eci boost : Bool)
    (f : String → Option Nat) (sa : Option (Nat × Nat × Nat)) :
    encodeCore segs error v mask eci boost f sa =
      ((if boost then boostErrorLevel v error segs eci sa.isSome else pure error) >>= fun error' =>
        (segs.mapM (fun s => writeSegment s v eci f)) >>= fun segBits =>
          encodeTail (saHeader sa ++ segBits.flatten) segs error' v mask) := by
  unfold encodeCore encodeTail saHeader
  cases boost <;> cases sa with
  | none => rfl
  | some x => obtain ⟨a, b, c⟩ := x; rfl

theorem saHeader_length (sa : Option (Nat × Nat × Nat)) : (saHeader sa).length = if sa.isSome then 20 else 0 := by
  cases sa with
  | none => rfl
  | some x => obtain ⟨a, b, c⟩ := x; simp [saHeader, appendBits]

/-- what `encodeTail` went through on the way to the symbol `c`: capacity, padded stream, final message and the
    matrix stages -/
structure Tail (buff : List Nat) (e : Option Nat) (v : Int) (mask : Option Nat) (c : Code) where
  cap : Nat
  stream : List Nat
  final : List Nat
  hcap : capacity v e = some cap
  hstream : finishStream buff v cap = .ok stream
  hfinal : makeFinalMessage v e stream = .ok final
  chain : Proofs.EndToEnd.Chain v e mask c.mask final c.matrix

theorem Tail.range {buff : List Nat} {e : Option Nat} {v : Int} {mask : Option Nat} {c : Code} (t : Tail buff e v mask c) :
    -3 ≤ v ∧ v ≤ 40 :=
  let ⟨h1, h2, _⟩ := Proofs.Stream.cap_facts t.hcap
  ⟨h1, h2⟩

theorem matrix_size (v : Int) (h1 : -3 ≤ v) (h2 : v ≤ 40) : (Gen.calc_matrix_size v).toNat = Spec.size v := by
  rw [Props.C02.matrix_size_iso v h1 h2]; rfl

theorem encodeTail_iff (buff : List Nat) (segs : List Segment) (e : Option Nat) (v : Int) (mask : Option Nat) (c : Code) :
    encodeTail buff segs e v mask = .ok c ↔
      c.version = v ∧ c.error = e ∧ c.segments = segs ∧ Nonempty (Tail buff e v mask c) := by
  constructor
  · intro h
    unfold encodeTail at h
    split at h
    case h_2 => cases h
    case h_1 cap hcap =>
    obtain ⟨h1, h2, -⟩ := Proofs.Stream.cap_facts hcap
    rw [matrix_size v h1 h2] at h
    obtain ⟨stream, hstream, h⟩ := bind_ok.1 h
    obtain ⟨final, hfinal, h⟩ := bind_ok.1 h
    dsimp only at h
    obtain ⟨m0, hm0, h⟩ := bind_ok.1 h
    obtain ⟨m1, hm1, h⟩ := bind_ok.1 h
    obtain ⟨⟨mk, m2⟩, hm2, h⟩ := bind_ok.1 h
    dsimp only at h
    obtain ⟨m3, hm3, h⟩ := bind_ok.1 h
    obtain ⟨m4, hm4, h⟩ := bind_ok.1 h
    rw [pure_eq_ok] at h
    subst h
    exact ⟨rfl, rfl, rfl, ⟨⟨cap, stream, final, hcap, hstream, hfinal, ⟨m0, m1, m2, m3, hm0, hm1, hm2, hm3, hm4⟩⟩⟩⟩
  · rintro ⟨rfl, rfl, rfl, ⟨t⟩⟩
    have ch := t.chain
    unfold encodeTail
    simp only [t.hcap, t.hstream, t.hfinal, matrix_size _ t.range.1 t.range.2, ch.hm0, ch.hm1, ch.hm2, ch.hm3, ch.hm4, ok_bind]
    rfl

/-- a successful `_encode`: the bits written for the segments, and `encodeTail` on header ‖ bits -/
structure Run (segs : List Segment) (v : Int) (mask : Option Nat) (eci : Bool) (f : String → Option Nat)
    (sa : Option (Nat × Nat × Nat)) (c : Code) where
  segBits : List (List Nat)
  hw : segs.mapM (fun s => writeSegment s v eci f) = .ok segBits
  hver : c.version = v
  hsegs : c.segments = segs
  tail : Tail (saHeader sa ++ segBits.flatten) c.error v mask c

theorem encodeCore_iff (segs : List Segment) (error : Option Nat) (v : Int) (mask : Option Nat) (eci boost : Bool)
    (f : String → Option Nat) (sa : Option (Nat × Nat × Nat)) (c : Code) :
    encodeCore segs error v mask eci boost f sa = .ok c ↔
      (if boost then boostErrorLevel v error segs eci sa.isSome else pure error) = .ok c.error
        ∧ Nonempty (Run segs v mask eci f sa c) := by
  rw [encodeCore_eq]
  constructor
  · intro h
    obtain ⟨e', he, h⟩ := bind_ok.1 h
    obtain ⟨segBits, hw, h⟩ := bind_ok.1 h
    obtain ⟨hv, rfl, hs, ⟨t⟩⟩ := (encodeTail_iff ..).1 h
    exact ⟨he, ⟨⟨segBits, hw, hv, hs, t⟩⟩⟩
  · rintro ⟨he, ⟨r⟩⟩
    exact bind_ok.2 ⟨_, he, bind_ok.2 ⟨_, r.hw, (encodeTail_iff ..).2 ⟨r.hver, rfl, r.hsegs, ⟨r.tail⟩⟩⟩⟩

theorem encodeCore_ok (segs : List Segment) (error : Option Nat) (v : Int) (mask : Option Nat) (eci boost : Bool)
    (f : String → Option Nat) (sa : Option (Nat × Nat × Nat)) (c : Code)
    (h : encodeCore segs error v mask eci boost f sa = .ok c) :
    c.version = v ∧ c.segments = segs ∧
      (if boost then boostErrorLevel v error segs eci sa.isSome else pure error) = .ok c.error ∧
      ∃ cap, capacity v c.error = some cap :=
  let ⟨he, ⟨r⟩⟩ := (encodeCore_iff ..).1 h
  ⟨r.hver, r.hsegs, he, r.tail.cap, r.tail.hcap⟩

theorem capacity_pos {v : Int} {e : Option Nat} {cap : Nat} (h : capacity v e = some cap) : 0 < cap := by
  obtain ⟨-, -, h4, h0⟩ := Proofs.Stream.cap_facts h
  cases hf : Spec.fourBitFinal v
  · have := h0 hf; omega
  · have := h4 hf; omega

/-- `_encode` looks the version up in the capacity table, which ends at 40 -/
theorem encodeCore_version_le (segs : List Segment) (error : Option Nat) (v : Int) (mask : Option Nat) (eci boost : Bool)
    (f : String → Option Nat) (sa : Option (Nat × Nat × Nat)) (c : Code)
    (h : encodeCore segs error v mask eci boost f sa = .ok c) : v ≤ 40 :=
  let ⟨_, ⟨r⟩⟩ := (encodeCore_iff ..).1 h
  r.tail.range.2

end Proofs.Sequence
