/-
  Proofs.TieA2Parity — `functools.reduce(operator.xor, data)` of `calc_structured_append_parity` against `Model.xorBytes`.
-/
import Proofs.TieA2
import Model.Sequence

namespace Proofs.TieA2
open Gen.Py Model

theorem foldl_bxor (l : List Nat) (x : Nat) : (toI l).foldl bxor (x : Int) = ((l.foldl (· ^^^ ·) x : Nat) : Int) := by
  induction l generalizing x with
  | nil => rfl
  | cons a t ih =>
    simp only [toI_cons, List.foldl_cons]
    rw [bxor_nat, ih]

theorem reduceXor_toI (l : List Nat) (h : l ≠ []) : reduceXor (toI l) = .ok (Int.ofNat (xorBytes l)) := by
  cases l with
  | nil => exact absurd rfl h
  | cons a t =>
    simp only [toI_cons, reduceXor, xorBytes, List.foldl_cons, Nat.zero_xor]
    rw [foldl_bxor]
    rfl

theorem reduceXor_nil : reduceXor (toI []) = .error .typeError := rfl

end Proofs.TieA2
