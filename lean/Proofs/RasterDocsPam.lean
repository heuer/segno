/-
  The list-level PAM reader (Spec/RasterL.lean) applied to the whole files the model of
  `write_pam` writes (Model/RasterDocs.lean), for every tuple type the colour logic can choose.
-/
import Proofs.RasterDocsBase
import Proofs.RasterDocsNetpbm
import Proofs.RasterDocsColour
import Proofs.PngDefs
import Proofs.ColourGrammar
import Proofs.Except

namespace Proofs.RasterDocs

open Model Model.RasterDocs Spec Proofs.Raster

/-- the bytes `row_filter` writes for one matrix value -/
def pamCell (p : PamPlan) (v : Nat) : List Nat :=
  match p.colours with
  | none => [v ^^^ 1]
  | some (l, d) => if v == 0 then l else d

theorem pamRow_eq (p : PamPlan) (row : List Nat) : pamRow p row = row.flatMap (pamCell p) := by
  unfold pamRow pamCell
  cases p.colours with
  | none =>
    simp only
    induction row with
    | nil => rfl
    | cons v r ih => simp only [List.map_cons, List.flatMap_cons, ih]; rfl
  | some c => obtain ⟨l, d⟩ := c; rfl

/-- the header values fit the tuple type, both pixels have `depth` bytes, and the reader shows them as `lPx` / `dPx` -/
def PlanOK (p : PamPlan) (dPx lPx : RGBA) : Prop :=
  L.pamWantDepth (p.tupl.name.map Char.toNat) = some p.depth ∧ p.depth ≠ 0 ∧ (p.maxval = 1 ∨ p.maxval = 255)
    ∧ ((p.tupl.name.map Char.toNat).take 13 == [66, 76, 65, 67, 75, 65, 78, 68, 87, 72, 73, 84, 69] && p.maxval != 1) = false
    ∧ (pamCell p 0).length = p.depth ∧ (pamCell p 1).length = p.depth
    ∧ L.pamPixel p.maxval (pamCell p 0) = some lPx ∧ L.pamPixel p.maxval (pamCell p 1) = some dPx

/-- for a plan without variables everything is computed -/
instance (p : PamPlan) (dPx lPx : RGBA) : Decidable (PlanOK p dPx lPx) := by unfold PlanOK; infer_instance

theorem planOK_rgba (r g b a lr lg lb la : Nat) (hr : r ≤ 255) (hg : g ≤ 255) (hb : b ≤ 255) (ha : a ≤ 255)
    (hlr : lr ≤ 255) (hlg : lg ≤ 255) (hlb : lb ≤ 255) (hla : la ≤ 255) :
    PlanOK { depth := 4, maxval := 255, tupl := .rgbAlpha, colours := some ([lr, lg, lb, la], [r, g, b, a]) } ⟨r, g, b, a⟩ ⟨lr, lg, lb, la⟩ := by
  unfold PlanOK
  dsimp only
  exact ⟨by decide, by decide, Or.inr rfl, by decide, rfl, rfl,
    by simp [pamCell, L.pamPixel, scaleTo255_byte, *], by simp [pamCell, L.pamPixel, scaleTo255_byte, *]⟩

theorem planOK_rgb (r g b lr lg lb : Nat) (hr : r ≤ 255) (hg : g ≤ 255) (hb : b ≤ 255)
    (hlr : lr ≤ 255) (hlg : lg ≤ 255) (hlb : lb ≤ 255) :
    PlanOK { depth := 3, maxval := 255, tupl := .rgb, colours := some ([lr, lg, lb], [r, g, b]) } ⟨r, g, b, 255⟩ ⟨lr, lg, lb, 255⟩ := by
  unfold PlanOK
  dsimp only
  exact ⟨by decide, by decide, Or.inr rfl, by decide, rfl, rfl,
    by simp [pamCell, L.pamPixel, scaleTo255_byte, *], by simp [pamCell, L.pamPixel, scaleTo255_byte, *]⟩

/-- the colour logic of `write_pam` behind the parsing of the two colours (a copy of the text of `Model.RasterDocs.pamPlan`;
    `pamPlan_eq` checks that it is one) -/
def planTail (stroke0 : List Nat) (bg0 : Option (List Nat)) : R PamPlan := do
  let coloredStroke := !(isBlackT stroke0 || isWhiteT stroke0)
  let (tupl, transparency, stroke, bg) : TuplType × Bool × List Nat × List Nat :=
    match bg0 with
    | none =>
      ((if !coloredStroke && stroke0.length != 4 then TuplType.grayscaleAlpha else TuplType.rgbAlpha), true,
       (if stroke0.length != 4 then stroke0 ++ [255] else stroke0), (stroke0.take 3).map (255 - ·) ++ [0])
    | some bg0 =>
      if stroke0.length == 4 || bg0.length == 4 then
        (TuplType.rgbAlpha, true, (if stroke0.length != 4 then stroke0 ++ [255] else stroke0), (if bg0.length != 4 then bg0 ++ [255] else bg0))
      else if coloredStroke || !(isBlackT bg0 || isWhiteT bg0) then (TuplType.rgb, false, stroke0, bg0)
      else (TuplType.blackAndWhite, false, stroke0, bg0)
  if !tupl.isRgb && transparency then
    pure { depth := 2, maxval := 1, tupl := tupl, colours := some (if isBlackT stroke then ([1, 0], [0, 1]) else ([0, 0], [1, 1])) }
  else if tupl.isRgb then
    pure { depth := if !transparency then 3 else 4, maxval := 255, tupl := tupl, colours := some (bg, stroke) }
  else if !(isBlackT stroke && isWhiteT bg) then
    pure { depth := 1, maxval := 1, tupl := tupl,
           colours := some ((if isBlackT bg then [0] else [1]), (if isBlackT stroke then [0] else [1])) }
  else pure { depth := 1, maxval := 1, tupl := tupl, colours := none }

theorem pamPlan_eq (dark light : ColorArg) :
    pamPlan dark light = (do
      let stroke0 ← rgbOrRgba dark
      let bg0 : Option (List Nat) ← match light with
        | .none => pure none
        | c => do let t ← rgbOrRgba c; pure (some t)
      planTail stroke0 bg0) := rfl

/-- `t` is the tuple `_color_to_rgb_or_rgba` returns for the colour `x` -/
def Tuple (t : List Nat) (x : RGBA) : Prop :=
  x.r ≤ 255 ∧ x.g ≤ 255 ∧ x.b ≤ 255 ∧ x.a ≤ 255 ∧ ((x.a = 255 ∧ t = [x.r, x.g, x.b]) ∨ (x.a ≠ 255 ∧ t = [x.r, x.g, x.b, x.a]))

theorem isBlackT3 (r g b : Nat) : isBlackT [r, g, b] = true ↔ r = 0 ∧ g = 0 ∧ b = 0 := by
  simp [isBlackT]

theorem isWhiteT3 (r g b : Nat) : isWhiteT [r, g, b] = true ↔ r = 255 ∧ g = 255 ∧ b = 255 := by
  simp [isWhiteT]

theorem planTail_none (s0 : List Nat) (p : PamPlan) (dPx : RGBA) (hs : Tuple s0 dPx) (h : planTail s0 none = .ok p) :
    ∃ lPx : RGBA, lPx.a = 0 ∧ PlanOK p dPx lPx := by
  obtain ⟨r, g, b, a⟩ := dPx
  obtain ⟨hr, hg, hb, ha, hs⟩ := hs
  simp only at hr hg hb ha hs
  rcases hs with ⟨rfl, rfl⟩ | ⟨ha', rfl⟩
  · by_cases hB : isBlackT [r, g, b] = true
    · obtain ⟨rfl, rfl, rfl⟩ := (isBlackT3 r g b).1 hB
      cases h
      exact ⟨⟨255, 255, 255, 0⟩, rfl, by decide⟩
    · by_cases hW : isWhiteT [r, g, b] = true
      · obtain ⟨rfl, rfl, rfl⟩ := (isWhiteT3 r g b).1 hW
        cases h
        exact ⟨⟨0, 0, 0, 0⟩, rfl, by decide⟩
      · simp [planTail, hB, hW, TuplType.isRgb] at h
        cases h
        exact ⟨⟨255 - r, 255 - g, 255 - b, 0⟩, rfl,
          planOK_rgba _ _ _ _ _ _ _ _ hr hg hb (by omega) (by omega) (by omega) (by omega) (by omega)⟩
  · simp [planTail, TuplType.isRgb] at h
    cases h
    exact ⟨⟨255 - r, 255 - g, 255 - b, 0⟩, rfl,
      planOK_rgba _ _ _ _ _ _ _ _ hr hg hb ha (by omega) (by omega) (by omega) (by omega)⟩

theorem planTail_some (s0 t : List Nat) (p : PamPlan) (dPx lPx : RGBA) (hs : Tuple s0 dPx) (ht : Tuple t lPx)
    (h : planTail s0 (some t) = .ok p) : PlanOK p dPx lPx := by
  obtain ⟨r, g, b, a⟩ := dPx
  obtain ⟨hr, hg, hb, ha, hs⟩ := hs
  obtain ⟨lr, lg, lb, la⟩ := lPx
  obtain ⟨hlr, hlg, hlb, hla, ht⟩ := ht
  simp only at hr hg hb ha hs hlr hlg hlb hla ht
  rcases hs with ⟨rfl, rfl⟩ | ⟨ha', rfl⟩ <;> rcases ht with ⟨rfl, rfl⟩ | ⟨hla', rfl⟩
  · by_cases hcol : (isBlackT [r, g, b] = false ∧ isWhiteT [r, g, b] = false) ∨ (isBlackT [lr, lg, lb] = false ∧ isWhiteT [lr, lg, lb] = false)
    · simp [planTail, hcol, TuplType.isRgb] at h
      cases h
      exact planOK_rgb _ _ _ _ _ _ hr hg hb hlr hlg hlb
    · have h1 : isBlackT [r, g, b] = true ∨ isWhiteT [r, g, b] = true := by
        cases hx : isBlackT [r, g, b] <;> cases hy : isWhiteT [r, g, b] <;> simp [hx, hy] at hcol ⊢
      have h2 : isBlackT [lr, lg, lb] = true ∨ isWhiteT [lr, lg, lb] = true := by
        cases hx : isBlackT [lr, lg, lb] <;> cases hy : isWhiteT [lr, lg, lb] <;> simp [hx, hy] at hcol ⊢
      rw [isBlackT3, isWhiteT3] at h1 h2
      rcases h1 with ⟨rfl, rfl, rfl⟩ | ⟨rfl, rfl, rfl⟩ <;> rcases h2 with ⟨rfl, rfl, rfl⟩ | ⟨rfl, rfl, rfl⟩
      -- the four pairs of black and white: the plan is computed
      all_goals (cases h; exact by decide)
  · simp [planTail, TuplType.isRgb] at h
    cases h
    exact planOK_rgba _ _ _ _ _ _ _ _ hr hg hb (by omega) hlr hlg hlb hla
  · simp [planTail, TuplType.isRgb] at h
    cases h
    exact planOK_rgba _ _ _ _ _ _ _ _ hr hg hb ha hlr hlg hlb (by omega)
  · simp [planTail, TuplType.isRgb] at h
    cases h
    exact planOK_rgba _ _ _ _ _ _ _ _ hr hg hb ha hlr hlg hlb hla

theorem rgbOrRgba_tuple (c : ColorArg) (hc : c ≠ .none) (t : List Nat) (h : rgbOrRgba c = .ok t) :
    ∃ C x, pngColor c = .ok C ∧ Proofs.Png.Shows C x ∧ Tuple t x := by
  obtain ⟨⟨r, g, b, a⟩, hq, h⟩ := Proofs.Except.bind_ok.1 h
  rw [Proofs.Except.pure_eq_ok] at h
  obtain ⟨hr, hg, hb, ha⟩ := colorToRgba_bounds c r g b a hq
  have hp := Proofs.ColourGrammar.png_of_ok c hc r g b a hq
  by_cases h255 : a = 255
  · subst h255
    exact ⟨_, ⟨r, g, b, 255⟩, hp, rfl, hr, hg, hb, ha, Or.inl ⟨rfl, h.symm⟩⟩
  · have e : (a == 255) = false := by simp [h255]
    simp only [e, Bool.false_eq_true, if_false] at h hp
    exact ⟨_, ⟨r, g, b, a⟩, hp, rfl, hr, hg, hb, ha, Or.inr ⟨h255, h.symm⟩⟩

theorem pamPlan_ok (dark light : ColorArg) (hd : dark ≠ .none) (p : PamPlan) (h : pamPlan dark light = .ok p) :
    ∃ dC lC dPx lPx, pngColor dark = .ok dC ∧ pngColor light = .ok lC
      ∧ Proofs.Png.Shows dC dPx ∧ Proofs.Png.Shows lC lPx ∧ PlanOK p dPx lPx := by
  rw [pamPlan_eq] at h
  obtain ⟨s0, hs, h⟩ := Proofs.Except.bind_ok.1 h
  obtain ⟨dC, dPx, hdC, hdS, hdT⟩ := rgbOrRgba_tuple dark hd s0 hs
  cases light with
  | none =>
    obtain ⟨lPx, hl0, hok⟩ := planTail_none s0 p dPx hdT h
    exact ⟨dC, .transparent, dPx, lPx, hdC, rfl, hdS, hl0, hok⟩
  | _ =>
    obtain ⟨t, ht, h⟩ := Proofs.Except.bind_ok.1 h
    obtain ⟨lC, lPx, hlC, hlS, hlT⟩ := rgbOrRgba_tuple _ (by simp) t ht
    exact ⟨dC, lC, dPx, lPx, hdC, hlC, hdS, hlS, planTail_some s0 t p dPx lPx hdT hlT h⟩

def numLine (key : List Nat) (n : Nat) : List Nat := key ++ 32 :: decBytes n

/-- the keywords of the PAM header as bytes: WIDTH, HEIGHT, DEPTH, MAXVAL, TUPLTYPE, ENDHDR -/
def kW : List Nat := [87, 73, 68, 84, 72]
def kH : List Nat := [72, 69, 73, 71, 72, 84]
def kD : List Nat := [68, 69, 80, 84, 72]
def kM : List Nat := [77, 65, 88, 86, 65, 76]
def kT : List Nat := [84, 85, 80, 76, 84, 89, 80, 69]
def kE : List Nat := [69, 78, 68, 72, 68, 82]

def tuplLine (t : TuplType) : List Nat := kT ++ 32 :: t.name.map Char.toNat

theorem ascii_p7 : ascii "P7" = [80, 55] := by decide
theorem ascii_width : ascii "WIDTH " = kW ++ [32] := by decide
theorem ascii_height : ascii "HEIGHT " = kH ++ [32] := by decide
theorem ascii_depth : ascii "DEPTH " = kD ++ [32] := by decide
theorem ascii_maxval : ascii "MAXVAL " = kM ++ [32] := by decide
theorem ascii_tupltype : ascii "TUPLTYPE " = kT ++ [32] := by decide
theorem ascii_endhdr : ascii "ENDHDR" = kE := by decide

theorem pamHeader_eq (t : List Nat) (W H : Nat) (p : PamPlan) (raster : List Nat) :
    pamHeader (35 :: t) W H p ++ raster =
      80 :: 55 :: 10 :: ((35 :: t) ++ 10 :: (numLine kW W ++ 10 :: (numLine kH H ++ 10 ::
        (numLine kD p.depth ++ 10 :: (numLine kM p.maxval ++ 10 :: (tuplLine p.tupl ++ 10 :: (kE ++ 10 :: raster))))))) := by
  unfold pamHeader
  simp only [ascii_p7, ascii_width, ascii_height, ascii_depth, ascii_maxval, ascii_tupltype, ascii_endhdr, numLine, tuplLine,
    List.append_assoc, List.cons_append, List.nil_append]

theorem pamLines_line (l rest : List Nat) (hl : ∀ c ∈ l, c ≠ 10) (cur : List Nat) (acc : List (List Nat)) :
    L.pamLines (l ++ 10 :: rest) cur acc =
      if (cur.reverse ++ l) == kE then some (acc.reverse, rest) else L.pamLines rest [] ((cur.reverse ++ l) :: acc) := by
  rw [Proofs.Scan.scan_clean (f := fun i c => L.pamLines i c acc) (fun c r cur (h : c ≠ 10) => by simp [L.pamLines, h]) hl]
  simp [L.pamLines, kE]

theorem splitOn_go (sep : Nat) (l : List Nat) (hl : ∀ c ∈ l, c ≠ sep) (rest cur : List Nat) :
    L.splitOn sep (l ++ rest) cur = L.splitOn sep rest (l.reverse ++ cur) :=
  Proofs.Scan.scan_clean (f := L.splitOn sep) (fun c r cur (h : c ≠ sep) => by simp [L.splitOn, h]) hl rest cur

theorem splitOn_piece (sep : Nat) (l rest : List Nat) (hl : ∀ c ∈ l, c ≠ sep) (cur : List Nat) :
    L.splitOn sep (l ++ sep :: rest) cur =
      if (cur.reverse ++ l).isEmpty then L.splitOn sep rest [] else (cur.reverse ++ l) :: L.splitOn sep rest [] := by
  rw [splitOn_go sep l hl]
  simp [L.splitOn, and_comm]

theorem splitOn_last (sep : Nat) (l : List Nat) (hl : ∀ c ∈ l, c ≠ sep) (cur : List Nat) :
    L.splitOn sep l cur = if (cur.reverse ++ l).isEmpty then [] else [cur.reverse ++ l] := by
  have := splitOn_go sep l hl [] cur
  rw [List.append_nil] at this
  rw [this]
  simp [L.splitOn, and_comm]

theorem decBytes_no (n sep : Nat) (hsep : isDigitB sep = false) : ∀ c ∈ decBytes n, c ≠ sep := by
  intro c hc hcs
  have := decBytes_digits n c hc
  rw [hcs, hsep] at this
  cases this

theorem natOf_dec (n : Nat) : L.natOf? (decBytes n) = some n := by
  unfold L.natOf?
  have h1 : (decBytes n).isEmpty = false := by
    cases h : decBytes n with
    | nil => exact absurd h (decBytes_ne n)
    | cons _ _ => rfl
  have h2 : (decBytes n).all isDigitB = true := List.all_eq_true.2 (decBytes_digits n)
  simp [h1, h2, digitsVal_decBytes]

theorem splitOn_two (key v : List Nat) (hk : ∀ c ∈ key, c ≠ 32) (hv : ∀ c ∈ v, c ≠ 32) (hk0 : key ≠ []) (hv0 : v ≠ []) :
    L.splitOn 32 (key ++ 32 :: v) [] = [key, v] := by
  rw [splitOn_piece 32 key v hk, splitOn_last 32 v hv]
  simp [hk0, hv0]

theorem splitOn_num (key : List Nat) (n : Nat) (hk : ∀ c ∈ key, c ≠ 32) (hk0 : key ≠ []) :
    L.splitOn 32 (numLine key n) [] = [key, decBytes n] :=
  splitOn_two key _ hk (decBytes_no n 32 (by decide)) hk0 (decBytes_ne n)

theorem headerLine_comment (hd : L.PamHdr) (r : List Nat) : L.pamHeaderLine hd (35 :: 32 :: r) = .ok hd := by
  simp [L.pamHeaderLine, L.splitOn]

theorem headerLine_width (hd : L.PamHdr) (n : Nat) (h : hd.w = none) :
    L.pamHeaderLine hd (numLine kW n) = .ok { hd with w := some n } := by
  unfold L.pamHeaderLine
  rw [splitOn_num _ n (by decide) (by decide)]
  simp [natOf_dec, h, kW]

theorem headerLine_height (hd : L.PamHdr) (n : Nat) (h : hd.h = none) :
    L.pamHeaderLine hd (numLine kH n) = .ok { hd with h := some n } := by
  unfold L.pamHeaderLine
  rw [splitOn_num _ n (by decide) (by decide)]
  simp [natOf_dec, h, kH]

theorem headerLine_depth (hd : L.PamHdr) (n : Nat) (h : hd.depth = none) :
    L.pamHeaderLine hd (numLine kD n) = .ok { hd with depth := some n } := by
  unfold L.pamHeaderLine
  rw [splitOn_num _ n (by decide) (by decide)]
  simp [natOf_dec, h, kD]

theorem headerLine_maxval (hd : L.PamHdr) (n : Nat) (h : hd.maxval = none) :
    L.pamHeaderLine hd (numLine kM n) = .ok { hd with maxval := some n } := by
  unfold L.pamHeaderLine
  rw [splitOn_num _ n (by decide) (by decide)]
  simp [natOf_dec, h, kM]

theorem tuplName_ok (t : TuplType) : (∀ c ∈ t.name.map Char.toNat, c ≠ 32 ∧ c ≠ 10) ∧ t.name.map Char.toNat ≠ [] := by
  cases t <;> decide

theorem headerLine_tupl (hd : L.PamHdr) (t : TuplType) (h : hd.tupl = []) :
    L.pamHeaderLine hd (tuplLine t) = .ok { hd with tupl := t.name.map Char.toNat } := by
  unfold L.pamHeaderLine tuplLine
  rw [splitOn_two _ _ (by decide) (fun c hc => ((tuplName_ok t).1 c hc).1) (by decide) (tuplName_ok t).2]
  simp [h, L.joinSp, kT]

theorem commentTail_cons : commentTail = 32 :: commentTail.tail := by decide

theorem numLine_no10 (key : List Nat) (n : Nat) (hk : ∀ c ∈ key, c ≠ 10) : ∀ c ∈ numLine key n, c ≠ 10 := by
  intro c hc
  simp only [numLine, List.mem_append, List.mem_cons] at hc
  rcases hc with hc | rfl | hc
  · exact hk c hc
  · decide
  · exact decBytes_no n 10 (by decide) c hc

theorem tuplLine_no10 (t : TuplType) : ∀ c ∈ tuplLine t, c ≠ 10 := by
  cases t <;> decide

theorem pamLines_header (W H : Nat) (p : PamPlan) (raster : List Nat) :
    L.pamLines ((35 :: commentTail) ++ 10 :: (numLine kW W ++ 10 :: (numLine kH H ++ 10 ::
        (numLine kD p.depth ++ 10 :: (numLine kM p.maxval ++ 10 :: (tuplLine p.tupl ++ 10 :: (kE ++ 10 :: raster))))))) [] []
      = some ([35 :: commentTail, numLine kW W, numLine kH H, numLine kD p.depth, numLine kM p.maxval, tuplLine p.tupl], raster) := by
  have h35 : ∀ c ∈ 35 :: commentTail, c ≠ 10 := by
    intro c hc
    simp only [List.mem_cons] at hc
    rcases hc with rfl | hc
    · decide
    · exact (commentTail_ok c hc).1
  rw [pamLines_line _ _ h35, pamLines_line _ _ (numLine_no10 kW W (by decide)), pamLines_line _ _ (numLine_no10 kH H (by decide)),
    pamLines_line _ _ (numLine_no10 kD _ (by decide)), pamLines_line _ _ (numLine_no10 kM _ (by decide)),
    pamLines_line _ _ (tuplLine_no10 _), pamLines_line kE _ (by decide)]
  simp [numLine, tuplLine, kW, kH, kD, kM, kT, kE]

theorem pamHeader_fields (W H : Nat) (p : PamPlan) :
    L.pamHeader [35 :: commentTail, numLine kW W, numLine kH H, numLine kD p.depth, numLine kM p.maxval, tuplLine p.tupl] {}
      = .ok { w := some W, h := some H, depth := some p.depth, maxval := some p.maxval, tupl := p.tupl.name.map Char.toNat } := by
  rw [commentTail_cons]
  simp only [L.pamHeader, headerLine_comment]
  rw [headerLine_width _ W rfl]
  simp only
  rw [headerLine_height _ H rfl]
  simp only
  rw [headerLine_depth _ _ rfl]
  simp only
  rw [headerLine_maxval _ _ rfl]
  simp only
  rw [headerLine_tupl _ _ rfl]

theorem pamCell_bit (p : PamPlan) (dPx lPx : RGBA) (ok : PlanOK p dPx lPx) (v : Nat) (hv : v ≤ 1) :
    (pamCell p v).length = p.depth ∧ L.pamPixel p.maxval (pamCell p v) = some (if v ≠ 0 then dPx else lPx) := by
  obtain ⟨_, _, _, _, len0, len1, px0, px1⟩ := ok
  have : v = 0 ∨ v = 1 := by omega
  rcases this with rfl | rfl
  · exact ⟨len0, by simpa using px0⟩
  · exact ⟨len1, by simpa using px1⟩

theorem pamRow_read (p : PamPlan) (dPx lPx : RGBA) (ok : PlanOK p dPx lPx) (row : List Nat) (hrow : ∀ v ∈ row, v ≤ 1) :
    (pamRow p row).length = row.length * p.depth
    ∧ (L.chunks p.depth row.length (pamRow p row)).map (L.pamPixel p.maxval) = row.map (fun v => some (if v ≠ 0 then dPx else lPx)) := by
  rw [pamRow_eq]
  have hlen : ∀ v ∈ row, (pamCell p v).length = p.depth := fun v hv => (pamCell_bit p dPx lPx ok v (hrow v hv)).1
  constructor
  · rw [length_flatMap_const _ _ _ hlen, Nat.mul_comm]
  · exact chunks_read _ _ _ _ row hlen (fun v hv => (pamCell_bit p dPx lPx ok v (hrow v hv)).2)

theorem readPam_rows (p : PamPlan) (dPx lPx : RGBA) (ok : PlanOK p dPx lPx) (rows : List (List Nat)) (W H : Nat) (g : Rect rows W H)
    (hbits : ∀ r ∈ rows, ∀ v ∈ r, v ≤ 1) :
    L.readPam (pamHeader (35 :: commentTail) W H p ++ rows.flatMap (pamRow p))
      = .ok { w := W, h := H, px := rows.map (fun row => row.map (fun v => some (if v ≠ 0 then dPx else lPx))) } := by
  rw [pamHeader_eq]
  have hrl : ∀ r ∈ rows, (pamRow p r).length = W * p.depth := by
    intro r hr
    rw [(pamRow_read p dPx lPx ok r (hbits r hr)).1, g.rowLen r hr]
  have hraster : (rows.flatMap (pamRow p)).length = W * H * p.depth := by
    rw [length_flatMap_const _ _ _ hrl, g.len, Nat.mul_right_comm]
  obtain ⟨hdepth, hdpos, hmaxval, hbw, _⟩ := id ok
  have hd0 : (p.depth == 0) = false := by simpa using hdpos
  have hmx : (p.maxval == 0 || decide (p.maxval > 255)) = false := by
    rcases hmaxval with h | h <;> rw [h] <;> decide
  simp only [L.readPam, pamLines_header, pamHeader_fields, g.w0, g.h0, hd0, hmx, hdepth, hbw, hraster, Bool.or_self,
    Bool.false_eq_true, if_false, bne_self_eq_false]
  congr 2
  rw [← g.len]
  apply chunks_read (pamRow p) _ _ _ rows hrl
  intro r hr
  rw [← g.rowLen r hr]
  exact (pamRow_read p dPx lPx ok r (hbits r hr)).2

theorem pam_doc {w h : Nat} {scale : Num} {border : Option Num} {b : Nat} (a : Admitted w h scale border b)
    (M : List (List Nat)) (hM : WellFormed M w h) (hbits : Bits M) (hw : 0 < w) (hh : 0 < h)
    (dark light : Option ColorArg) (doc : List Nat) (hdoc : pamDoc M w h scale border dark light = .ok doc) :
    ∃ dC lC dPx lPx,
      pngColor (dark.getD (.str "#000")) = .ok dC ∧ pngColor (light.getD (.str "#fff")) = .ok lC
      ∧ Proofs.Png.Shows dC dPx ∧ Proofs.Png.Shows lC lPx
      ∧ L.readPam doc = .ok { w := (w + 2 * b) * scale.toInt.toNat, h := (h + 2 * b) * scale.toInt.toNat,
                              px := (grid M w h scale.toInt.toNat b).map (fun row => row.map (fun v => some (if v ≠ 0 then dPx else lPx))) } := by
  unfold pamDoc at hdoc
  obtain ⟨hf, hdoc⟩ := Proofs.Except.guard_ok hdoc
  obtain ⟨_, _, hdoc⟩ := Proofs.Except.bind_ok.1 hdoc
  obtain ⟨plan, hp, hdoc⟩ := Proofs.Except.bind_ok.1 hdoc
  simp only [createdBy_eq, matrixIter_ok a M hM, a.okRange, bind, Except.bind, pure, Except.pure, Except.ok.injEq] at hdoc
  subst hdoc
  have hdk : dark.getD (.str "#000") ≠ .none := by
    intro hn; rw [hn] at hf; exact hf rfl
  obtain ⟨dC, lC, dPx, lPx, hdC, hlC, hdS, hlS, ok⟩ := pamPlan_ok _ _ hdk plan hp
  exact ⟨dC, lC, dPx, lPx, hdC, hlC, hdS, hlS,
    readPam_rows plan dPx lPx ok _ _ _ (grid_rect M b hw hh a.pos) (grid_bits M w h _ b hbits)⟩

end Proofs.RasterDocs
