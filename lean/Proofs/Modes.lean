/-
  Proofs.Modes — helper lemmas for C07 (mode detection, requested modes) and `Model.makeSegment` in two forms:
  for every requested mode number the decomposition into mode check `segModeOf` and bit packing `segBody`; for
  the modes that can be asked for the closed form (`makeSegment_auto_eq`, `makeSegment_requested_eq`): the segment
  `segOf m data enc` of the content, exactly when `m` represents it.  Proofs.Roundtrip (C01), Proofs.Sizing (C04)
  and Proofs.EndToEndSeg speak of `packBits m data` and `segOf`.  At the end `prepare_data` over it: every segment
  made, then the segments added one by one (`prepareData_eq`).
-/
import Spec.Sizing
import Model.Encoder
import Proofs.Except

/-! The function `make_segment` applies to each pair of bytes, under the names with which the translation theorems of
    Proofs/TieA3Kanji.lean are stated. -/
namespace Proofs.TieA3
open Model

/-- the bits of one pair in a double-byte mode, as `make_segment` computes them: trail byte test `tr`, code ranges
    `lo1 … hi1` (offset `k1`) and `lo2 … hi2` (offset `k2`), multiplier `m` -/
def dblGroup (tr : Nat → Bool) (lo1 hi1 k1 lo2 hi2 k2 m : Nat) : Nat × Nat → R (List Nat) := fun (hi, lo) => do
      let code := hi * 256 + lo
      if !tr lo then throw PyErr.valueError
      let diff ← if lo1 ≤ code && code ≤ hi1 then pure (code - k1)
                 else if lo2 ≤ code && code ≤ hi2 then pure (code - k2)
                 else throw PyErr.valueError
      pure (Model.appendBits ((diff >>> 8) * m + (diff &&& 0xff)) 13)

/-- the bits of one pair of `Model.makeSegment` in hanzi mode -/
def hanziGroup : Nat × Nat → R (List Nat) :=
  dblGroup (fun lo => 0xa1 ≤ lo && lo ≤ 0xfe) 0xa1a1 0xaafe 0xa1a1 0xb0a1 0xfafe 0xa6a1 0x60

/-- the bits of one pair of `Model.makeSegment` in kanji mode -/
def kanjiGroup : Nat × Nat → R (List Nat) :=
  dblGroup isSjisTrail 0x8140 0x9ffc 0x8140 0xe040 0xebbf 0xc140 0xc0

end Proofs.TieA3

namespace Proofs.Modes
open Model Proofs.Except Proofs.TieA3

def kanjiVal (hi lo : Nat) : Nat :=
  let code := hi * 256 + lo
  let diff := if code ≤ 0x9ffc then code - 0x8140 else code - 0xc140
  (diff >>> 8) * 0xc0 + (diff &&& 0xff)

def hanziVal (hi lo : Nat) : Nat :=
  let code := hi * 256 + lo
  let diff := if code ≤ 0xaafe then code - 0xa1a1 else code - 0xa6a1
  (diff >>> 8) * 0x60 + (diff &&& 0xff)

/-- the ranges do not overlap, so the offset is told by the end of the first -/
theorem dblGroup_guard (tr : Nat → Bool) (lo1 hi1 k1 lo2 hi2 k2 m : Nat) (hsep : hi1 < lo2) (p : Nat × Nat) :
    dblGroup tr lo1 hi1 k1 lo2 hi2 k2 m p =
      if (((lo1 ≤ p.1 * 256 + p.2 && p.1 * 256 + p.2 ≤ hi1) || (lo2 ≤ p.1 * 256 + p.2 && p.1 * 256 + p.2 ≤ hi2)) && tr p.2) = true
      then .ok (Model.appendBits (((if p.1 * 256 + p.2 ≤ hi1 then p.1 * 256 + p.2 - k1 else p.1 * 256 + p.2 - k2) >>> 8) * m
        + ((if p.1 * 256 + p.2 ≤ hi1 then p.1 * 256 + p.2 - k1 else p.1 * 256 + p.2 - k2) &&& 0xff)) 13)
      else .error PyErr.valueError := by
  obtain ⟨a, b⟩ := p
  unfold dblGroup
  dsimp only
  generalize a * 256 + b = c
  have hc : lo2 ≤ c → ¬ c ≤ hi1 := by omega
  cases tr b <;> by_cases r1 : lo1 ≤ c ∧ c ≤ hi1 <;> by_cases r2 : lo2 ≤ c ∧ c ≤ hi2 <;>
    simp [r1, r2, hc, Bind.bind, Except.bind, Pure.pure, Except.pure, Proofs.Except.throw_eq_error]

theorem hanziGroup_guard (p : Nat × Nat) :
    hanziGroup p = if Spec.isHanziPair p.1 p.2 then .ok (appendBits (hanziVal p.1 p.2) 13) else .error PyErr.valueError := by
  rw [hanziGroup, dblGroup_guard _ _ _ _ _ _ _ _ (by omega)]
  unfold hanziVal Spec.isHanziPair
  simp only [Bool.and_assoc]

theorem kanjiGroup_guard (p : Nat × Nat) :
    kanjiGroup p = if Spec.isKanjiPair p.1 p.2 then .ok (appendBits (kanjiVal p.1 p.2) 13) else .error PyErr.valueError := by
  rw [kanjiGroup, dblGroup_guard _ _ _ _ _ _ _ _ (by omega)]
  unfold kanjiVal Spec.isKanjiPair isSjisTrail
  simp only [Bool.and_assoc]

def segModeOf (data : List Nat) (mode : Option Nat) : R Nat :=
  let guessed := if mode != some 4 then findMode data else 4
  match mode with
  | some m => if m < guessed then .error PyErr.valueError else .ok m
  | none => .ok guessed

def numBits (data : List Nat) : List Nat :=
  ((chunks 3 data.length data).map (fun c => appendBits (digitsVal c) (c.length * 3 + 1))).flatten
def alnumBits (data : List Nat) : List Nat :=
  ((chunks 2 data.length data).map (fun c =>
      match c with
      | [a, b] => appendBits (alnumIndex a * 45 + alnumIndex b) 11
      | [a] => appendBits (alnumIndex a) 6
      | _ => [])).flatten
def byteBits (data : List Nat) : List Nat := (data.map (fun b => appendBits b 8)).flatten

/-- the bits of `make_segment` for the mode `segMode` it settled on: all that depends on the branch taken -/
def segBits (data : List Nat) (segMode : Nat) : R (List Nat) :=
  if (segMode == 8 || segMode == 13) && data.length % 2 != 0 then .error PyErr.valueError
  else if segMode == 1 then .ok (numBits data)
  else if segMode == 2 then .ok (alnumBits data)
  else if segMode == 4 then .ok (byteBits data)
  else if segMode == 13 then ((pairs data).mapM hanziGroup).map List.flatten
  else ((pairs data).mapM kanjiGroup).map List.flatten

def segBody (data : List Nat) (enc : String) (segMode : Nat) : R Segment :=
  (segBits data segMode).map fun bits =>
    { bits := bits, charCount := if segMode == 8 || segMode == 13 then data.length / 2 else data.length, mode := segMode,
      encoding := if segMode != 4 then none else some enc }

theorem segMode_bind {β : Type} (mode : Option Nat) (g : Nat) (k k' : Nat → R β) (hk : ∀ sm, k sm = k' sm) :
    (match mode with
      | some m => if m < g then throw PyErr.valueError >>= k else pure m >>= k
      | none => pure g >>= k)
    = (match mode with
      | some m => if m < g then .error PyErr.valueError else .ok m
      | none => .ok g : R Nat).bind k' := by
  cases funext hk
  cases mode with
  | none => rfl
  | some m => dsimp only; split <;> rfl

theorem makeSegment_eq (data : List Nat) (mode : Option Nat) (enc : String) :
    makeSegment data mode enc = (segModeOf data mode).bind (segBody data enc) := by
  unfold makeSegment Gen.MODE_BYTE Gen.MODE_KANJI Gen.MODE_HANZI Gen.MODE_NUMERIC Gen.MODE_ALPHANUMERIC
  refine segMode_bind mode _ _ _ fun sm => ?_
  -- the two bodies branch on the same conditions, in the same order
  unfold segBody segBits
  by_cases h0 : ((sm == 8 || sm == 13) && data.length % 2 != 0) = true
  · simp only [h0, if_true]; rfl
  simp only [h0, ↓reduceIte, Bool.false_eq_true]
  by_cases h1 : (sm == 1) = true
  · simp only [h1, ↓reduceIte]; rfl
  by_cases h2 : (sm == 2) = true
  · simp only [h1, h2, ↓reduceIte, Bool.false_eq_true]; rfl
  by_cases h4 : (sm == 4) = true
  · simp only [h1, h2, h4, ↓reduceIte, Bool.false_eq_true]; rfl
  -- the function applied to each pair is `hanziGroup` resp. `kanjiGroup` written out
  by_cases h13 : (sm == 13) = true
  · simp only [h1, h2, h4, h13, ↓reduceIte, Bool.false_eq_true]
    show (List.mapM hanziGroup (pairs data) >>= _) = _
    cases List.mapM hanziGroup (pairs data) <;> rfl
  · simp only [h1, h2, h4, h13, ↓reduceIte, Bool.false_eq_true]
    show (List.mapM kanjiGroup (pairs data) >>= _) = _
    cases List.mapM kanjiGroup (pairs data) <;> rfl

theorem alnum_table : Gen.ALPHANUMERIC_CHARS = Spec.alnumChars.map Char.toNat := rfl

theorem isDigitByte_eq (b : Nat) : isDigitByte b = Spec.isDigit b := rfl

theorem isAlnumByte_eq (b : Nat) : isAlnumByte b = Spec.isAlnum b := by
  unfold isAlnumByte Spec.isAlnum
  rw [alnum_table, List.contains_eq_any_beq, List.any_map]
  congr 1
  funext c
  simp only [Function.comp]
  exact Bool.beq_comm ..

theorem isDigit_isAlnum (b : Nat) (h : Spec.isDigit b = true) : Spec.isAlnum b = true := by
  rw [← isAlnumByte_eq]
  unfold isAlnumByte Gen.ALPHANUMERIC_CHARS
  simp only [Spec.isDigit, Bool.and_eq_true, decide_eq_true_eq] at h
  have : b = 48 ∨ b = 49 ∨ b = 50 ∨ b = 51 ∨ b = 52 ∨ b = 53 ∨ b = 54 ∨ b = 55 ∨ b = 56 ∨ b = 57 := by omega
  rcases this with h | h | h | h | h | h | h | h | h | h <;> subst h <;> decide

theorem length_ne_zero {α : Type} (data : List α) : (data.length != 0) = !data.isEmpty := by
  cases data <;> rfl

theorem allPairs_eq (p : Nat → Nat → Bool) : ∀ data : List Nat,
    Spec.allPairs p data = (data.length % 2 == 0 && (pairs data).all (fun x => p x.1 x.2))
  | [] => rfl
  | [_] => rfl
  | a :: b :: rest => by
    have ih := allPairs_eq p rest
    have hl : (a :: b :: rest).length % 2 = rest.length % 2 := by simp only [List.length_cons]; omega
    rw [Spec.allPairs, pairs, List.all_cons, ih, hl]
    cases p a b <;> cases (rest.length % 2 == 0) <;> rfl

theorem isKanji_eq (data : List Nat) :
    isKanji data = (!data.isEmpty && Spec.allPairs Spec.isKanjiPair data) := by
  unfold isKanji
  rw [length_ne_zero, allPairs_eq, Bool.and_assoc]
  congr 2
  apply List.all_congr rfl
  intro ⟨hi, lo⟩
  simp only [Spec.isKanjiPair, isSjisTrail, Bool.and_assoc]

theorem representable_1 (data : List Nat) : Spec.representable 1 data = (!data.isEmpty && data.all Spec.isDigit) := rfl
theorem representable_2 (data : List Nat) : Spec.representable 2 data = (!data.isEmpty && data.all Spec.isAlnum) := rfl
theorem representable_4 (data : List Nat) : Spec.representable 4 data = true := rfl
theorem representable_8 (data : List Nat) :
    Spec.representable 8 data = Spec.allPairs Spec.isKanjiPair data := rfl
theorem representable_13 (data : List Nat) :
    Spec.representable 13 data = Spec.allPairs Spec.isHanziPair data := rfl

theorem findMode_eq_autoMode (data : List Nat) : findMode data = Spec.autoMode data := by
  unfold findMode Spec.autoMode
  rw [representable_1, representable_2, representable_8, isKanji_eq, length_ne_zero]
  have e1 : data.all isDigitByte = data.all Spec.isDigit := rfl
  have e2 : data.all isAlnumByte = data.all Spec.isAlnum := by
    congr 1; funext b; exact isAlnumByte_eq b
  rw [e1, e2]
  rfl

theorem autoMode_cases (data : List Nat) :
    (Spec.autoMode data = 1 ∧ Spec.representable 1 data = true) ∨
    (Spec.autoMode data = 2 ∧ Spec.representable 1 data = false ∧ Spec.representable 2 data = true) ∨
    (Spec.autoMode data = 8 ∧ Spec.representable 1 data = false ∧ Spec.representable 2 data = false
        ∧ Spec.representable 8 data = true) ∨
    (Spec.autoMode data = 4 ∧ Spec.representable 1 data = false ∧ Spec.representable 2 data = false
        ∧ (!data.isEmpty && Spec.representable 8 data) = false) := by
  unfold Spec.autoMode
  cases h1 : Spec.representable 1 data <;> cases h2 : Spec.representable 2 data <;>
    cases h8 : Spec.representable 8 data <;> cases he : data.isEmpty <;> simp

theorem representable_1_2 (data : List Nat) (h : Spec.representable 1 data = true) :
    Spec.representable 2 data = true := by
  rw [representable_1] at h
  rw [representable_2]
  simp only [Bool.and_eq_true, List.all_eq_true] at h ⊢
  exact ⟨h.1, fun b hb => isDigit_isAlnum b (h.2 b hb)⟩

theorem representable_iff_le (data : List Nat) (m : Nat) (hm : m = 1 ∨ m = 2) :
    Spec.representable m data = true ↔ Spec.autoMode data ≤ m := by
  rcases hm with rfl | rfl
  · rcases autoMode_cases data with ⟨ha, h1⟩ | ⟨ha, h1, _⟩ | ⟨ha, h1, _⟩ | ⟨ha, h1, _⟩ <;> simp [ha, h1]
  · rcases autoMode_cases data with ⟨ha, h1⟩ | ⟨ha, _, h2⟩ | ⟨ha, _, h2, _⟩ | ⟨ha, _, h2, _⟩
    · simp [ha, representable_1_2 data h1]
    all_goals simp [ha, h2]

/-- the bits of double-byte content: 13 bits for each pair, `val` giving its number -/
def pairBits (val : Nat → Nat → Nat) (data : List Nat) : List Nat :=
  ((pairs data).map (fun p => appendBits (val p.1 p.2) 13)).flatten

theorem segBody_1 (data : List Nat) (enc : String) :
    segBody data enc 1 = .ok ⟨numBits data, data.length, 1, none⟩ := rfl
theorem segBody_2 (data : List Nat) (enc : String) :
    segBody data enc 2 = .ok ⟨alnumBits data, data.length, 2, none⟩ := rfl
theorem segBody_4 (data : List Nat) (enc : String) :
    segBody data enc 4 = .ok ⟨byteBits data, data.length, 4, some enc⟩ := rfl

/-- the two double-byte branches of `segBits`: an odd length or an invalid pair is refused -/
theorem segBits_pairs (P : Nat → Nat → Bool) (val : Nat → Nat → Nat) (g : Nat × Nat → R (List Nat))
    (hg : ∀ p, g p = if P p.1 p.2 then .ok (appendBits (val p.1 p.2) 13) else .error PyErr.valueError) (data : List Nat) :
    (if (data.length % 2 != 0) = true then .error PyErr.valueError else ((pairs data).mapM g).map List.flatten)
    = if Spec.allPairs P data then .ok (pairBits val data) else .error PyErr.valueError := by
  rw [funext hg, allPairs_eq, mapM_guard (fun p : Nat × Nat => P p.1 p.2), pairBits]
  by_cases h1 : data.length % 2 = 0 <;> by_cases h2 : (pairs data).all (fun p => P p.1 p.2) = true <;>
    simp [h1, h2, Except.map]

theorem segBody_8 (data : List Nat) (enc : String) :
    segBody data enc 8 = if Spec.allPairs Spec.isKanjiPair data
      then .ok ⟨pairBits kanjiVal data, data.length / 2, 8, none⟩ else .error PyErr.valueError := by
  rw [segBody, show segBits data 8 = _ from segBits_pairs Spec.isKanjiPair kanjiVal kanjiGroup kanjiGroup_guard data]
  cases Spec.allPairs Spec.isKanjiPair data <;> rfl

theorem segBody_13 (data : List Nat) (enc : String) :
    segBody data enc 13 = if Spec.allPairs Spec.isHanziPair data
      then .ok ⟨pairBits hanziVal data, data.length / 2, 13, none⟩ else .error PyErr.valueError := by
  rw [segBody, show segBits data 13 = _ from segBits_pairs Spec.isHanziPair hanziVal hanziGroup hanziGroup_guard data]
  cases Spec.allPairs Spec.isHanziPair data <;> rfl

theorem segModeOf_none (data : List Nat) : segModeOf data none = .ok (Spec.autoMode data) := by
  unfold segModeOf
  rw [← findMode_eq_autoMode]; rfl

theorem segModeOf_4 (data : List Nat) : segModeOf data (some 4) = .ok 4 := rfl

theorem segModeOf_some (data : List Nat) (m : Nat) (hm : m ≠ 4) :
    segModeOf data (some m) = if m < Spec.autoMode data then .error PyErr.valueError else .ok m := by
  unfold segModeOf
  rw [← findMode_eq_autoMode]
  have : (some m != some 4) = true := by simp [hm]
  simp only [this, if_true]

theorem makeSegment_none (data : List Nat) (enc : String) :
    makeSegment data none enc = segBody data enc (Spec.autoMode data) := by
  rw [makeSegment_eq, segModeOf_none]; rfl

theorem makeSegment_4 (data : List Nat) (enc : String) :
    makeSegment data (some 4) enc = segBody data enc 4 := by
  rw [makeSegment_eq, segModeOf_4]; rfl

theorem makeSegment_some (data : List Nat) (m : Nat) (enc : String) (hm : m ≠ 4) :
    makeSegment data (some m) enc =
      if m < Spec.autoMode data then .error PyErr.valueError else segBody data enc m := by
  rw [makeSegment_eq, segModeOf_some data m hm]
  split <;> rfl

theorem autoMode_le_8 (data : List Nat) : Spec.autoMode data ≤ 8 := by
  rcases autoMode_cases data with h | h | h | h <;> omega

theorem segModeOf_eq_ok_iff (data : List Nat) (mode : Option Nat) (sm : Nat) :
    segModeOf data mode = .ok sm ↔
      (mode = some sm ∧ (sm = 4 ∨ Spec.autoMode data ≤ sm)) ∨ (mode = none ∧ sm = Spec.autoMode data) := by
  cases mode with
  | none => rw [segModeOf_none]; simp [eq_comm]
  | some m =>
    by_cases h4 : m = 4
    · subst h4; rw [segModeOf_4]; simp; intro h; exact .inl h.symm
    · rw [segModeOf_some data m h4]
      split <;> simp <;> omega

theorem autoMode_mem (data : List Nat) : Spec.autoMode data ∈ [1, 2, 4, 8, 13] := by
  rcases autoMode_cases data with h | h | h | h <;> rw [h.1] <;> decide

theorem autoMode_representable (data : List Nat) : Spec.representable (Spec.autoMode data) data = true := by
  rcases autoMode_cases data with ⟨h, r⟩ | ⟨h, _, r⟩ | ⟨h, _, _, r⟩ | ⟨h, _⟩ <;> rw [h]
  · exact r
  · exact r
  · exact r
  · rfl

/-- the payload of `data` in mode `m` -/
def packBits (m : Nat) (data : List Nat) : List Nat :=
  match m with
  | 1 => numBits data
  | 2 => alnumBits data
  | 4 => byteBits data
  | 8 => pairBits kanjiVal data
  | _ => pairBits hanziVal data

/-- the segment `make_segment` builds from `data` in mode `m` -/
def segOf (m : Nat) (data : List Nat) (enc : String) : Segment :=
  ⟨packBits m data, Spec.charCount m data.length, m, if m = 4 then some enc else none⟩

theorem makeSegment_auto_eq (data : List Nat) (enc : String) :
    makeSegment data none enc = .ok (segOf (Spec.autoMode data) data enc) := by
  rw [makeSegment_none]
  have hr := autoMode_representable data
  rcases autoMode_cases data with ⟨h, _⟩ | ⟨h, _⟩ | ⟨h, _⟩ | ⟨h, _⟩ <;> rw [h] at hr ⊢
  · exact segBody_1 data enc
  · exact segBody_2 data enc
  · rw [segBody_8, ← representable_8, if_pos hr]; rfl
  · exact segBody_4 data enc

/-- a requested mode is honoured exactly when the content is representable in it: the numeric and alphanumeric
    request through the comparison with the automatic mode, kanji and hanzi through the validation of the pairs -/
theorem makeSegment_requested_eq (data : List Nat) (m : Nat) (enc : String) (hm : m ∈ [1, 2, 4, 8, 13]) :
    makeSegment data (some m) enc =
      if Spec.representable m data then .ok (segOf m data enc) else .error PyErr.valueError := by
  simp only [List.mem_cons, List.mem_nil_iff, or_false] at hm
  have h8 := autoMode_le_8 data
  rcases hm with rfl | rfl | rfl | rfl | rfl
  · rw [makeSegment_some data 1 enc (by decide), segBody_1]
    have hr := representable_iff_le data 1 (.inl rfl)
    by_cases h : Spec.representable 1 data = true
    · rw [if_pos h, if_neg (Nat.not_lt.2 (hr.1 h))]; rfl
    · rw [if_neg h, if_pos (Nat.not_le.1 fun hle => h (hr.2 hle))]
  · rw [makeSegment_some data 2 enc (by decide), segBody_2]
    have hr := representable_iff_le data 2 (.inr rfl)
    by_cases h : Spec.representable 2 data = true
    · rw [if_pos h, if_neg (Nat.not_lt.2 (hr.1 h))]; rfl
    · rw [if_neg h, if_pos (Nat.not_le.1 fun hle => h (hr.2 hle))]
  · rw [makeSegment_4, segBody_4]; rfl
  · rw [makeSegment_some data 8 enc (by decide), if_neg (by omega), segBody_8]; rfl
  · rw [makeSegment_some data 13 enc (by decide), if_neg (by omega), segBody_13]; rfl

theorem makeSegment_auto (data : List Nat) (enc : String) :
    ∃ s, makeSegment data none enc = .ok s ∧ s.mode = Spec.autoMode data :=
  ⟨_, makeSegment_auto_eq data enc, rfl⟩

theorem auto_never_hanzi (data : List Nat) : findMode data ≠ 13 := by
  rw [findMode_eq_autoMode]
  have := autoMode_le_8 data
  omega

theorem makeSegment_requested (data : List Nat) (m : Nat) (enc : String) (hm : m ∈ [1, 2, 4, 8, 13]) :
    (Spec.representable m data = true → ∃ s, makeSegment data (some m) enc = .ok s ∧ s.mode = m)
    ∧ (Spec.representable m data = false → makeSegment data (some m) enc = .error PyErr.valueError) := by
  rw [makeSegment_requested_eq data m enc hm]
  exact ⟨fun h => ⟨_, if_pos h, rfl⟩, fun h => if_neg (by rw [h]; decide)⟩

theorem makeSegment_ok_cases (data : List Nat) (mode : Option Nat) (enc : String) (s : Segment)
    (hm : mode ∈ [none, some 1, some 2, some 4, some 8, some 13]) (h : makeSegment data mode enc = .ok s) :
    ∃ m, m ∈ [1, 2, 4, 8, 13] ∧ Spec.representable m data = true ∧ s = segOf m data enc := by
  cases mode with
  | none =>
    rw [makeSegment_auto_eq] at h
    exact ⟨_, autoMode_mem data, autoMode_representable data, (Except.ok.inj h).symm⟩
  | some m =>
    have hm5 : m ∈ [1, 2, 4, 8, 13] := by simpa using hm
    rw [makeSegment_requested_eq data m enc hm5] at h
    split at h
    · next hr => exact ⟨m, hm5, hr, (Except.ok.inj h).symm⟩
    · cases h

theorem segBody_ok (data : List Nat) (enc : String) (sm : Nat) (s : Segment)
    (h : segBody data enc sm = .ok s) :
    s.mode = sm ∧ s.charCount = Spec.charCount sm data.length ∧ s.encoding = if sm = 4 then some enc else none := by
  obtain ⟨b, -, rfl⟩ := map_ok.1 h
  exact ⟨rfl, rfl, by by_cases h4 : sm = 4 <;> simp [h4]⟩

theorem segBody_even (data : List Nat) (enc : String) (sm : Nat) (s : Segment)
    (h : segBody data enc sm = .ok s) (hd : sm = 8 ∨ sm = 13) : data.length % 2 = 0 := by
  refine Decidable.byContradiction fun hodd => ?_
  have hguard : ((sm == 8 || sm == 13) && data.length % 2 != 0) = true := by
    rcases hd with rfl | rfl <;> simpa using hodd
  obtain ⟨b, hb, -⟩ := map_ok.1 h
  unfold segBits at hb
  rw [if_pos hguard] at hb
  cases hb

theorem makeSegment_ok_body (data : List Nat) (mode : Option Nat) (enc : String) (s : Segment)
    (h : makeSegment data mode enc = .ok s) : ∃ sm, segModeOf data mode = .ok sm ∧ segBody data enc sm = .ok s :=
  bind_ok.1 ((makeSegment_eq data mode enc).symm.trans h)

theorem makeSegment_charCount (data : List Nat) (mode : Option Nat) (enc : String) (s : Segment)
    (h : makeSegment data mode enc = .ok s) : s.charCount = Spec.charCount s.mode data.length := by
  obtain ⟨sm, _, hb⟩ := makeSegment_ok_body data mode enc s h
  obtain ⟨h1, h2, -⟩ := segBody_ok data enc sm s hb
  rw [h1, h2]

theorem makeSegment_mode (data : List Nat) (m : Nat) (enc : String) (s : Segment)
    (h : makeSegment data (some m) enc = .ok s) : s.mode = m := by
  obtain ⟨sm, hsm, hb⟩ := makeSegment_ok_body _ _ _ _ h
  rw [(segBody_ok _ _ _ _ hb).1]
  rcases (segModeOf_eq_ok_iff data (some m) sm).1 hsm with ⟨h, -⟩ | ⟨h, -⟩
  · exact (Option.some.inj h).symm
  · cases h

theorem addSegment_concat (init : List Segment) (prev s : Segment) :
    (prev.mode = s.mode ∧ prev.encoding = s.encoding ∧
      prev.charCount % (if s.mode == Gen.MODE_NUMERIC then 3 else if s.mode == Gen.MODE_ALPHANUMERIC then 2 else 1) = 0 ∧
      addSegment (init ++ [prev]) s =
        init ++ [{ bits := prev.bits ++ s.bits, charCount := prev.charCount + s.charCount,
                   mode := s.mode, encoding := s.encoding }]) ∨
    addSegment (init ++ [prev]) s = init ++ [prev] ++ [s] := by
  unfold addSegment
  simp only [List.getLast?_concat, List.dropLast_concat]
  by_cases hc : (prev.mode == s.mode && prev.encoding == s.encoding &&
      prev.charCount % (if s.mode == Gen.MODE_NUMERIC then 3 else if s.mode == Gen.MODE_ALPHANUMERIC then 2 else 1) == 0) = true
  · rw [if_pos hc]
    rw [Bool.and_eq_true, Bool.and_eq_true] at hc
    exact .inl ⟨eq_of_beq hc.1.1, eq_of_beq hc.1.2, eq_of_beq hc.2, rfl⟩
  · rw [if_neg hc]; exact .inr rfl

/-- `prepare_data`: make every segment, then add them one by one -/
theorem prepareData_eq (parts : List Part) :
    prepareData parts = (parts.mapM fun p => makeSegment p.data p.mode p.encoding).map (List.foldl addSegment []) :=
  foldlM_eq_mapM _ _ parts []

theorem prepareData_single (p : Part) :
    prepareData [p] = (makeSegment p.data p.mode p.encoding >>= fun s => pure [s]) := by
  rw [prepareData_eq, List.mapM_cons, List.mapM_nil]
  cases makeSegment p.data p.mode p.encoding <;> rfl

end Proofs.Modes
