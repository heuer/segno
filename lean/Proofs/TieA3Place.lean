/-
  `add_codewords`: the three nested loops of the translation (two-module wide columns from right to left, `right -= 1` to skip
  the vertical timing pattern, rows upwards / downwards, the two modules of a column) carry the state (idx, matrix);
  `Model.addCodewords` folds over the visited coordinates `Model.codewordCoords` with the state (matrix, remaining bits).
  Both are the fold of `rightF` over the column pairs, the second read through `sim` (`bits.drop idx`); column and direction
  are named as in the closed form of the visited coordinates, `Proofs.Placement2.codewordCoords_eq`.
-/
import Proofs.TieA3Mask
import Proofs.Placement2

namespace Proofs.TieA3
open Gen.Py Proofs.TieA2 Model
open Proofs.Placement2 (placeStep upOf adjRight rights)

/-- state of the translation: (idx, matrix) -/
def emb (t : Matrix × Nat) : Int × List (List Int) := ((t.2 : Int), mI t.1)

/-- `if row[j] == 0x2 and idx < codeword_length: row[j] = codewords[idx]; idx += 1` -/
def cwStep (bits : List Nat) (t : Matrix × Nat) (i j : Nat) : Matrix × Nat :=
  if get2 t.1 i j == 2 && decide (t.2 < bits.length) then (set2 t.1 i j (bits.getD t.2 0), t.2 + 1) else t

def iOf (n : Nat) (up : Bool) (vertical : Nat) : Nat := if up then n - 1 - vertical else vertical

def cellF (bits : List Nat) (n : Nat) (v : Int) (right vertical : Nat) (t : Matrix × Nat) (z : Nat) : Matrix × Nat :=
  cwStep bits t (iOf n (upOf v right z) vertical) (right - z)

def vertF (bits : List Nat) (n : Nat) (v : Int) (right : Nat) (t : Matrix × Nat) (vertical : Nat) : Matrix × Nat :=
  (List.range 2).foldl (cellF bits n v right vertical) t

def rightF (bits : List Nat) (n : Nat) (v : Int) (t : Matrix × Nat) (k : Nat) : Matrix × Nat :=
  (List.range n).foldl (vertF bits n v (adjRight v (n - 1 - 2 * k))) t

def Inv (bits : List Nat) (n : Nat) (t : Matrix × Nat) : Prop := Sq t.1 n ∧ t.2 ≤ bits.length

theorem inv_cwStep {bits : List Nat} {n : Nat} {t : Matrix × Nat} (h : Inv bits n t) (i j : Nat) : Inv bits n (cwStep bits t i j) := by
  unfold cwStep
  split
  · rename_i hc
    simp only [Bool.and_eq_true, decide_eq_true_eq] at hc
    exact ⟨sq_set2 h.1 _ _ _, by show t.2 + 1 ≤ bits.length; omega⟩
  · exact h

theorem cw_cell (bits : List Nat) (n : Nat) (t : Matrix × Nat) (ht : Inv bits n t) (i j : Nat) (hi : i < n) (hj : j < n)
    (ii jj : Int) (hii : ii = (i : Int)) (hjj : jj = (j : Int)) :
    Gen.Py.bind (index (mI t.1) ii) (fun _ => Gen.Py.bind (index (mI t.1) ii) (fun t2 => Gen.Py.bind (index t2 jj) (fun t3 =>
      if ((t3 == (2 : Int)) && decide ((t.2 : Int) < Int.ofNat (toI bits).length)) then
        Gen.Py.bind (index (toI bits) (t.2 : Int)) (fun t4 => Gen.Py.bind (setItem2 (mI t.1) ii jj t4) (fun t5 =>
          Except.ok ((t.2 : Int) + (1 : Int), t5)))
      else Except.ok ((t.2 : Int), mI t.1))))
      = .ok (emb (cwStep bits t i j)) := by
  subst hii hjj
  rw [bind_eq_of_eq _ _ (index_row ht.1 _ i (normIndex_nat n i hi)), index_cell_then ht.1 i j hi hj]
  unfold cwStep
  have e1 : (Int.ofNat (get2 t.1 i j) == (2 : Int)) = (get2 t.1 i j == 2) := by
    rw [Bool.eq_iff_iff]; simp only [Int.ofNat_eq_natCast, beq_iff_eq]; omega
  have e2 : decide ((t.2 : Int) < Int.ofNat (toI bits).length) = decide (t.2 < bits.length) := by
    rw [toI_length, Bool.eq_iff_iff]; simp only [Int.ofNat_eq_natCast, decide_eq_true_eq]; omega
  rw [e1, e2]
  by_cases hc : (get2 t.1 i j == 2 && decide (t.2 < bits.length)) = true
  · have hl : t.2 < bits.length := of_decide_eq_true (Bool.and_eq_true _ _ ▸ hc).2
    rw [if_pos hc, if_pos hc, index_toI bits t.2 hl, bind_ok,
      setItem2_cell ht.1 _ _ i j _ (normIndex_nat n i hi) (normIndex_nat n j hj), bind_ok]
    simp only [emb]
    push_cast
    rfl
  · rw [if_neg hc, if_neg hc]
    rfl

theorem up_int (v : Int) (right z : Nat) (hz : z ≤ right) :
    (if (!decide (v < 1)) then
        ((band ((right : Int) + ((if isM1M3 v then 2 else 0 : Nat) : Int)) 2 == (0 : Int)) != decide ((right : Int) - (z : Int) < 6))
      else (band ((right : Int) + ((if isM1M3 v then 2 else 0 : Nat) : Int)) 2 == (0 : Int))) = upOf v right z := by
  unfold upOf
  generalize (if isM1M3 v then 2 else 0 : Nat) = inc
  have e : ((right : Int) + (inc : Int)) = ((right + inc : Nat) : Int) := by push_cast; rfl
  rw [e, show band ((right + inc : Nat) : Int) 2 = (((right + inc) &&& 2 : Nat) : Int) from rfl]
  have e2 : ((((right + inc) &&& 2 : Nat) : Int) == (0 : Int)) = (((right + inc) &&& 2) == 0) := by
    rw [Bool.eq_iff_iff]; simp
  have e3 : decide ((right : Int) - (z : Int) < 6) = decide (right - z < 6) := by
    rw [Bool.eq_iff_iff]; simp only [decide_eq_true_eq]; omega
  rw [e2, e3]

theorem i_int (n vertical : Nat) (up : Bool) (hv : vertical < n) :
    (if up then ((n : Int) - 1) - (vertical : Int) else (vertical : Int)) = ((iOf n up vertical : Nat) : Int) := by
  unfold iOf
  cases up
  · rfl
  · simp only [if_true]; omega

theorem iOf_lt (n vertical : Nat) (up : Bool) (hv : vertical < n) : iOf n up vertical < n := by
  unfold iOf; cases up <;> simp <;> omega

theorem adj_int (v : Int) (r : Nat) (hr : 1 ≤ r) :
    (if (!decide (v < 1) && decide ((r : Int) ≤ 6)) then (r : Int) - 1 else (r : Int)) = ((adjRight v r : Nat) : Int) := by
  unfold adjRight
  have e : decide ((r : Int) ≤ 6) = decide (r ≤ 6) := by
    rw [Bool.eq_iff_iff]; simp only [decide_eq_true_eq]; omega
  rw [e]
  split
  · omega
  · rfl

/-- the adjusted column: between 1 and n − 1 (n odd: the unadjusted one is even) -/
theorem adj_bounds (v : Int) (n k : Nat) (hodd : n % 2 = 1) (hk : k < n / 2) :
    1 ≤ adjRight v (n - 1 - 2 * k) ∧ adjRight v (n - 1 - 2 * k) < n := by
  unfold adjRight
  split <;> omega

theorem rangeDown_eq (n : Nat) :
    rangeDown ((n : Int) - 1) 0 2 = (List.range (n / 2)).map (fun (k : Nat) => (n : Int) - 1 - (k : Int) * 2) := by
  unfold rangeDown
  have e : (((n : Int) - 1 - 0).toNat + 2 - 1) / 2 = n / 2 := by omega
  rw [e]
  rfl

theorem range_two : range 0 2 = (List.range 2).map (fun (k : Nat) => (k : Int)) := by decide

/-- state of the model: (matrix, remaining bits) -/
def sim (bits : List Nat) (t : Matrix × Nat) : Matrix × List Nat := (t.1, bits.drop t.2)

theorem sim_cwStep (bits : List Nat) (t : Matrix × Nat) (i j : Nat) :
    sim bits (cwStep bits t i j) = placeStep (sim bits t) (i, j) := by
  unfold cwStep placeStep sim
  by_cases hl : t.2 < bits.length
  · rw [List.drop_eq_getElem_cons hl]
    by_cases hc : get2 t.1 i j = 2
    · simp [hc, hl]
    · simp [hc]
  · have : bits.drop t.2 = [] := List.drop_eq_nil_of_le (by omega)
    rw [this]
    simp [hl]
    omega

theorem emb_eta (x : Matrix × Nat) : (Except.ok ((emb x).1, (emb x).2) : M (Int × List (List Int))) = .ok (emb x) := rfl

theorem inc_int (v : Int) :
    (if (!((v == (-3 : Int)) || (v == (-1 : Int)))) then (0 : Int) else (2 : Int)) = (((if isM1M3 v then 2 else 0 : Nat)) : Int) := by
  unfold isM1M3 Gen.VERSION_M1 Gen.VERSION_M3
  by_cases h1 : v = -3
  · subst h1; rfl
  · by_cases h2 : v = -1
    · subst h2; rfl
    · simp [h1, h2]

theorem add_codewords_py (m : Matrix) (bits : List Nat) (v : Int) (n : Nat) (hs : Sq m n) (hodd : n % 2 = 1) :
    Gen.Funcs3.add_codewords (mI m) (toI bits) v =
      (if (bits.drop ((List.range (n / 2)).foldl (rightF bits n v) (m, 0)).2).isEmpty
       then .ok (mI ((List.range (n / 2)).foldl (rightF bits n v) (m, 0)).1)
       else .error .valueError) := by
  unfold Gen.Funcs3.add_codewords
  simp only [mI_length, hs.size, Int.ofNat_eq_natCast]
  rw [inc_int, rangeDown_eq]
  refine Yields.bind_eq (P := Inv bits n) (.list_loop emb (rightF bits n v) _ (List.range (n / 2))
    (t := (m, 0)) ⟨hs, Nat.zero_le _⟩ fun k hk t ht => ?step) fun hinv => ?fin
  case step =>
    have hk := List.mem_range.mp hk
    have hb := adj_bounds v n k hodd hk
    have eg : (n : Int) - 1 - (k : Int) * 2 = ((n - 1 - 2 * k : Nat) : Int) := by omega
    rw [eg, adj_int v (n - 1 - 2 * k) (by omega), range_zero_nat, range_two]
    unfold rightF
    generalize adjRight v (n - 1 - 2 * k) = right at hb
    refine .bind (.list_loop emb (vertF bits n v right) _ (List.range n) ht fun vertical hv u hu => ?_)
      fun h => ⟨emb_eta _, h⟩
    have hv := List.mem_range.mp hv
    unfold vertF
    refine .bind (.list_loop emb (cellF bits n v right vertical) _ (List.range 2) hu fun z hz w hw => ?_)
      fun h => ⟨emb_eta _, h⟩
    have hz := List.mem_range.mp hz
    unfold cellF
    exact ⟨cw_cell bits n w hw (iOf n (upOf v right z) vertical) (right - z) (iOf_lt n vertical _ hv) (by omega) _ _
      (by rw [up_int v right z (by omega)]; exact i_int n vertical _ hv) (by omega), inv_cwStep hw _ _⟩
  generalize (List.range (n / 2)).foldl (rightF bits n v) (m, 0) = T at hinv
  have hle := hinv.2
  simp only [emb, toI_length]
  -- idx never passes the end, so "every bit was placed" (`idx == len(codewords)`) is "no bit remains"
  by_cases hT : T.2 = bits.length
  · simp [hT]
  · have h1 : ¬ ((T.2 : Int) = (bits.length : Int)) := by omega
    have h2 : ¬ bits.length ≤ T.2 := by omega
    simp [h1, h2]

theorem addCodewords_fold (m : Matrix) (bits : List Nat) (v : Int) :
    (codewordCoords m.size v).foldl placeStep (m, bits) = sim bits ((List.range (m.size / 2)).foldl (rightF bits m.size v) (m, 0)) := by
  rw [Proofs.Placement2.codewordCoords_eq, rights, List.map_map, List.foldl_flatten, List.foldl_map]
  refine List.foldl_hom (sim bits) (init := (m, 0)) fun t k => ?_
  rw [Function.comp, List.foldl_flatten, List.foldl_map]
  refine List.foldl_hom (sim bits) fun u vertical => ?_
  rw [List.foldl_map]
  exact List.foldl_hom (sim bits) (l := List.range 2) fun w z => (sim_cwStep bits w _ _).symm

end Proofs.TieA3
