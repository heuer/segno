/-
  Proofs.TieA2Format — the loops of `add_format_info` and `add_version_info` (`range(8)` / `range(6)`).  Each round of the
  translation is a chain of cell writes (`Yields.set`) at the Python indexes of the source, whose positions (`normIndex`) are the
  coordinates of the model: for `add_format_info` the writes `microStep` / `qrStep` of the model's write list
  (`Proofs.Placement.addFormatInfo_eq`), for `add_version_info` one round `Proofs.Placement.verStep` of the model's loop.  The state of the loop of
  `add_format_info` also holds the offset `off`, which depends on the round.
-/
import Proofs.TieA2Matrix
import Props.TieA
import Mathlib.Tactic.SplitIfs

namespace Proofs.TieA2
open Gen.Py Proofs.TieA Model

/-- the two dumps of `consts.VERSION_INFO` agree -/
theorem version_info_tables : Gen.Funcs2.T_consts_VERSION_INFO = Gen.VERSION_INFO.map Int.ofNat := by decide

/-- the offset the loop of `add_format_info` holds in its state before round i on a QR Code: the cell (6, 8) / (8, 6) of the timing
    pattern is skipped from round 6 on, and the state changes in that round -/
def off (i : Nat) : Nat := if 6 < i then 1 else 0

/-- `add_format_info` on an n × n matrix, n ≥ 9 (row 8 and the cells `[-1 - i]`, `[-8]` exist) -/
theorem add_format_info_eq (m : Matrix) (n : Nat) (hs : Sq m n) (hn : 9 ≤ n) (v : Int) (e : Option Nat) (mask : Nat) :
    toR (Gen.Funcs2.add_format_info (mI m) v (e.map Int.ofNat) mask) = (Model.addFormatInfo m v e mask).map mI := by
  rw [Proofs.Placement.addFormatInfo_eq, hs.size]
  unfold Gen.Funcs2.add_format_info Proofs.Placement.fmtWrites
  refine toR_bind_map (Props.TieA.calc_format_info_tie v e mask) (fun fi _ => ?_)
  have h8 : normIndex n 8 = some 8 := normIndex_nat n 8 (by omega)
  simp only [bind_ok, index_row hs 8 8 h8, Int.ofNat_eq_natCast]
  by_cases hv : v < 1
  · simp only [hv, decide_true, if_true, Bool.not_true, Bool.false_eq_true, if_false, Bool.and_false]
    rw [← Proofs.Placement.foldl_applyW]
    simp only [pure, Except.pure, Except.map]
    refine congrArg toR (Yields.eq (P := (Sq · n)) (g := mI) ?_)
    refine .bind (.range_loop (fun _ t => ((1 : Int), mI t, (1 : Int)))
      (fun t i => Proofs.Placement.applyW t (Proofs.Placement.microStep fi i)) 8 rfl hs fun i hi t ht => ?_)
      fun h => ⟨by simp only [], h⟩
    have e14 : (14 : Int) - (i : Int) = ((14 - i : Nat) : Int) := by omega
    have hi1 : normIndex n ((i : Int) + 1) = some (i + 1) := normIndex_nat n (i + 1) (by omega)
    simp only [Int.zero_add, e14, shr_nat, bind_ok, band_one, Proofs.Placement.applyW, Proofs.Placement.microStep,
      List.foldl_cons, List.foldl_nil]
    exact .set ht hi1 h8 fun h1 => .set h1 h8 hi1 (fun h => ⟨rfl, h⟩)
  · simp only [hv, decide_false, if_false, Bool.false_eq_true, Bool.not_false, if_true, Bool.and_true]
    have hm8 : normIndex n (-8) = some (n - 8) := normIndex_neg n 8 (by omega) (by omega)
    rw [Proofs.Placement.applyW_append, ← Proofs.Placement.foldl_applyW,
      show ∀ t, Proofs.Placement.applyW t [(n - 8, 8, 1)] = set2 t (n - 8) 8 1 from fun _ => rfl]
    simp only [pure, Except.pure, Except.map]
    refine congrArg toR (Yields.eq (P := (Sq · n)) (g := mI) ?_)
    refine .bind (.range_loop (fun i t => ((off i : Int), mI t, (off i : Int)))
      (fun t i => Proofs.Placement.applyW t (Proofs.Placement.qrStep n fi i)) 8 rfl hs
      fun i hi t ht => ?_) fun h => by simp only []; exact .set_last (v := 1) h hm8 h8
    have e14 : (14 : Int) - (i : Int) = ((14 - i : Nat) : Int) := by omega
    -- the offset of this round is that of the state afterwards
    have hoff : (if i ≥ 6 then 1 else 0) = off (i + 1) := by unfold off; split_ifs <;> omega
    have hphi : (if ((i : Int) == 6) = true then ((1 : Int), ((off i : Nat) : Int) + 1) else (((off i : Nat) : Int), ((off i : Nat) : Int)))
        = (((off (i + 1) : Nat) : Int), ((off (i + 1) : Nat) : Int)) := by
      by_cases h6 : i = 6
      · subst h6; rfl
      · have hb : ((i : Int) == 6) = false := by simp; omega
        have ho : off (i + 1) = off i := by unfold off; split_ifs <;> omega
        rw [hb, ho]
        rfl
    have ho8 : i + off (i + 1) ≤ 8 := by unfold off; split_ifs <;> omega
    simp only [Proofs.Placement.applyW, Proofs.Placement.qrStep, List.foldl_cons, List.foldl_nil, hoff]
    generalize off (i + 1) = o at *
    have eo : (i : Int) + (o : Int) = ((i + o : Nat) : Int) := by omega
    have hio : normIndex n ((i + o : Nat) : Int) = some (i + o) := normIndex_nat n (i + o) (by omega)
    have hni : normIndex n (-1 - (i : Int)) = some (n - 1 - i) := by
      rw [show -1 - (i : Int) = -((i + 1 : Nat) : Int) by omega, normIndex_neg n (i + 1) (by omega) (by omega)]
      congr 1; omega
    simp only [Int.zero_add, e14, shr_nat, bind_ok, band_one, hphi, eo]
    exact .set ht hio h8 fun h1 => .set h1 h8 hio fun h2 => .set h2 h8 hni fun h3 => .set h3 hni h8 fun h4 => ⟨rfl, h4⟩

/-- `add_version_info` on an n × n matrix, n ≥ 11 (the cells `[-11]`, `[-10]`, `[-9]` exist) -/
theorem add_version_info_eq (m : Matrix) (n : Nat) (hs : Sq m n) (hn : 11 ≤ n) (v : Int) :
    toR (Gen.Funcs2.add_version_info (mI m) v) = (Model.addVersionInfo m v).map mI := by
  rw [Proofs.Placement.addVersionInfo_unfold, hs.size]
  unfold Gen.Funcs2.add_version_info Proofs.Placement.verWrites
  by_cases hv : v < 7
  · simp only [hv, decide_true, if_true]
    rfl
  · simp only [hv, decide_false, if_false, Bool.false_eq_true]
    generalize hk : (v - 7).toNat = k
    have e : v - 7 = (k : Int) := by omega
    rw [e, version_info_tables, index_map_ofNat]
    cases hvi : Gen.VERSION_INFO[k]? with
    | none => rfl
    | some vi =>
      simp only [Option.map_some, ofOption_some, bind_ok]
      have h11 : normIndex n (-11) = some (n - 11) := normIndex_neg n 11 (by omega) (by omega)
      have h10 : normIndex n (-10) = some (n - 10) := normIndex_neg n 10 (by omega) (by omega)
      have h9 : normIndex n (-9) = some (n - 9) := normIndex_neg n 9 (by omega) (by omega)
      rw [← Proofs.Placement.foldl_applyW]
      refine congrArg toR (Yields.bind (P := (Sq · n)) (.range_loop (fun _ => mI)
        (fun t i => Proofs.Placement.applyW t (Proofs.Placement.verStep n vi i)) 6 rfl hs fun i hi t ht => ?_)
        fun h => ⟨rfl, h⟩).eq
      have hi' : normIndex n (i : Int) = some i := normIndex_nat n i (by omega)
      have e1 : ((i : Int) * 3) = ((i * 3 : Nat) : Int) := by push_cast; rfl
      have e2 : ((i * 3 : Nat) : Int) + 1 = ((i * 3 + 1 : Nat) : Int) := by push_cast; rfl
      have e3 : ((i * 3 : Nat) : Int) + 2 = ((i * 3 + 2 : Nat) : Int) := by push_cast; rfl
      simp only [Int.zero_add, Int.ofNat_eq_natCast, e1, e2, e3, shr_nat, bind_ok, band_one, Proofs.Placement.applyW,
        Proofs.Placement.verStep, List.foldl_cons, List.foldl_nil]
      exact .set ht h11 hi' fun h1 => .set h1 h10 hi' fun h2 => .set h2 h9 hi' fun h3 => .row h3 hi' <|
        .set h3 hi' h11 fun h4 => .set h4 hi' h10 fun h5 => .set_last h5 hi' h9

end Proofs.TieA2
