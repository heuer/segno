/-
  Proofs.GeometryB — kernel-checked count of data modules (`countOK`), versions 11 .. 20; declares in `Proofs.Placement2`,
  beside `countOK`.
-/
import Proofs.Placement2

namespace Proofs.Placement2

def versionsB : List Int := [11, 12, 13, 14, 15, 16, 17, 18, 19, 20]

theorem countB : versionsB.all countOK = true := by decide +kernel

end Proofs.Placement2
