/-
  Proofs.C14RouteDefs — vocabulary of Props/C14Routes.lean (definitions only): the documented domain of the ROUTE layer
  (`QRCode.save`, `svg_inline`, `svg_data_uri`, `png_data_uri`, `terminal`, `QRCodeSequence.save`) and of the command line tool,
  the contract of the runtime services codec / gzip, and how a route may end.
-/
import Proofs.C14SerDefs
import Proofs.RoutesExec

namespace Proofs.C14Route
open Gen (PyV)
open Model Model.Cli Model.Routes Model.RoutesDocs Proofs.C14Ser Proofs.Routes

/-! ### runtime services -/

/-- what the codec, `bytes.decode` and `gzip.open` may do: a codec returns the bytes or raises UnicodeError (a ValueError) or
    LookupError (unknown encoding); `gzip.open` accepts the compression level or raises ValueError -/
structure RuntimeOK (rt : Runtime) : Prop where
  codec : ∀ e s, (∃ b, rt.codec e s = .ok b) ∨ rt.codec e s = .error .unicodeError ∨ rt.codec e s = .error .lookupError
  decode : ∀ e b, (∃ s, rt.decode e b = .ok s) ∨ rt.decode e b = .error .unicodeError ∨ rt.decode e b = .error .lookupError
  gzip : ∀ l, rt.gzipCheck l = .ok () ∨ rt.gzipCheck l = .error .valueError

/-- a codec that knows every encoding it is asked for -/
def CodecKnows (rt : Runtime) : Prop :=
  (∀ e s, rt.codec e s ≠ .error .lookupError) ∧ (∀ e b, rt.decode e b ≠ .error .lookupError)

/-- how a route may end: with its result, with ValueError (a refusal), with UnicodeError (a ValueError: the codec cannot encode
    the document) or with LookupError (the codec does not know the encoding) -/
def RouteClean {α : Type} (r : R α) : Prop :=
  (∃ x, r = .ok x) ∨ r = .error .valueError ∨ r = .error .unicodeError ∨ r = .error .lookupError

/-! ### where a document may go -/

/-- serialisers that write bytes -/
def binaryKinds : List String := ["png", "pdf", "pbm", "pam", "ppm"]
/-- serialisers that write text (`write_svg` writes text through the codec of `encoding` and needs a BINARY stream) -/
def textKinds : List String := ["eps", "txt", "ans", "tex", "xbm", "xpm", "compact"]

/-- the documented `out` of a serialiser: a file name always; "io.BytesIO" for svg and the binary kinds, "io.StringIO" for the text kinds -/
def SinkOK (key : String) : Sink → Bool
  | .file => true
  | .bin => key == "svg" || binaryKinds.contains key
  | .txt => textKinds.contains key

/-! ### `QRCode.save` -/

/-- the documented domain of `save(out, kind=None, **kw)`: the format can be determined (a file name, a stream with a `name`, or
    `kind` is given), and for the serialiser that the name / `kind` selects the keyword map is documented — for svgz together with a
    `compresslevel` —, `out` is of the documented sort, and a PNG fits its 32-bit fields -/
structure DocumentedSave (svc : Services) (M : List (List Nat)) (w h : Nat) (out : OutArg) (kind : Option Str) (kw : Config) : Prop where
  named : kind = none → ∀ b, out ≠ .stream b none
  /-- no keyword names a parameter of `QRCode.save` / `writers.save` itself (`self`, `out`, `kind`, `matrix`, `matrix_size`) -/
  free : Free saveReserved kw
  opts : ∀ key gz, dispatchOf out kind = .ok (key, gz) →
    DocumentedSer key (if gz then cpop kw "compresslevel" else kw)
    ∧ SinkOK key out.sink = true
    ∧ (gz = true → out.sink ≠ .txt ∧ ∀ v, cget kw "compresslevel" = some v → hasType .level v = true)
    ∧ (key = "png" → PngFits svc M w h kw)

/-! ### the other routes -/

/-- `svg_inline(**kw)`: SVG options except the three it forces (`xmldecl`, `svgns`, `nl` — naming one of them is Python's
    "multiple values for keyword argument") -/
def DocumentedInline (kw : Config) : Prop :=
  DocumentedSer "svg" kw ∧ ∀ e ∈ kw, e.1 ∉ ["xmldecl", "svgns", "nl"]

/-- `svg_data_uri(xmldecl=False, encode_minimal=False, omit_charset=False, nl=False, **kw)`: SVG options and the two switches -/
def DocumentedSvgUri (kw : Config) : Prop :=
  DocumentedSer "svg" (dropKeys ["encode_minimal", "omit_charset"] kw)

/-- `QRCode.terminal(out=None, border=None, compact=False)`: `out` is `None`, a file name or a text stream -/
def DocumentedTerminal (out : Option OutArg) (border : PyV) : Prop :=
  hasType .border border = true ∧ ∀ nm, out ≠ some (.stream true nm)

/-! ### the command line tool -/

/-- what an action stores for a value GIVEN on the command line, by its `type=` conversion and `nargs` (Gen.CLI_ARG_TYPES): a flag
    stores a bool, `type=int` an int, `type=float` a float, `_convert_scale` an int or a float, everything else a str -/
def cliGivenOK (conv nargs : String) (v : PyV) : Bool :=
  if nargs == "0" then (match v with | .bool _ => true | _ => false)
  else if nargs == "+" then true
  else if conv == "int" then (match v with | .int _ => true | _ => false)
  else if conv == "float" then (match v with | .float _ d => d != 0 | _ => false)
  else if conv == "_convert_scale" then (match v with | .int _ => true | .float _ d => d != 0 | _ => false)
  else (match v with | .str _ => true | _ => false)

/-- a namespace `vars(parse_args(argv))` as the argparse table of `cli.make_parser()` (regenerated: Gen.CLI_ARGS with the effective
    defaults, Gen.CLI_ARG_TYPES with the conversions, aligned row by row) can produce it: every entry belongs to an action and holds
    that action's default or a value it can store (`cli.parse` may reset `micro` to None), every dest is present, no dest twice (a
    namespace is a dict) -/
def ArgparseAccepted (parsed : Config) : Prop :=
  (∀ e ∈ parsed, ∃ pr ∈ Gen.CLI_ARGS.zip Gen.CLI_ARG_TYPES, pr.1.1 = e.1 ∧
      (e.2 = pr.1.2.2.2 ∨ cliGivenOK pr.2.2.1 pr.2.2.2.2 e.2 = true ∨ (e.1 = "micro" ∧ e.2 = .none)))
  ∧ (∀ row ∈ Gen.CLI_ARG_TYPES, (cget parsed row.1).isSome = true)
  ∧ (parsed.map (·.1)).Nodup

end Proofs.C14Route
