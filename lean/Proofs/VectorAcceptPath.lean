/-
  C10, token level: the judge's SVG path interpreter (`Spec.Vector.groupPath`, `svgPath`)
  applied to the tokens the model prints (`Model.Lines.svgTokens`) yields exactly the absolute runs `svgAbs` of
  the relative moves, as horizontal two-point subpaths mapped by the transform.  Shared with the other three formats:
  `TokRun` (an interpreter that is a fold, run token by token) and `moveTo_lineTo_done` (one run drawn).
-/
import Proofs.VectorAcceptNum

namespace Proofs.VectorAccept
open Spec.Vector Model.Lines

/-- the step function of `groupPath` (verbatim) -/
def gStep (acc : Except String (List (Char × List Rat))) (t : String) : Except String (List (Char × List Rat)) :=
  acc.bind (fun gs =>
    match t.toList with
    | [c] =>
      if c.isAlpha then .ok ((c, []) :: gs)
      else match num? t, gs with
        | some q, (c', as) :: rest => .ok ((c', q :: as) :: rest)
        | _, _ => .error s!"bad-path-token-{t}"
    | _ =>
      match num? t, gs with
      | some q, (c', as) :: rest => .ok ((c', q :: as) :: rest)
      | _, _ => .error s!"bad-path-token-{t}")

theorem groupPath_eq (toks : List String) :
    groupPath toks = (toks.foldl gStep (.ok [])).map (fun gs => (gs.map (fun (c, as) => (c, as.reverse))).reverse) := rfl

theorem gStep_num (t : String) (q : Rat) (c' : Char) (as : List Rat) (rest : List (Char × List Rat))
    (hq : num? t = some q) (ha : ∀ c ∈ t.toList, c.isAlpha = false) :
    gStep (.ok ((c', as) :: rest)) t = .ok ((c', q :: as) :: rest) := by
  unfold gStep
  simp only [Except.bind]
  split
  · rename_i c hc
    have : c.isAlpha = false := ha c (by rw [hc]; simp)
    simp [this, hq]
  · simp [hq]

theorem gStep_cmd (t : String) (c : Char) (gs : List (Char × List Rat)) (ht : t.toList = [c]) (hc : c.isAlpha = true) :
    gStep (.ok gs) t = .ok ((c, []) :: gs) := by
  unfold gStep
  simp [Except.bind, ht, hc]

/-- tokens with an explicit first move command -/
def toksOf (mv : String) : List (Int × Int × Int) → List String
  | [] => []
  | (dx, dy2, len) :: rest => [mv, toString dx, showHalf dy2, "h", toString len] ++ toksOf "m" rest

theorem svgTokens_eq (rel : List (Int × Int × Int)) : svgTokens rel = toksOf "M" rel := by
  -- only the element of index 0 gets the absolute `M`
  have h : ∀ (l : List (Int × Int × Int)) (k : Nat),
      ((l.zipIdx k).map (fun (t, i) => [if i == 0 then "M" else "m", toString t.1, showHalf t.2.1, "h", toString t.2.2])).flatten
        = toksOf (if k == 0 then "M" else "m") l := by
    intro l
    induction l with
    | nil => intro k; rfl
    | cons t l ih =>
      intro k
      obtain ⟨dx, dy2, len⟩ := t
      simp only [List.zipIdx_cons, List.map_cons, List.flatten_cons, toksOf, ih (k + 1)]
      simp
  exact h rel 0

/-- the groups `groupPath` delivers for the model's tokens -/
def groupsOf (mv : Char) : List (Int × Int × Int) → List (Char × List Rat)
  | [] => []
  | (dx, dy2, len) :: rest => (mv, [(dx : Rat), half dy2]) :: ('h', [(len : Rat)]) :: groupsOf 'm' rest

theorem foldl_gStep (rel : List (Int × Int × Int)) : ∀ (mv : String) (mvc : Char) (gs : List (Char × List Rat)),
    mv.toList = [mvc] → mvc.isAlpha = true →
    (toksOf mv rel).foldl gStep (.ok gs) = .ok (((groupsOf mvc rel).map (fun (c, as) => (c, as.reverse))).reverse ++ gs) := by
  induction rel with
  | nil => intros; rfl
  | cons t rest ih =>
    intro mv mvc gs hmv hal
    obtain ⟨dx, dy2, len⟩ := t
    simp only [toksOf, List.cons_append, List.nil_append, List.foldl_cons]
    rw [gStep_cmd mv mvc gs hmv hal,
      gStep_num _ _ _ _ _ (num_int dx) (noAlpha_int dx),
      gStep_num _ _ _ _ _ (num_showHalf dy2) (noAlpha_showHalf dy2),
      gStep_cmd "h" 'h' _ rfl (by decide),
      gStep_num _ _ _ _ _ (num_int len) (noAlpha_int len),
      ih "m" 'm' _ rfl (by decide)]
    simp [groupsOf]

theorem groupPath_svgTokens (rel : List (Int × Int × Int)) : groupPath (svgTokens rel) = .ok (groupsOf 'M' rel) := by
  rw [groupPath_eq, svgTokens_eq, foldl_gStep rel "M" 'M' [] rfl (by decide)]
  simp [Except.map, Function.comp_def]

/-- the `for` loop of `Spec.Vector.svgPath` (verbatim copy, the start state is a parameter) -/
def svgLoop (xf : Xf) (groups : List (Char × List Rat)) (p0 : PathSt) : Except String PathSt := do
  let mut p : PathSt := p0
  for (c, args) in groups do
    match pathArity c with
    | none => throw s!"unsupported-path-command-{c}"
    | some 0 =>
      if !args.isEmpty then throw "arguments-after-closepath"
      p := p.close
    | some k =>
      if args.isEmpty || args.length % k != 0 then throw s!"wrong-number-of-arguments-for-{c}"
      let rel := c.isLower
      let mut first := true
      for a in chunks k args do
        let (ux, uy) := p.upos
        let u : Rat × Rat :=
          match c.toLower, a with
          | 'h', [x] => (if rel then ux + x else x, uy)
          | 'v', [y] => (ux, if rel then uy + y else y)
          | _, [x, y] => if rel then (ux + x, uy + y) else (x, y)
          | _, _ => (ux, uy)
        if c.toLower == 'm' && first then
          p := p.moveTo u (xf.app u)
        else
          p ← p.lineTo u (xf.app u)
        first := false
  return p

theorem bind_pure_eq_map {ε α β} (x : Except ε α) (f : α → β) :
    (x >>= fun s => pure (f s)) = Except.map f (x >>= fun s => pure s) := by
  cases x <;> rfl

theorem svgPath_eq (xf : Xf) (toks : List String) :
    Spec.Vector.svgPath xf toks = (groupPath toks).bind (fun g => (svgLoop xf g {}).map PathSt.done) := by
  unfold Spec.Vector.svgPath svgLoop
  cases groupPath toks with
  | error e => rfl
  | ok g => exact bind_pure_eq_map (forIn g _ _) PathSt.done

theorem loop_nil (xf : Xf) (p : PathSt) : svgLoop xf [] p = .ok p := rfl

theorem svgLoop_M (xf : Xf) (p : PathSt) (x y : Rat) (gs) :
    svgLoop xf (('M', [x, y]) :: gs) p = svgLoop xf gs (p.moveTo (x, y) (xf.app (x, y))) := by
  unfold svgLoop
  simp [List.forIn_cons, pathArity, chunks, chunks.go]

theorem svgLoop_m (xf : Xf) (p : PathSt) (x y : Rat) (gs) :
    svgLoop xf (('m', [x, y]) :: gs) p
      = svgLoop xf gs (p.moveTo (p.upos.1 + x, p.upos.2 + y) (xf.app (p.upos.1 + x, p.upos.2 + y))) := by
  unfold svgLoop
  simp [List.forIn_cons, pathArity, chunks, chunks.go]

theorem svgLoop_h (xf : Xf) (p p' : PathSt) (l : Rat) (gs)
    (h : p.lineTo (p.upos.1 + l, p.upos.2) (xf.app (p.upos.1 + l, p.upos.2)) = .ok p') :
    svgLoop xf (('h', [l]) :: gs) p = svgLoop xf gs p' := by
  unfold svgLoop
  simp [List.forIn_cons, pathArity, chunks, chunks.go, h]
  rfl

/-- the horizontal two-point subpaths of absolute runs `(x1, 2·y, x2)` under the transform `xf` -/
def subsOf (xf : Xf) (lines : List (Int × Int × Int)) : List Sub :=
  lines.map (fun t => { pts := [xf.app ((t.1 : Rat), half t.2.1), xf.app ((t.2.2 : Rat), half t.2.1)], closed := false })

theorem half_add (a b : Int) : half a + half b = half (a + b) := by
  unfold half; rw [Rat.intCast_add]; grind

/-- the tokens `toks` take an interpreter that is a fold of `step` (PDF, PostScript, PGF) from the state `m` to the state `m'` -/
def TokRun {σ τ : Type} (step : σ → τ → Except String σ) (toks : List τ) (m m' : σ) : Prop := toks.foldlM step m = .ok m'

namespace TokRun
variable {σ τ : Type} {step : σ → τ → Except String σ} {m m₁ m' : σ}

theorem nil : TokRun step [] m m := rfl

theorem cons {t : τ} {ts : List τ} (h : step m t = .ok m₁) (h' : TokRun step ts m₁ m') : TokRun step (t :: ts) m m' := by
  unfold TokRun; rw [List.foldlM_cons, h]; exact h'

theorem append {a b : List τ} (h : TokRun step a m m₁) (h' : TokRun step b m₁ m') : TokRun step (a ++ b) m m' := by
  unfold TokRun; rw [List.foldlM_append, h]; exact h'

end TokRun

theorem moveTo_lineTo_done (p : PathSt) (u d u' d' : Rat × Rat) :
    ∃ p', (p.moveTo u d).lineTo u' d' = .ok p' ∧ p'.upos = u' ∧ p'.pos = some d'
      ∧ p'.done = p.done ++ [{ pts := [d, d'], closed := false }] := by
  refine ⟨_, rfl, rfl, rfl, ?_⟩
  simp [PathSt.moveTo, PathSt.done, PathSt.flush]

theorem svgLoop_runs (xf : Xf) (rel : List (Int × Int × Int)) : ∀ (p : PathSt) (px py2 : Int),
    p.upos = ((px : Rat), half py2) →
    ∃ p', svgLoop xf (groupsOf 'm' rel) p = .ok p' ∧ p'.done = p.done ++ subsOf xf (svgAbs px py2 rel) := by
  induction rel with
  | nil => intro p px py2 _; exact ⟨p, rfl, by simp [subsOf, svgAbs]⟩
  | cons t rest ih =>
    intro p px py2 hu
    obtain ⟨dx, dy2, len⟩ := t
    simp only [groupsOf]
    rw [svgLoop_m]
    obtain ⟨p1, h1, hu1, _, hd1⟩ := moveTo_lineTo_done p (p.upos.1 + (dx : Rat), p.upos.2 + half dy2)
      (xf.app (p.upos.1 + (dx : Rat), p.upos.2 + half dy2))
      (p.upos.1 + (dx : Rat) + (len : Rat), p.upos.2 + half dy2)
      (xf.app (p.upos.1 + (dx : Rat) + (len : Rat), p.upos.2 + half dy2))
    rw [svgLoop_h xf _ p1 (len : Rat) _ h1]
    have hu1' : p1.upos = (((px + dx + len : Int) : Rat), half (py2 + dy2)) := by
      rw [hu1, hu]; simp [Rat.intCast_add, half_add]
    obtain ⟨p2, h2, hd2⟩ := ih p1 (px + dx + len) (py2 + dy2) hu1'
    refine ⟨p2, h2, ?_⟩
    rw [hd2, hd1, hu]
    simp [subsOf, svgAbs, Rat.intCast_add, half_add]

/-- the pen starts at the origin, where the absolute first `M` is the relative `m`: hence `svgAbs 0 0` -/
theorem svgPath_svgTokens (xf : Xf) (rel : List (Int × Int × Int)) :
    Spec.Vector.svgPath xf (svgTokens rel) = .ok (subsOf xf (svgAbs 0 0 rel)) := by
  rw [svgPath_eq, groupPath_svgTokens]
  have hM : svgLoop xf (groupsOf 'M' rel) {} = svgLoop xf (groupsOf 'm' rel) {} := by
    cases rel with
    | nil => rfl
    | cons t rest =>
      simp only [groupsOf, svgLoop_M, svgLoop_m, Rat.zero_add]
  obtain ⟨p, h, hd⟩ := svgLoop_runs xf rel {} 0 0 (by decide +kernel)
  simp only [Except.bind, hM, h, Except.map, hd]
  rfl

end Proofs.VectorAccept
