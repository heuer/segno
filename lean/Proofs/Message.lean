/-
  The final message built by `Model.makeFinalMessage` is read back by the reference reader `Spec.splitBlocks`:
  `makeFinalMessage_eq` writes the message as data bits ‖ EC bits ‖ remainder over the lists `slices` / `ecs` of data
  and EC blocks, `splitBlocks_ok` is the reader on a message of that form.
-/
import Spec.Decode
import Model.Encoder
import Props.C03Tables
import Proofs.RSField
import Proofs.Roundtrip
import Proofs.Stream
import Proofs.Sizing
import Proofs.EncodeStages

namespace Proofs.Message
open Model

theorem le_foldl_max {l : List Nat} {x : Nat} (h : x ∈ l) : x ≤ l.foldl max 0 := by
  rw [List.foldl_max]
  exact Nat.le_trans (List.le_max?_getD_of_mem h) (Nat.le_max_right ..)

theorem flatten_getElem?_toList {α : Type} (l : List α) : ∀ n, l.length ≤ n →
    ((List.range n).map (fun r => l[r]?.toList)).flatten = l := by
  induction l with
  | nil => intro n _; simp
  | cons a t ih =>
    intro n hn
    obtain ⟨m, rfl⟩ : ∃ m, n = m + 1 := ⟨n - 1, by simp at hn; omega⟩
    rw [List.range_succ_eq_map, List.map_cons, List.map_map, List.flatten_cons]
    have : ((fun r => (a :: t)[r]?.toList) ∘ Nat.succ) = fun r => t[r]?.toList := by
      funext r; simp
    rw [this, ih m (by simp at hn; omega)]
    simp

/-- row `r` of the interleaved stream, every codeword tagged with the index of its block -/
def trow (blocks : List (List Nat)) (k r : Nat) : List (Nat × Nat) :=
  (blocks.zipIdx k).filterMap (fun p => p.1[r]?.map (fun x => (p.2, x)))

theorem trow_cons (a : List Nat) (t : List (List Nat)) (k r : Nat) :
    trow (a :: t) k r = (a[r]?.map (fun x => (k, x))).toList ++ trow t (k + 1) r := by
  unfold trow
  rw [List.zipIdx_cons, List.filterMap_cons]
  cases a[r]? <;> simp

theorem trow_fst (blocks : List (List Nat)) (r : Nat) : ∀ k,
    (trow blocks k r).map Prod.fst =
      (((blocks.map List.length).zipIdx k).filter (fun (l, _) => r < l)).map (fun (_, b) => b) := by
  induction blocks with
  | nil => intro k; simp [trow]
  | cons a t ih =>
    intro k
    rw [trow_cons, List.map_append, ih, List.map_cons, List.zipIdx_cons, List.filter_cons]
    by_cases h : r < a.length
    · simp [h]
    · simp [h]

theorem trow_snd (blocks : List (List Nat)) (r : Nat) : ∀ k,
    (trow blocks k r).map Prod.snd = blocks.filterMap (fun b => b[r]?) := by
  induction blocks with
  | nil => intro k; simp [trow]
  | cons a t ih =>
    intro k
    rw [trow_cons, List.map_append, ih, List.filterMap_cons]
    cases a[r]? <;> simp

theorem trow_filter_lt (blocks : List (List Nat)) (r : Nat) : ∀ k j, j < k →
    (trow blocks k r).filter (fun p => p.1 == j) = [] := by
  induction blocks with
  | nil => intro k j _; simp [trow]
  | cons a t ih =>
    intro k j hj
    rw [trow_cons, List.filter_append, ih (k + 1) j (by omega)]
    cases a[r]? with
    | none => simp
    | some x =>
      have : k ≠ j := by omega
      simp [this]

theorem trow_filter_eq (blocks : List (List Nat)) (r : Nat) : ∀ k i,
    ((trow blocks k r).filter (fun p => p.1 == k + i)).map Prod.snd
      = ((blocks[i]?).bind (fun b => b[r]?)).toList := by
  induction blocks with
  | nil => intro k i; simp [trow]
  | cons a t ih =>
    intro k i
    rw [trow_cons, List.filter_append, List.map_append]
    cases i with
    | zero =>
      rw [Nat.add_zero, trow_filter_lt t r (k + 1) k (by omega), List.getElem?_cons_zero, Option.bind_some]
      cases a[r]? <;> simp
    | succ i =>
      have e : k + (i + 1) = k + 1 + i := by omega
      rw [e, ih (k + 1) i]
      have : k ≠ k + 1 + i := by omega
      cases a[r]? <;> simp [this]

theorem interleave_eq (blocks : List (List Nat)) :
    interleave blocks =
      (((List.range ((blocks.map List.length).foldl max 0)).map (trow blocks 0)).flatten).map Prod.snd := by
  unfold interleave
  simp only []
  rw [List.map_flatten, List.map_map]
  congr 1
  apply List.map_congr_left
  intro r _
  exact (trow_snd blocks r 0).symm

theorem order_eq (blocks : List (List Nat)) (n : Nat) :
    ((List.range n).map (fun r =>
      (((blocks.map List.length).zipIdx).filter (fun (l, _) => r < l)).map (fun (_, b) => b))).flatten
    = (((List.range n).map (trow blocks 0)).flatten).map Prod.fst := by
  rw [List.map_flatten, List.map_map]
  congr 1
  apply List.map_congr_left
  intro r _
  exact (trow_fst blocks r 0).symm

/-- with every codeword tagged by the index of its block (`trow`), the interleaved sequence is the list of
    second components and the reader's order list the list of tags; selecting tag `b` returns block `b` row by row -/
theorem deinterleave_interleave (blocks : List (List Nat)) :
    Spec.deinterleave (blocks.map List.length) (interleave blocks) = blocks := by
  unfold Spec.deinterleave
  simp only []
  rw [order_eq, interleave_eq, ← List.zip_of_prod rfl rfl]
  apply List.ext_getElem
  · simp
  · intro b h1 h2
    rw [List.getElem_map, List.getElem_range]
    rw [List.filter_flatten, List.map_flatten, List.map_map, List.map_map]
    have hb : b < blocks.length := h2
    have key : ∀ (f : Nat → List Nat), (∀ r, f r = (blocks[b])[r]?.toList) →
        ((List.range ((blocks.map List.length).foldl max 0)).map f).flatten = blocks[b] := by
      intro f hf
      rw [List.map_congr_left (fun r _ => hf r)]
      apply flatten_getElem?_toList
      exact le_foldl_max (List.mem_map.2 ⟨blocks[b], List.getElem_mem _, rfl⟩)
    apply key
    intro r
    have := trow_filter_eq blocks r 0 b
    rw [Nat.zero_add, List.getElem?_eq_getElem hb, Option.bind_some] at this
    simp only [Function.comp]
    exact this

theorem interleave_singleton (l : List Nat) : interleave [l] = l := by
  unfold interleave
  simp only [List.map_cons, List.map_nil, List.foldl_cons, List.foldl_nil]
  have : (fun r : Nat => List.filterMap (fun b : List Nat => b[r]?) [l]) = fun r => l[r]?.toList := by
    funext r
    cases h : l[r]? <;> simp [h]
  rw [this]
  exact flatten_getElem?_toList l _ (by simp)

theorem mem_interleave (blocks : List (List Nat)) (x : Nat) (h : x ∈ interleave blocks) :
    ∃ b ∈ blocks, x ∈ b := by
  unfold interleave at h
  simp only [List.mem_flatten, List.mem_map, List.mem_range] at h
  obtain ⟨l, ⟨r, _, rfl⟩, hx⟩ := h
  obtain ⟨b, hb, hbx⟩ := List.mem_filterMap.1 hx
  exact ⟨b, hb, List.mem_of_getElem? hbx⟩

theorem sum_ite_range (n : Nat) : ∀ M, ((List.range M).map (fun r => if r < n then 1 else 0)).sum = min n M := by
  intro M
  induction M with
  | zero => simp
  | succ M ih =>
    rw [List.range_succ, List.map_append, List.sum_append, ih]
    simp only [List.map_cons, List.map_nil, List.sum_cons, List.sum_nil]
    split <;> omega

theorem interleave_row_length (a : List Nat) (t : List (List Nat)) (r : Nat) :
    ((a :: t).filterMap (fun b => b[r]?)).length
      = (if r < a.length then 1 else 0) + (t.filterMap (fun b => b[r]?)).length := by
  rw [List.filterMap_cons]
  by_cases h : r < a.length
  · rw [List.getElem?_eq_getElem h, if_pos h]; simp; omega
  · have : a[r]? = none := by simp; omega
    rw [this, if_neg h]; simp

theorem interleave_rows_sum (blocks : List (List Nat)) : ∀ M, (∀ b ∈ blocks, b.length ≤ M) →
    ((List.range M).map (fun r => (blocks.filterMap (fun b => b[r]?)).length)).sum
      = (blocks.map List.length).sum := by
  induction blocks with
  | nil => intro M _; simp
  | cons a t ih =>
    intro M hM
    have : (fun r => ((a :: t).filterMap (fun b => b[r]?)).length)
        = fun r => (if r < a.length then 1 else 0) + (t.filterMap (fun b => b[r]?)).length := by
      funext r; exact interleave_row_length a t r
    rw [this, List.sum_map_add, sum_ite_range, ih M (fun b hb => hM b (List.mem_cons_of_mem _ hb))]
    have := hM a List.mem_cons_self
    simp only [List.map_cons, List.sum_cons]
    omega

theorem interleave_length (blocks : List (List Nat)) :
    (interleave blocks).length = (blocks.map List.length).sum := by
  unfold interleave
  simp only []
  rw [List.length_flatten, List.map_map]
  apply interleave_rows_sum
  intro b hb
  exact le_foldl_max (List.mem_map.2 ⟨b, hb, rfl⟩)

/-- the bits of a list of 8-bit codewords, most significant bit first -/
def bitsOf (l : List Nat) : List Nat := (l.map (fun x => appendBits x 8)).flatten

theorem bitsOf_nil : bitsOf [] = [] := rfl

theorem bitsOf_cons (a : Nat) (t : List Nat) : bitsOf (a :: t) = appendBits a 8 ++ bitsOf t := by
  simp [bitsOf]

theorem bitsOf_append (a b : List Nat) : bitsOf (a ++ b) = bitsOf a ++ bitsOf b := by
  simp [bitsOf]

theorem bitsOf_length (l : List Nat) : (bitsOf l).length = 8 * l.length := by
  induction l with
  | nil => rfl
  | cons a t ih => rw [bitsOf_cons, List.length_append, Proofs.Roundtrip.appendBits_length, ih, List.length_cons]; omega

theorem bitsOf_take (l : List Nat) : ∀ N, bitsOf (l.take N) = (bitsOf l).take (8 * N) := by
  induction l with
  | nil => intro N; simp [bitsOf_nil]
  | cons a t ih =>
    intro N
    cases N with
    | zero => simp [bitsOf_nil]
    | succ N =>
      have hl := Proofs.Roundtrip.appendBits_length a 8
      rw [List.take_succ_cons, bitsOf_cons, bitsOf_cons, ih N, List.take_append, hl,
        List.take_of_length_le (l := appendBits a 8) (by omega), show 8 * (N + 1) - 8 = 8 * N by omega]

theorem bitsToNat_eq : Model.bitsToNat = Spec.bitsToNat := rfl

theorem chunk8_succ (f : Nat) (bs : List Nat) (h : bs ≠ []) :
    Spec.chunk8 (f + 1) bs = Spec.bitsToNat (bs.take 8) :: Spec.chunk8 f (bs.drop 8) := by
  cases bs with
  | nil => exact absurd rfl h
  | cons x xs => rfl

theorem chunk8_bitsOf (cws : List Nat) (h : ∀ c ∈ cws, c < 256) :
    Spec.chunk8 cws.length (bitsOf cws) = cws := by
  induction cws with
  | nil => rfl
  | cons c t ih =>
    have hl := Proofs.Roundtrip.appendBits_length c 8
    have hne : bitsOf (c :: t) ≠ [] := by
      intro h0
      have := congrArg List.length h0
      rw [bitsOf_length] at this
      simp at this
    rw [List.length_cons, chunk8_succ _ _ hne, bitsOf_cons, List.take_left' hl, List.drop_left' hl,
      ih (fun c hc => h c (List.mem_cons_of_mem _ hc)),
      Proofs.Roundtrip.bits_roundtrip 8 c (h c List.mem_cons_self)]

theorem appendBits_bitsToNat (g : List Nat) (hg : ∀ b ∈ g, b ≤ 1) :
    appendBits (Model.bitsToNat g) g.length = g := by
  rw [bitsToNat_eq]
  induction g using List.reverseRecOn with
  | nil => rfl
  | append_singleton l b ih =>
    have hb : b ≤ 1 := hg b (by simp)
    rw [Proofs.Roundtrip.bitsToNat_append_one, List.length_append, List.length_singleton,
      Proofs.Roundtrip.appendBits_succ]
    have e1 : (Spec.bitsToNat l * 2 + b) / 2 = Spec.bitsToNat l := by omega
    have e2 : (Spec.bitsToNat l * 2 + b) % 2 = b := by omega
    rw [e1, e2, ih (fun x hx => hg x (by simp [hx]))]

theorem bitsToNat_lt (g : List Nat) (hg : ∀ b ∈ g, b ≤ 1) : Model.bitsToNat g < 2 ^ g.length := by
  rw [bitsToNat_eq]
  induction g using List.reverseRecOn with
  | nil => simp [Spec.bitsToNat]
  | append_singleton l b ih =>
    have hb : b ≤ 1 := hg b (by simp)
    have := ih (fun x hx => hg x (by simp [hx]))
    rw [Proofs.Roundtrip.bitsToNat_append_one, List.length_append, List.length_singleton, Nat.pow_succ]
    omega

theorem toInts_succ (f : Nat) (bs : List Nat) (h : bs ≠ []) :
    toInts (f + 1) bs
      = Model.bitsToNat (bs.take 8 ++ List.replicate (8 - (bs.take 8).length) 0) :: toInts f (bs.drop 8) := by
  cases bs with
  | nil => exact absurd rfl h
  | cons x xs => rfl

theorem toInts_nil (f : Nat) : toInts f [] = [] := by
  cases f <;> rfl

theorem toInts_length : ∀ (f : Nat) (bs : List Nat), bs.length < f → (toInts f bs).length = (bs.length + 7) / 8 := by
  intro f
  induction f with
  | zero => intro bs h; omega
  | succ f ih =>
    intro bs hf
    by_cases hne : bs = []
    · subst hne; rfl
    · have : 0 < bs.length := List.length_pos_iff.2 hne
      rw [toInts_succ f bs hne, List.length_cons, ih (bs.drop 8) (by rw [List.length_drop]; omega),
        List.length_drop]
      omega

theorem toInts_lt (bs : List Nat) (hb : ∀ b ∈ bs, b ≤ 1) : ∀ (f : Nat), ∀ c ∈ toInts f bs, c < 256 := by
  intro f
  induction f generalizing bs with
  | zero => intro c hc; simp [toInts] at hc
  | succ f ih =>
    intro c hc
    by_cases hne : bs = []
    · subst hne; simp [toInts] at hc
    · rw [toInts_succ f bs hne] at hc
      rcases List.mem_cons.1 hc with rfl | hc
      · have hl : (bs.take 8 ++ List.replicate (8 - (bs.take 8).length) 0).length = 8 := by
          rw [List.length_append, List.length_replicate, List.length_take]; omega
        have := bitsToNat_lt (bs.take 8 ++ List.replicate (8 - (bs.take 8).length) 0) (by
          intro b hb'
          rcases List.mem_append.1 hb' with h | h
          · exact hb b (List.mem_of_mem_take h)
          · rw [List.eq_of_mem_replicate h]; omega)
        rw [hl] at this
        exact this
      · exact ih (bs.drop 8) (fun b hb' => hb b (List.mem_of_mem_drop hb')) c hc

theorem bitsOf_toInts : ∀ (f : Nat) (bits : List Nat), (∀ b ∈ bits, b ≤ 1) → bits.length < f →
    bitsOf (toInts f bits) = bits ++ List.replicate ((8 - bits.length % 8) % 8) 0 := by
  intro f
  induction f with
  | zero => intro bits _ h; omega
  | succ f ih =>
    intro bits hb hf
    by_cases hne : bits = []
    · subst hne; rfl
    · have hpos : 0 < bits.length := List.length_pos_iff.2 hne
      -- the first codeword consists of the first eight bits, or of all bits followed by zeros
      have hg : ∀ b ∈ bits.take 8 ++ List.replicate (8 - (bits.take 8).length) 0, b ≤ 1 := by
        intro b hb'
        rcases List.mem_append.1 hb' with h | h
        · exact hb b (List.mem_of_mem_take h)
        · rw [List.eq_of_mem_replicate h]; omega
      have hl8 : (bits.take 8 ++ List.replicate (8 - (bits.take 8).length) 0).length = 8 := by
        rw [List.length_append, List.length_replicate, List.length_take]; omega
      have hcw := appendBits_bitsToNat _ hg
      rw [hl8] at hcw
      rw [toInts_succ f bits hne, bitsOf_cons, hcw,
        ih (bits.drop 8) (fun b h => hb b (List.mem_of_mem_drop h)) (by rw [List.length_drop]; omega),
        List.length_take, List.length_drop]
      by_cases h8 : 8 ≤ bits.length
      · rw [Nat.min_eq_left h8, Nat.sub_self, List.replicate_zero, List.append_nil, ← List.append_assoc,
          List.take_append_drop, show (bits.length - 8) % 8 = bits.length % 8 by omega]
      · rw [List.drop_of_length_le (by omega), List.take_of_length_le (by omega),
          show min 8 bits.length = bits.length by omega, show (8 - (bits.length - 8) % 8) % 8 = 0 by omega,
          show (8 - bits.length % 8) % 8 = 8 - bits.length by omega]
        simp

theorem prefix_bits_qr (stream : List Nat) (N : Nat) (hb : ∀ b ∈ stream, b ≤ 1) (hlen : 8 * N ≤ stream.length) :
    bitsOf ((toInts (stream.length + 1) stream).take N) = stream.take (8 * N) := by
  rw [bitsOf_take, bitsOf_toInts _ stream hb (by omega), List.take_append_of_le_length hlen]

theorem prefix_bits_four (stream : List Nat) (N : Nat) (hb : ∀ b ∈ stream, b ≤ 1) (hN : 1 ≤ N)
    (hlen : 8 * N - 4 ≤ stream.length) (hz : ∀ b ∈ (stream.drop (8 * N - 4)).take 4, b = 0) :
    bitsOf ((toInts (stream.length + 1) stream).take N) = stream.take (8 * N - 4) ++ [0, 0, 0, 0] := by
  rw [bitsOf_take, bitsOf_toInts _ stream hb (by omega)]
  generalize hp : (8 - stream.length % 8) % 8 = p
  have hk : 8 * N = (8 * N - 4) + 4 := by omega
  generalize 8 * N - 4 = k at hk hlen hz
  -- the zero-filled stream has a multiple of 8 bits, hence at least `k + 4`; the four after the first `k` are zero
  rw [hk, List.take_add, List.take_append_of_le_length hlen, List.drop_append_of_le_length hlen, List.take_append]
  congr 1
  show _ = List.replicate 4 0
  refine List.eq_replicate_iff.2 ⟨?_, fun b hb' => ?_⟩
  · simp only [List.length_append, List.length_take, List.length_drop, List.length_replicate]; omega
  · rcases List.mem_append.1 hb' with h | h
    · exact hz b h
    · exact List.eq_of_mem_replicate (List.mem_of_mem_take h)

theorem appendBits_add (m : Nat) : ∀ (n x : Nat), appendBits x (m + n) = appendBits (x >>> n) m ++ appendBits x n := by
  intro n
  induction n with
  | zero => intro x; simp [appendBits]
  | succ n ih =>
    intro x
    rw [← Nat.add_assoc, Proofs.Roundtrip.appendBits_succ, ih, Proofs.Roundtrip.appendBits_succ x n,
      Nat.shiftRight_succ_inside, List.append_assoc]

theorem natToBits_eq : Spec.natToBits 8 = fun x => appendBits x 8 := rfl

theorem blockShapes_cons (b : Nat × Nat × Nat) (t : List (Nat × Nat × Nat)) :
    Spec.blockShapes (b :: t) = List.replicate b.1 (b.2.2, b.2.1 - b.2.2) ++ Spec.blockShapes t := by
  simp [Spec.blockShapes]

theorem shapes_sum (g : Nat × Nat → Nat) (ecc : List (Nat × Nat × Nat)) :
    ((Spec.blockShapes ecc).map g).sum = (ecc.map (fun b => b.1 * g (b.2.2, b.2.1 - b.2.2))).sum := by
  induction ecc with
  | nil => rfl
  | cons b t ih =>
    rw [blockShapes_cons, List.map_append, List.sum_append, ih, List.map_replicate, List.sum_replicate_nat]
    simp

theorem total_sum (ecc : List (Nat × Nat × Nat)) (h : ∀ b ∈ ecc, b.2.2 ≤ b.2.1) :
    (ecc.map (fun b => b.1 * b.2.1)).sum
      = (ecc.map (fun b => b.1 * b.2.2)).sum + (ecc.map (fun b => b.1 * (b.2.1 - b.2.2))).sum := by
  induction ecc with
  | nil => rfl
  | cons b t ih =>
    simp only [List.map_cons, List.sum_cons]
    rw [ih (fun x hx => h x (List.mem_cons_of_mem _ hx))]
    have hb := h b List.mem_cons_self
    have : b.1 * b.2.1 = b.1 * b.2.2 + b.1 * (b.2.1 - b.2.2) := by
      rw [← Nat.mul_add]; congr 1; omega
    omega

theorem mem_blockShapes (ecc : List (Nat × Nat × Nat)) (s : Nat × Nat) (h : s ∈ Spec.blockShapes ecc) :
    ∃ b ∈ ecc, s = (b.2.2, b.2.1 - b.2.2) := by
  unfold Spec.blockShapes at h
  simp only [List.mem_flatten, List.mem_map] at h
  obtain ⟨l, ⟨b, hb, rfl⟩, hs⟩ := h
  exact ⟨b, hb, List.eq_of_mem_replicate hs⟩

theorem eccInfo_eq (v : Int) (e : Option Nat) : Model.eccInfo v e = Spec.eccOf v (lvlKey e) := by
  unfold Model.eccInfo Spec.eccOf
  rw [Props.C03.ecc_table_is_iso]
  rfl

theorem lookup2_mem {α : Type} (t : List (Int × Int × α)) (a b : Int) (x : α)
    (h : Spec.lookup2 t a b = some x) : (a, b, x) ∈ t :=
  Proofs.Stream.find_key_mem t a b x h

/-- per-row check of Table 9: every group has a generator polynomial in `GEN_POLY`, at least one block,
    data ≤ total, and the M1/M3 symbols consist of a single block with at least one data codeword -/
def rowOk (e : Int × Int × List (Nat × Nat × Nat)) : Bool :=
  e.2.2.all (fun b => (assoc Gen.GEN_POLY (b.2.1 - b.2.2)).isSome && decide (1 ≤ b.1 ∧ b.2.2 ≤ b.2.1)) &&
  (!Spec.fourBitFinal e.1 || (e.2.2.length == 1 && e.2.2.all (fun b => b.1 == 1 && decide (1 ≤ b.2.2))))

theorem table_rows_ok : Spec.eccTable.all rowOk = true := by decide +kernel

/-- what holds of the row `ecc` of Table 9 for version `v` and level `lvl` -/
structure Row (v lvl : Int) (ecc : List (Nat × Nat × Nat)) : Prop where
  gen : ∀ s ∈ Spec.blockShapes ecc, (assoc Gen.GEN_POLY s.2).isSome = true
  blocks : ∀ b ∈ ecc, 1 ≤ b.1 ∧ b.2.2 ≤ b.2.1
  cap : Spec.capacityOf v lvl = some (8 * (ecc.map (fun b => b.1 * b.2.2)).sum - (if Spec.fourBitFinal v then 4 else 0))
  four : Spec.fourBitFinal v = true → ∃ t d, ecc = [(1, t, d)] ∧ 1 ≤ d

theorem row_facts (v lvl : Int) (ecc : List (Nat × Nat × Nat)) (h : Spec.eccOf v lvl = some ecc) : Row v lvl ecc := by
  have hm := lookup2_mem _ _ _ _ h
  have hok := List.all_eq_true.1 table_rows_ok _ hm
  have hcap := List.all_eq_true.1 Props.C03.capacity_is_8_times_data.1 _ hm
  simp only [rowOk, Bool.and_eq_true, Bool.or_eq_true, Bool.not_eq_true', List.all_eq_true,
    decide_eq_true_eq, beq_iff_eq] at hok
  obtain ⟨hrows, hfour⟩ := hok
  refine ⟨?_, fun b hb => (hrows b hb).2, ?_, ?_⟩
  · intro s hs
    obtain ⟨b, hb, rfl⟩ := mem_blockShapes ecc s hs
    exact (hrows b hb).1
  · simp only [beq_iff_eq] at hcap
    rw [hcap, ← List.sum_eq_foldl]
  · intro hf
    rcases hfour with hfour | ⟨hlen, hall⟩
    · rw [hf] at hfour; exact absurd hfour (by decide)
    · obtain ⟨b, rfl⟩ := List.length_eq_one_iff.1 hlen
      obtain ⟨c, t, d⟩ := b
      have := hall (c, t, d) List.mem_cons_self
      simp only at this
      obtain ⟨rfl, hd⟩ := this
      exact ⟨t, d, rfl, hd⟩

/-- the data blocks: consecutive slices of the codeword sequence -/
def slices : List (Nat × Nat) → List Nat → List (List Nat)
  | [], _ => []
  | (nd, _) :: rest, cws => cws.take nd :: slices rest (cws.drop nd)

def ecOf (blk : List Nat) (ne : Nat) : List Nat :=
  match assoc Gen.GEN_POLY ne with
  | some gen => rsRemainder gen blk ne
  | none => []

def ecs : List (Nat × Nat) → List Nat → List (List Nat)
  | [], _ => []
  | (nd, ne) :: rest, cws => ecOf (cws.take nd) ne :: ecs rest (cws.drop nd)

theorem makeBlocks_go_eq (shapes : List (Nat × Nat)) : ∀ (cws : List Nat),
    (∀ s ∈ shapes, (assoc Gen.GEN_POLY s.2).isSome = true) →
    makeBlocks.go cws shapes = .ok (slices shapes cws, ecs shapes cws) := by
  induction shapes with
  | nil => intro cws _; rfl
  | cons s rest ih =>
    intro cws hs
    obtain ⟨nd, ne⟩ := s
    have h1 := hs (nd, ne) List.mem_cons_self
    obtain ⟨gen, hgen⟩ := Option.isSome_iff_exists.1 h1
    have hgen' : assoc Gen.GEN_POLY ne = some gen := hgen
    rw [makeBlocks.go]
    simp only [hgen', ih (cws.drop nd) (fun s hs' => hs s (List.mem_cons_of_mem _ hs')),
      bind, Except.bind, pure, Except.pure, slices, ecs, ecOf]

theorem makeBlocks_eq (ecc : List (Nat × Nat × Nat)) (cws : List Nat) :
    makeBlocks ecc cws = makeBlocks.go cws (Spec.blockShapes ecc) := rfl

theorem assoc_mem {α β : Type} [BEq α] [LawfulBEq α] (t : List (α × β)) (k : α) (x : β) (h : assoc t k = some x) :
    (k, x) ∈ t := by
  unfold assoc at h
  rw [Option.map_eq_some_iff] at h
  obtain ⟨p, hp, rfl⟩ := h
  have hm := List.mem_of_find?_eq_some hp
  have hk := List.find?_some hp
  have : p.1 = k := by simpa using hk
  subst this
  exact hm

theorem slices_map_length (shapes : List (Nat × Nat)) : ∀ (cws : List Nat),
    (shapes.map (·.1)).sum ≤ cws.length → (slices shapes cws).map List.length = shapes.map (·.1) := by
  induction shapes with
  | nil => intro cws _; rfl
  | cons s rest ih =>
    intro cws h
    obtain ⟨nd, ne⟩ := s
    simp only [List.map_cons, List.sum_cons] at h
    simp only [slices, List.map_cons, List.length_take]
    rw [ih (cws.drop nd) (by rw [List.length_drop]; omega)]
    congr 1
    omega

theorem slices_flatten (shapes : List (Nat × Nat)) : ∀ (cws : List Nat),
    (slices shapes cws).flatten = cws.take (shapes.map (·.1)).sum := by
  induction shapes with
  | nil => intro cws; simp [slices]
  | cons s rest ih =>
    intro cws
    obtain ⟨nd, ne⟩ := s
    simp only [slices, List.flatten_cons, List.map_cons, List.sum_cons]
    rw [ih, List.take_add]

theorem slices_mem (shapes : List (Nat × Nat)) : ∀ (cws : List Nat), ∀ b ∈ slices shapes cws, ∀ x ∈ b, x ∈ cws := by
  induction shapes with
  | nil => intro cws b hb; simp [slices] at hb
  | cons s rest ih =>
    intro cws b hb x hx
    obtain ⟨nd, ne⟩ := s
    simp only [slices, List.mem_cons] at hb
    rcases hb with rfl | hb
    · exact List.mem_of_mem_take hx
    · exact List.mem_of_mem_drop (ih _ b hb x hx)

theorem ecOf_length (blk : List Nat) (ne : Nat) (h : (assoc Gen.GEN_POLY ne).isSome = true) :
    (ecOf blk ne).length = ne := by
  obtain ⟨gen, hgen⟩ := Option.isSome_iff_exists.1 h
  have hgen' : assoc Gen.GEN_POLY ne = some gen := hgen
  simp only [ecOf, hgen']
  exact Proofs.RSField.rsRemainder_length gen blk ne

theorem ecOf_bytes (blk : List Nat) (ne : Nat) (hd : ∀ d ∈ blk, d < 256) : ∀ x ∈ ecOf blk ne, x < 256 := by
  unfold ecOf
  split
  · next gen _ => exact Proofs.RSField.rsRemainder_bytes gen blk ne hd
  · intro x hx; simp at hx

theorem ecOf_valid (blk : List Nat) (ne : Nat) (h : (assoc Gen.GEN_POLY ne).isSome = true)
    (hd : ∀ d ∈ blk, d < 256) : Spec.validCodeword (blk ++ ecOf blk ne) (ecOf blk ne).length = true := by
  rw [ecOf_length blk ne h]
  obtain ⟨gen, hgen⟩ := Option.isSome_iff_exists.1 h
  have hgen' : assoc Gen.GEN_POLY ne = some gen := hgen
  simp only [ecOf, hgen']
  exact Proofs.RSField.block_valid_for_reference_reader ne gen (assoc_mem _ _ _ hgen') blk hd

theorem ecs_map_length (shapes : List (Nat × Nat)) : ∀ (cws : List Nat),
    (∀ s ∈ shapes, (assoc Gen.GEN_POLY s.2).isSome = true) →
    (ecs shapes cws).map List.length = shapes.map (·.2) := by
  induction shapes with
  | nil => intro cws _; rfl
  | cons s rest ih =>
    intro cws hs
    obtain ⟨nd, ne⟩ := s
    simp only [ecs, List.map_cons]
    rw [ih _ (fun s hs' => hs s (List.mem_cons_of_mem _ hs')), ecOf_length _ _ (hs (nd, ne) List.mem_cons_self)]

theorem ecs_bytes (shapes : List (Nat × Nat)) : ∀ (cws : List Nat), (∀ c ∈ cws, c < 256) →
    ∀ b ∈ ecs shapes cws, ∀ x ∈ b, x < 256 := by
  induction shapes with
  | nil => intro cws _ b hb; simp [ecs] at hb
  | cons s rest ih =>
    intro cws hc b hb
    obtain ⟨nd, ne⟩ := s
    simp only [ecs, List.mem_cons] at hb
    rcases hb with rfl | hb
    · exact ecOf_bytes _ _ (Proofs.RSField.bytes_take nd hc)
    · exact ih _ (Proofs.RSField.bytes_drop nd hc) b hb

theorem blocks_valid (shapes : List (Nat × Nat)) : ∀ (cws : List Nat), (∀ c ∈ cws, c < 256) →
    (∀ s ∈ shapes, (assoc Gen.GEN_POLY s.2).isSome = true) →
    ∀ p ∈ (slices shapes cws).zip (ecs shapes cws), Spec.validCodeword (p.1 ++ p.2) p.2.length = true := by
  induction shapes with
  | nil => intro cws _ _ p hp; simp [slices] at hp
  | cons s rest ih =>
    intro cws hc hs p hp
    obtain ⟨nd, ne⟩ := s
    simp only [slices, ecs, List.zip_cons_cons, List.mem_cons] at hp
    rcases hp with rfl | hp
    · exact ecOf_valid _ _ (hs (nd, ne) List.mem_cons_self) (fun d hd => hc d (List.mem_of_mem_take hd))
    · exact ih _ (fun d hd => hc d (List.mem_of_mem_drop hd)) (fun s hs' => hs s (List.mem_cons_of_mem _ hs')) p hp

theorem mem_interleave_lt (D : List (List Nat)) (hDb : ∀ b ∈ D, ∀ x ∈ b, x < 256) :
    ∀ c ∈ interleave D, c < 256 := by
  intro c hc
  obtain ⟨b, hb, hx⟩ := mem_interleave D c hc
  exact hDb b hb c hx

theorem splitBlocks_ok (v lvl : Int) (ecc : List (Nat × Nat × Nat)) (D E : List (List Nat)) (dB R : List Nat)
    (hecc : Spec.eccOf v lvl = some ecc)
    (hD : D.map List.length = (Spec.blockShapes ecc).map (·.1))
    (hE : E.map List.length = (Spec.blockShapes ecc).map (·.2))
    (hDb : ∀ b ∈ D, ∀ x ∈ b, x < 256) (hEb : ∀ b ∈ E, ∀ x ∈ b, x < 256)
    (hd : bitsOf (interleave D) = dB ++ (if Spec.fourBitFinal v then [0, 0, 0, 0] else []))
    (hR : R.length = Spec.remainderBits v) :
    Spec.splitBlocks v lvl (dB ++ bitsOf (interleave E) ++ R) = .ok { data := D, ec := E, remainder := R } := by
  unfold Spec.splitBlocks
  rw [hecc]
  simp only []
  have hN : List.foldl (· + ·) 0 ((Spec.blockShapes ecc).map (·.1)) = (interleave D).length := by
    rw [← List.sum_eq_foldl, ← hD, interleave_length]
  have hM : List.foldl (· + ·) 0 ((Spec.blockShapes ecc).map (·.2)) = (interleave E).length := by
    rw [← List.sum_eq_foldl, ← hE, interleave_length]
  rw [hN, hM, ← hD, ← hE]
  have hlenD : (interleave D).length * 8 - (if Spec.fourBitFinal v = true then 4 else 0) = dB.length := by
    have := congrArg List.length hd
    rw [bitsOf_length, List.length_append] at this
    split at this <;> simp at this <;> simp [*] <;> omega
  have hbE : (bitsOf (interleave E)).length = (interleave E).length * 8 := by rw [bitsOf_length]; omega
  rw [hlenD]
  have e1 : (dB ++ bitsOf (interleave E) ++ R).length = dB.length + (interleave E).length * 8 + R.length := by
    rw [List.length_append, List.length_append, hbE]
  have e2 : List.drop (dB.length + (interleave E).length * 8) (dB ++ bitsOf (interleave E) ++ R) = R :=
    List.drop_left' (by rw [List.length_append, hbE])
  have e3 : List.take dB.length (dB ++ bitsOf (interleave E) ++ R) = dB := by
    rw [List.append_assoc]; exact List.take_left' rfl
  have e4 : List.take ((interleave E).length * 8) (List.drop dB.length (dB ++ bitsOf (interleave E) ++ R))
      = bitsOf (interleave E) := by
    rw [List.append_assoc, List.drop_left' rfl]; exact List.take_left' hbE
  rw [e2, e3, e4, if_neg (by rw [e1]; omega), chunk8_bitsOf _ (mem_interleave_lt E hEb), deinterleave_interleave]
  have e5 : (if Spec.fourBitFinal v = true then Spec.chunk8 (interleave D).length (dB ++ [0, 0, 0, 0])
      else Spec.chunk8 (interleave D).length dB) = interleave D := by
    have h := chunk8_bitsOf _ (mem_interleave_lt D hDb)
    rw [hd] at h
    by_cases hf : Spec.fourBitFinal v = true
    · rw [if_pos hf] at h ⊢; exact h
    · rw [if_neg hf, List.append_nil] at h; rw [if_neg hf]; exact h
  rw [e5, deinterleave_interleave]
  simp [hR, pure, Except.pure]

/-- the bits of the interleaved data blocks, less the low nibble of the last codeword for M1 / M3 -/
def dataBits (v : Int) (D : List (List Nat)) : List Nat :=
  (bitsOf (interleave D)).take (8 * (interleave D).length - if Spec.fourBitFinal v then 4 else 0)

/-- `make_final_message` on a row of Table 9 -/
theorem makeFinalMessage_eq (v : Int) (e : Option Nat) (stream : List Nat) (ecc : List (Nat × Nat × Nat))
    (hecc : Spec.eccOf v (lvlKey e) = some ecc)
    (hne : Spec.fourBitFinal v = true → stream ≠ []) :
    makeFinalMessage v e stream = .ok
      (dataBits v (slices (Spec.blockShapes ecc) (toInts (stream.length + 1) stream))
        ++ bitsOf (interleave (ecs (Spec.blockShapes ecc) (toInts (stream.length + 1) stream)))
        ++ List.replicate (Gen.remainder_bits v).toNat 0) := by
  -- every block of the row has a generator polynomial; an M1 / M3 row is one block with a data codeword
  have hrow := row_facts v _ ecc hecc
  unfold makeFinalMessage dataBits
  rw [eccInfo_eq, hecc]
  simp only [makeBlocks_eq, makeBlocks_go_eq _ _ hrow.gen, bind, Except.bind, pure, Except.pure]
  rw [Proofs.Stream.isM1M3_eq]
  by_cases hf : Spec.fourBitFinal v = true
  · rw [if_pos hf, if_pos hf]
    obtain ⟨t, d, rfl, hd⟩ := hrow.four hf
    have hsl : slices (Spec.blockShapes [(1, t, d)]) (toInts (stream.length + 1) stream)
        = [(toInts (stream.length + 1) stream).take d] := by
      simp [Spec.blockShapes, slices]
    have hne' : (toInts (stream.length + 1) stream).take d ≠ [] := by
      rw [Ne, List.take_eq_nil_iff]
      rintro (h0 | h0)
      · omega
      · cases stream with
        | nil => exact hne hf rfl
        | cons x xs => simp [toInts] at h0
    obtain ⟨pre, lastCw, hblk⟩ : ∃ pre lastCw, (toInts (stream.length + 1) stream).take d = pre ++ [lastCw] :=
      ⟨_, _, (List.dropLast_concat_getLast hne').symm⟩
    rw [hsl, hblk]
    simp only [List.getLast?_concat, List.dropLast_concat, interleave_singleton]
    show Except.ok (bitsOf pre ++ appendBits (lastCw >>> 4) 4 ++ _ ++ _) = _
    -- the high nibble of the last codeword is what is left of its eight bits when the last four are taken off
    rw [bitsOf_append, bitsOf_cons, bitsOf_nil, List.append_nil, appendBits_add 4 4 lastCw, ← List.append_assoc,
      List.take_left' (by
        rw [List.length_append, List.length_append, bitsOf_length, Proofs.Roundtrip.appendBits_length, List.length_singleton]
        omega)]
    rfl
  · rw [if_neg hf, if_neg hf, List.append_nil, Nat.sub_zero, ← bitsOf_length, List.take_length]
    rfl

theorem ecc_of_ok (v : Int) (e : Option Nat) (stream bits : List Nat)
    (h : makeFinalMessage v e stream = .ok bits) : ∃ ecc, Spec.eccOf v (lvlKey e) = some ecc := by
  rw [← eccInfo_eq]
  cases hE : eccInfo v e with
  | some x => exact ⟨x, rfl⟩
  | none =>
    unfold makeFinalMessage at h
    rw [hE] at h
    cases h

theorem capacity_shapes (v : Int) (e : Option Nat) (cap : Nat) (stream : List Nat) (ecc : List (Nat × Nat × Nat))
    (hcap : Model.capacity v e = some cap) (hlen : cap ≤ stream.length)
    (hecc : Spec.eccOf v (lvlKey e) = some ecc) :
    cap = 8 * ((Spec.blockShapes ecc).map (·.1)).sum - (if Spec.fourBitFinal v then 4 else 0) ∧
    ((Spec.blockShapes ecc).map (·.1)).sum ≤ (toInts (stream.length + 1) stream).length ∧
    (Spec.fourBitFinal v = true → 1 ≤ ((Spec.blockShapes ecc).map (·.1)).sum) := by
  have hcapT := (row_facts v _ ecc hecc).cap
  rw [← Proofs.Sizing.capacity_eq, hcap, ← shapes_sum (·.1)] at hcapT
  have hc := Option.some.inj hcapT
  have hcf := Proofs.Stream.cap_facts hcap
  refine ⟨hc, ?_, ?_⟩
  · rw [toInts_length _ _ (by omega)]
    split at hc <;> omega
  · intro hf
    have := (hcf.2.2.1 hf).2
    rw [if_pos hf] at hc
    omega

theorem stream_ne (v : Int) (e : Option Nat) (cap : Nat) (stream : List Nat) (hcap : capacity v e = some cap)
    (hlen : cap ≤ stream.length) (hf : Spec.fourBitFinal v = true) : stream ≠ [] := by
  rintro rfl
  have := ((Proofs.Stream.cap_facts hcap).2.2.1 hf).2
  simp at hlen
  omega

theorem interleave_slices (v : Int) (ecc : List (Nat × Nat × Nat)) (cws : List Nat)
    (hfour : Spec.fourBitFinal v = true → ∃ t d, ecc = [(1, t, d)] ∧ 1 ≤ d) (hf : Spec.fourBitFinal v = true) :
    interleave (slices (Spec.blockShapes ecc) cws) = cws.take ((Spec.blockShapes ecc).map (·.1)).sum := by
  obtain ⟨t, d, rfl, -⟩ := hfour hf
  simp [Spec.blockShapes, slices, interleave_singleton]

end Proofs.Message
