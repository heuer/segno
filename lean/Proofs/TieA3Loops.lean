/-
  A `Py.foldlM` of the translation that appends to a bit buffer, against the model: one that may raise against `List.mapM`
  (`mapM_loop`), one that cannot against `List.map` (`append_loop`).  (Loops that cannot raise and whose state is the image
  of a model state in general are `Proofs.TieA2.Yields.loop`.)
-/
import Proofs.TieA2
import Proofs.Except

namespace Proofs.TieA3
open Gen.Py Proofs.TieA Proofs.TieA2 Model

theorem mapM_loop {α ι : Type} (body : List Int → ι → M (List Int)) (φ : α → ι) (step : α → R (List Nat))
    (L : List α) (hstep : ∀ acc, ∀ j ∈ L, toR (body (toI acc) (φ j)) = (step j).map (fun bs => toI (acc ++ bs))) :
    ∀ acc, toR (foldlM (L.map φ) (toI acc) body) = (L.mapM step).map (fun gs => toI (acc ++ gs.flatten)) := by
  induction L with
  | nil => intro acc; simp [Except.map, Pure.pure, Except.pure]
  | cons j t ih =>
    intro acc
    rw [List.map_cons, List.mapM_cons]
    refine toR_bind_map (k := fun s => foldlM (t.map φ) s body) (hstep acc j (by simp)) (fun bs _ => ?_)
    rw [ih (fun acc' j' hj' => hstep acc' j' (by simp [hj'])) (acc ++ bs)]
    cases List.mapM step t <;> simp [Except.map, Bind.bind, Except.bind, Pure.pure, Except.pure, List.append_assoc]

theorem pair_loop (body : List Int → Int → M (List Int)) (φ : Nat → Int) (step : Nat → R (List Nat))
    (L : List Nat) (hstep : ∀ acc, ∀ j ∈ L, toR (body (toI acc) (φ j)) = (step j).map (fun bs => toI (acc ++ bs))) :
    ∀ acc, toR (foldlM (L.map φ) (toI acc) body) = (L.mapM step).map (fun gs => toI (acc ++ gs.flatten)) :=
  mapM_loop body φ step L hstep

theorem append_loop (body : List Int → Int → M (List Int)) (φ : Nat → Int) (h : Nat → List Nat) (L : List Nat)
    (hstep : ∀ acc, ∀ j ∈ L, body (toI acc) (φ j) = .ok (toI (acc ++ h j))) (acc : List Nat) :
    foldlM (L.map φ) (toI acc) body = .ok (toI (acc ++ (L.map h).flatten)) := by
  apply toR_ok_inv
  have hm := Proofs.Except.mapM_map_ok (fun j => (.ok (h j) : R (List Nat))) id h L (fun _ _ => rfl)
  rw [List.map_id] at hm
  rw [mapM_loop body φ (fun j => .ok (h j)) L (fun acc j hj => by rw [hstep acc j hj]; rfl) acc, hm]
  rfl

end Proofs.TieA3
