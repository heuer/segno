/-
  Proofs.TieAFormat — what `Props.TieA.calc_format_info_tie` needs of the tables: the tuple subscript at an index that is a
  natural number (`index_cast`) and `consts.ERROR_LEVEL_TO_MICRO_MAPPING[version][error]` against its flat table.
-/
import Proofs.TieA

namespace Proofs.TieA
open Gen.Py Model

theorem index_cast (l : List Nat) (i : Int) (n : Nat) (h : i = (n : Int)) :
    index (l.map Int.ofNat) i = ofOption .indexError (l[n]?.map Int.ofNat) := by
  subst h; rw [index_map_ofNat]

theorem toR_index_word (l : List Nat) (i : Int) (n : Nat) (h : i = (n : Int)) :
    toR (index (l.map Int.ofNat) i)
      = Except.map Int.ofNat (match l[n]? with | some w => (pure w : R Nat) | none => throw PyErr.indexError) := by
  rw [index_cast l i n h]
  cases l[n]? <;> rfl

macro "fim_step" m:ident k:num : tactic =>
  `(tactic| (rw [index_cast _ _ ($m + $k) (by omega)]; split <;> simp_all [exc, Except.map, pure, Except.pure, throw, throwThe, MonadExceptOf.throw]))

theorem micro_mapping_same :
    sameTable Gen.Funcs.T_consts_ERROR_LEVEL_TO_MICRO_MAPPING Gen.ERROR_LEVEL_TO_MICRO_MAPPING id unKey Int.ofNat = true := by decide

end Proofs.TieA
