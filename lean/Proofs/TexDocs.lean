/-
  The model of `write_tex` (Model/Tex.lean), for C10: its lines as row groups at y = −(border + i),
  reading the PGF commands back, the core of the judge's TeX judgement (`judgeTex` of Spec/Vector.lean: y-up geometry
  `top = s/2`, tolerance `relTol`) on the model's commands, and the judge's reader on the printed coordinates.
-/
import Model.Tex
import Proofs.VectorAcceptGrid

namespace Proofs.TexDocs
open Proofs.Decimal (isDigit_toDigits)

open Model.Lines Model.Tex Spec.Vector Proofs.Lines Proofs.VectorAccept

/-- row groups → lines: group i lies at y = y0 − i -/
def texAttach : Int → List (List (Nat × Nat)) → List (Int × Int × Int)
  | _, [] => []
  | y, rs :: rest => rs.map (fun ab => ((ab.1 : Int), y, (ab.2 : Int))) ++ texAttach (y - 1) rest

theorem attach_half (rows : List (List (Nat × Nat))) : ∀ y : Int,
    (toInt (attach (-2) (2 * y + 2) rows)).map (fun t => (t.1, t.2.1 / 2, t.2.2)) = texAttach y rows := by
  induction rows with
  | nil => intro y; rfl
  | cons rs rest ih =>
    intro y
    have e1 : (2 * y + 2 + -2) / 2 = y := by omega
    have e2 : 2 * y + 2 + -2 = 2 * (y - 1) + 2 := by omega
    simp only [attach, toInt, List.map_append, List.map_map, texAttach]
    congr 1
    · apply List.map_congr_left
      intro ab _
      simp only [Function.comp, e1]
    · have := ih (y - 1)
      simp only [toInt, List.map_map] at this
      rw [e2]; exact this

theorem texLines_rows (m : List (List Nat)) (b : Nat) : texLines m b = texAttach (-(b : Int)) (rowsGo b 1 m) := by
  unfold texLines matrixToLines
  rw [linesGo_rows]
  have e : -(2 * (b : Int)) - -2 = 2 * (-(b : Int)) + 2 := by omega
  rw [e]
  exact attach_half _ _

/-- reference semantics of a PGF path made of `moveto` / `lineto` pairs: the horizontal segments `(x1, y, x2)` -/
def texRead : List Cmd → Option (List (Int × Int × Int))
  | [] => some []
  | .moveto x y :: .lineto x' y' :: rest =>
    if y = y' then (texRead rest).map (fun l => (x, y, x') :: l) else none
  | _ => none

theorem texRead_texCmds (lines : List (Int × Int × Int)) : texRead (texCmds lines) = some lines := by
  induction lines with
  | nil => rfl
  | cons t rest ih =>
    obtain ⟨x1, y, x2⟩ := t
    have : texCmds ((x1, y, x2) :: rest) = .moveto x1 y :: .lineto x2 y :: texCmds rest := by
      simp [texCmds]
    rw [this]
    simp only [texRead, if_true]
    have ih' : texRead (texCmds rest) = some rest := ih
    rw [ih']
    rfl

/-- the body of the `for` loop of `judgeTex` for `mv:` / `ln:` commands whose coordinates are `x·s`, `y·s` -/
def texStep (s : Rat) (p : PathSt) : Cmd → Except String PathSt
  | .moveto x y => .ok (p.moveTo ((x : Rat) * s, (y : Rat) * s) ((x : Rat) * s, (y : Rat) * s))
  | .lineto x y => p.lineTo ((x : Rat) * s, (y : Rat) * s) ((x : Rat) * s, (y : Rat) * s)

def texPath (s : Rat) (cmds : List Cmd) (p : PathSt) : Except String PathSt := cmds.foldlM (texStep s) p

def texSub (s : Rat) (t : Int × Int × Int) : Sub :=
  { pts := [((t.1 : Rat) * s, (t.2.1 : Rat) * s), ((t.2.2 : Rat) * s, (t.2.1 : Rat) * s)], closed := false }

theorem texPath_lines (s : Rat) (lines : List (Int × Int × Int)) : ∀ p : PathSt,
    ∃ p', TokRun (texStep s) (texCmds lines) p p' ∧ p'.done = p.done ++ lines.map (texSub s) := by
  induction lines with
  | nil => intro p; exact ⟨p, .nil, by simp⟩
  | cons t rest ih =>
    intro p
    obtain ⟨x1, y, x2⟩ := t
    obtain ⟨p1, h1, _, _, hd1⟩ := moveTo_lineTo_done p ((x1 : Rat) * s, (y : Rat) * s) ((x1 : Rat) * s, (y : Rat) * s)
      ((x2 : Rat) * s, (y : Rat) * s) ((x2 : Rat) * s, (y : Rat) * s)
    obtain ⟨p2, h2, hd2⟩ := ih p1
    exact ⟨p2, .cons rfl (.cons h1 h2), by rw [hd2, hd1]; simp [texSub]⟩

/-- the rectangle the stroke of half width `s/2` covers -/
def texRect (s : Rat) (t : Int × Int × Int) : Rect :=
  mkRect ((t.1 : Rat) * s) ((t.2.2 : Rat) * s) ((t.2.1 : Rat) * s - s / 2) ((t.2.1 : Rat) * s + s / 2)

theorem strokeRects_tex (s : Rat) (lines : List (Int × Int × Int)) :
    strokeRects (s / 2) (lines.map (texSub s)) = .ok (lines.map (texRect s)) := by
  unfold strokeRects
  apply Proofs.Except.mapM_map_ok
  intro t _
  simp [texSub, texRect]

/-- the lines as items (matrix row, first column, end column) of the unshifted runs -/
def itemLine (b : Nat) (a : Nat × Nat × Nat) : Int × Int × Int :=
  (((a.2.1 + b : Nat) : Int), -(((a.1 + b : Nat) : Int)), ((a.2.2 + b : Nat) : Int))

theorem texLines_items (m : List (List Nat)) (b : Nat) : texLines m b = (gridItems 0 (rowsGo 0 1 m)).map (itemLine b) := by
  rw [texLines, lines_items, toInt, List.map_map, List.map_map]
  apply List.map_congr_left
  intro a _
  simp only [Function.comp, itemLine, Prod.mk.injEq]
  exact ⟨trivial, by omega, trivial⟩

theorem relTol_nonneg : (0 : Rat) ≤ relTol := by decide +kernel

/-- the core of `judgeTex` on the model's commands: path → stroked rectangles → grid segments → coverage -/
theorem tex_accept (m : List (List Nat)) (b : Nat) (s : Rat) (hs : 0 < s) (hsq : ∀ row ∈ m, row.length = m.length) :
    (do
      let p ← texPath s (texCmds (texLines m b)) {}
      let rects ← strokeRects (s / 2) p.done
      let segs ← gridSegs s relTol (m.length + 2 * b) true (s / 2) rects
      checkCoverage { m := m, size := m.length, b := b, s := s, dark := some black, light := none } segs
      pure segs) = Except.ok (segsFrom b (rowsGo b 1 m)) := by
  obtain ⟨p', hp, hd⟩ := texPath_lines s (texLines m b) {}
  rw [texPath, hp]
  simp only [bind, Except.bind]
  have hd0 : ({} : PathSt).done = [] := rfl
  rw [hd, hd0, List.nil_append, strokeRects_tex]
  simp only []
  rw [texLines_items, List.map_map, gridSegs_model m b s relTol relTol_nonneg hsq true (s / 2) (texRect s ∘ itemLine b)]
  · simp only []
    rw [checkCoverage_model m b s hsq]
    rfl
  · intro a h
    exact rect_grid true s hs (((a.2.1 + b : Nat) : Int) * s) (((a.2.2 + b : Nat) : Int) * s)
      (((-(((a.1 + b : Nat) : Int)) : Int) : Rat) * s) (s / 2) (s / 2) ((a.2.1 + b : Nat) : Int) ((a.2.2 + b : Nat) : Int)
      ((a.1 + b : Nat) : Int) (by omega) (by grind) (by grind) rfl (by rw [Rat.intCast_neg]; grind)

/-- units the reader `numUnit?` separates from the number: the unit does not start with a digit or `.`, and not with an
    exponent (`e` / `E`, optional sign, digit) -/
def unitOk (u : List Char) : Bool :=
  match u with
  | [] => true
  | c :: r => !c.isDigit && c != '.' && !((c == 'e' || c == 'E') &&
      (match r with
        | '-' :: t => (match t with | d :: _ => d.isDigit | [] => false)
        | '+' :: t => (match t with | d :: _ => d.isDigit | [] => false)
        | d :: _ => d.isDigit
        | [] => false))

theorem spanDigits_nodigit (r : List Char) (h : ∀ c t, r = c :: t → c.isDigit = false) : spanDigits r = ([], r) := by
  have := spanDigits_append [] r (by simp) h
  simpa using this

theorem parse_digits_unit (ds u : List Char) (hne : ds ≠ []) (hd : ∀ c ∈ ds, c.isDigit = true) (hu : unitOk u = true) :
    parseDecPrefix (ds ++ u) = some ((((digitsVal ds : Nat) : Int), 1), u) := by
  cases ds with
  | nil => exact absurd rfl hne
  | cons d r =>
    have hd0 : d.isDigit = true := hd d (by simp)
    have h1 : d ≠ '-' := by intro h; subst h; simp at hd0
    have h2 : d ≠ '+' := by intro h; subst h; simp at hd0
    cases u with
    | nil => simpa using parse_digits (d :: r) hne hd
    | cons c t =>
      simp only [unitOk, Bool.and_eq_true, Bool.not_eq_true', bne_iff_ne, ne_eq] at hu
      obtain ⟨⟨hc1, hc2⟩, hc3⟩ := hu
      have hs := spanDigits_append (d :: r) (c :: t) hd (by intro c' r' h; cases h; exact hc1)
      simp only [List.cons_append] at hs
      by_cases he : (c == 'e' || c == 'E') = true
      · -- an `e` that does not start an exponent: the reader looks for digits after `e`, `e-`, `e+`, and by `unitOk` (`hc3`)
        -- there is none in any of the shapes `e`, `e-…`, `e+…`, `e…` below (`spanDigits_nodigit`), so it keeps the integer
        simp only [he, Bool.true_and] at hc3
        cases t with
        | nil =>
          simp [parseDecPrefix, h1, h2, hs, hc2, he, spanDigits_nodigit [] (by intro _ _ h; cases h)]
        | cons t0 t1 =>
          by_cases hm : t0 = '-'
          · subst hm
            have hr1 : ∀ c' t', t1 = c' :: t' → c'.isDigit = false := by
              intro c' t' h; subst h; simpa using hc3
            simp [parseDecPrefix, h1, h2, hs, hc2, he, spanDigits_nodigit t1 hr1]
          · by_cases hp : t0 = '+'
            · subst hp
              have hr1 : ∀ c' t', t1 = c' :: t' → c'.isDigit = false := by
                intro c' t' h; subst h; simpa using hc3
              simp [parseDecPrefix, h1, h2, hs, hc2, he, spanDigits_nodigit t1 hr1]
            · have hr1 : ∀ c' t', t0 :: t1 = c' :: t' → c'.isDigit = false := by
                intro c' t' h; cases h
                revert hc3
                split <;> simp_all
              simp [parseDecPrefix, h1, h2, hs, hc2, he, hm, hp, spanDigits_nodigit (t0 :: t1) hr1]
      · simp only [Bool.not_eq_true] at he
        simp [parseDecPrefix, h1, h2, hs, hc2, he]

theorem parse_neg_digits_unit (ds u : List Char) (hne : ds ≠ []) (hd : ∀ c ∈ ds, c.isDigit = true) (hu : unitOk u = true) :
    parseDecPrefix ('-' :: (ds ++ u)) = some ((-((digitsVal ds : Nat) : Int), 1), u) := by
  rw [parse_neg ds u hne hd, parse_digits_unit ds u hne hd hu]; rfl

theorem numUnit_int (k : Int) (unit : String) (hu : unitOk unit.toList = true) :
    numUnit? (toString k ++ unit) = some ((k : Rat), unit) := by
  unfold numUnit?
  rw [String.toList_append, toList_int]
  by_cases h : 0 ≤ k
  · obtain ⟨n, rfl⟩ := Int.eq_ofNat_of_zero_le h
    rw [if_pos h, parse_digits_unit _ _ Nat.toDigits_ne_nil (isDigit_toDigits _) hu, digitsVal_toDigits]
    simp [Rat.mkRat_eq_div]
    grind
  · obtain ⟨n, rfl⟩ : ∃ n : Nat, k = -(n : Int) := ⟨(-k).toNat, by omega⟩
    rw [if_neg h]
    have e : '-' :: Nat.toDigits 10 (-(-(n : Int))).toNat ++ unit.toList = '-' :: (Nat.toDigits 10 (-(-(n : Int))).toNat ++ unit.toList) := rfl
    rw [e, parse_neg_digits_unit _ _ Nat.toDigits_ne_nil (isDigit_toDigits _) hu, digitsVal_toDigits]
    simp [Rat.mkRat_eq_div]
    grind

theorem getLastD_eq {α : Type} (l : List α) (d : α) (n : Nat) (h : l.length = n + 1) : l.getLastD d = l[n] := by
  rw [List.getLastD_eq_getLast?, List.getLast?_eq_getElem?]
  simp [h]

end Proofs.TexDocs
