/-
  Plans and their execution (Model/Routes.lean): `save` is a refusal of reserved names, a
  dispatch and `saveCore`; a route through a buffer is `save` to a binary stream followed by its
  post-processing; the loop of `QRCodeSequence.save`.  `execute` sees a plan only through its key, target,
  post-processing and the completed keyword map (`execute_congr`, `execute_of_planEquiv`): two routes are compared by
  comparing their plans.
-/
import Proofs.Routes
import Proofs.CliLemmas
import Props.C12

namespace Proofs.Routes
open Model Model.Cli Model.Routes Proofs.CliLemmas Proofs.Except

/-- the post-processing of a plan as a function of what was written -/
def runPost (env : Env) : Post → Result → R Result
  | .nothing => pure
  | .decode enc => decodeResult env enc
  | .svgUri enc minimal noCharset => toSvgUri enc minimal noCharset
  | .pngUri => toPngUri

theorem execute_eq (env : Env) (p : Plan) :
    execute env p =
      (openTarget env p.target >>= fun _ => env.ser p.key p.kw >>= fun so =>
        runTarget env p.target so >>= fun w => runPost env p.post (.written w)) := by
  obtain ⟨key, kw, target, post⟩ := p
  unfold execute
  refine bind_congr fun _ => bind_congr fun so => bind_congr fun w => ?_
  cases post with
  | nothing => rfl
  | decode enc => cases w <;> cases enc <;> rfl
  | svgUri enc minimal noCharset => cases w <;> rfl
  | pngUri => cases w <;> rfl

theorem execute_congr (env : Env) (p q : Plan) (hk : p.key = q.key) (ht : p.target = q.target) (hp : p.post = q.post)
    (hc : completeKw p.key p.kw = completeKw q.key q.kw) : execute env p = execute env q := by
  obtain ⟨pk, pkw, pt, pp⟩ := p
  obtain ⟨qk, qkw, qt, qp⟩ := q
  simp only at hk ht hp hc
  subst hk ht hp
  unfold execute Env.ser
  simp only [hc]

theorem execute_of_planEquiv (env : Env) : ∀ (p q : R Plan), planEquiv p q = true → (p >>= execute env) = (q >>= execute env)
  | .error a, .error b, h => by rw [eq_of_beq h]
  | .error _, .ok _, h => by cases h
  | .ok _, .error _, h => by cases h
  | .ok p, .ok q, h => by
    simp only [planEquiv, Bool.and_eq_true, beq_iff_eq] at h
    obtain ⟨⟨⟨hk, ht⟩, hp⟩, hc⟩ := h
    apply execute_congr env p q hk ht hp
    revert hc
    cases completeKw p.key p.kw <;> cases completeKw q.key q.kw <;> simp

theorem refuseNames_free (names : List String) (kw : Config) (h : Free names kw) : refuseNames names kw = .ok () := by
  rw [refuseNames, (free_iff_any names kw).1 h]
  rfl

theorem refuseNames_not_free (names : List String) (kw : Config) (h : ¬ Free names kw) : refuseNames names kw = .error .typeError := by
  rw [free_iff_any, Bool.not_eq_false] at h
  rw [refuseNames, h]
  rfl

/-- the names `QRCode.save` and `writers.save` bind themselves -/
def saveReserved : List String := ["self", "out", "kind", "matrix", "matrix_size"]

theorem savePlan_refused (out : OutArg) (kind : Option Str) (kw : Config) (h : ¬ Free saveReserved kw) :
    savePlan out kind kw = .error .typeError := by
  unfold savePlan
  by_cases h1 : Free ["self", "out", "kind"] kw
  · have h2 : ¬ Free ["matrix", "matrix_size"] kw := fun h2 => h ((free_append _ _ kw).2 ⟨h1, h2⟩)
    rw [refuseNames_free _ _ h1, refuseNames_not_free _ _ h2]
    rfl
  · rw [refuseNames_not_free _ _ h1]
    rfl

/-- the plan of `save` once the reserved names are out of the way: dispatch, then plain or gzip -/
def planOfKey (out : OutArg) (kw : Config) (key : String × Bool) : Plan :=
  if key.2 then
    { key := key.1, kw := cpop kw "compresslevel", target := .gzipOf ((cget kw "compresslevel").getD (.int 9)) out.sink, post := .nothing }
  else { key := key.1, kw := kw, target := .out out.sink, post := .nothing }

def dispatchOf (out : OutArg) (kind : Option Str) : R (String × Bool) :=
  match kind, out with
  | some _, _ => dispatch validKeys [] false kind
  | none, .path n => dispatch validKeys n false none
  | none, .stream _ (some n) => dispatch validKeys n true none
  | none, .stream _ none => throw .typeError

/-- `Props.C12.okIs` is `r = .ok a` as a Boolean, so that the kernel can evaluate a dispatch -/
theorem eq_of_okIs {α : Type} [BEq α] [LawfulBEq α] {r : R α} {a : α} (h : Props.C12.okIs r a = true) : r = .ok a := by
  cases r with
  | error e => cases h
  | ok x => rw [eq_of_beq h]

theorem dispatch_svgz (stem : Str) : dispatchOf (.path (stem ++ '.' :: "svgz".toList)) none = .ok ("svg", true) := by
  -- the dispatch sees a file name only through its extension: evaluate it on `x.svgz`
  have h : afterLastDot (stem ++ '.' :: "svgz".toList) = "svgz".toList := afterLastDot_append stem _ (by decide)
  have h2 : afterLastDot ('x' :: '.' :: "svgz".toList) = "svgz".toList := by decide
  have : dispatch validKeys (stem ++ '.' :: "svgz".toList) false none = dispatch validKeys ('x' :: '.' :: "svgz".toList) false none := by
    simp only [dispatch, dispatchKey, h, h2]
  simp only [dispatchOf]
  rw [this]
  exact eq_of_okIs (by decide +kernel)

theorem dispatch_svg_kind (out : OutArg) : dispatchOf out (some "svg".toList) = .ok ("svg", false) := by
  simp only [dispatchOf]
  exact eq_of_okIs (by decide +kernel)

theorem dispatch_png_kind (out : OutArg) : dispatchOf out (some "png".toList) = .ok ("png", false) := by
  simp only [dispatchOf]
  exact eq_of_okIs (by decide +kernel)

theorem savePlan_free (out : OutArg) (kind : Option Str) (kw : Config) (h : Free saveReserved kw) :
    savePlan out kind kw = (dispatchOf out kind).map (planOfKey out kw) := by
  unfold savePlan
  rw [refuseNames_free _ _ (free_mono h (by simp [saveReserved])), refuseNames_free _ _ (free_mono h (by simp [saveReserved]))]
  rw [map_eq_bind]
  unfold dispatchOf planOfKey
  simp only [apply_ite pure]
  split <;> rfl

theorem writable_bin (env : Env) (so : SerOut) : writable env .bin so = (writableBin env so).map .bytes := by
  cases so <;> rfl

theorem writable_bin_file (env : Env) (so : SerOut) (b : List Nat) (h : writable env .bin so = .ok (.bytes b)) :
    writable env .file so = .ok (.bytes b) := by
  rcases so with x | ⟨t, _ | e⟩
  · exact h
  · cases h
  · exact h

theorem writable_txt_file (env : Env) (so : SerOut) (s : List Char) (h : writable env .txt so = .ok (.chars s)) :
    writable env .file so = (env.codec env.defaultEnc s).map .bytes := by
  rcases so with x | ⟨t, _ | e⟩
  · cases h
  · cases h
    show (env.codec env.defaultEnc s >>= fun b => pure (Written.bytes b)) = _
    cases env.codec env.defaultEnc s <;> rfl
  · obtain ⟨_, _, h⟩ := bind_ok.1 h
    cases h

theorem writable_file_cases (env : Env) (so : SerOut) (b : List Nat) (h : writable env .file so = .ok (.bytes b)) :
    writable env .bin so = .ok (.bytes b) ∨ ∃ s, writable env .txt so = .ok (.chars s) ∧ env.codec env.defaultEnc s = .ok b := by
  rcases so with x | ⟨t, _ | e⟩
  · exact .inl h
  · obtain ⟨x, hx, h⟩ := bind_ok.1 h
    cases h
    exact .inr ⟨t, rfl, hx⟩
  · exact .inl h

/-- `writers.save` once the serialiser is chosen: gzip member of the SVG bytes, or the plain call.  It is
    `execute env (planOfKey out kw key)` written out (`execute_planOfKey`). -/
def saveCore (env : Env) (sink : Sink) (kw : Config) (key : String × Bool) : R Result :=
  if key.2 then do
    env.gzipCheck ((cget kw "compresslevel").getD (.int 9))
    if sink == .txt then throw PyErr.typeError else pure ()
    let so ← env.ser key.1 (cpop kw "compresslevel")
    let b ← writableBin env so
    pure (.written (.bytes (env.gzip ((cget kw "compresslevel").getD (.int 9)) b)))
  else do
    let so ← env.ser key.1 kw
    let w ← writable env sink so
    pure (.written w)

theorem execute_planOfKey (env : Env) (out : OutArg) (kw : Config) (key : String × Bool) :
    execute env (planOfKey out kw key) = saveCore env out.sink kw key := by
  obtain ⟨k, gz⟩ := key
  cases gz
  · simp only [planOfKey, saveCore, execute, openTarget, runTarget, pure_bind, Bool.false_eq_true, if_false]
  · simp only [planOfKey, saveCore, execute, openTarget, runTarget, bind_assoc, pure_bind, if_true]
    cases out.sink == Sink.txt <;> rfl

theorem save_eq (env : Env) (out : OutArg) (kind : Option Str) (kw : Config) :
    save env out kind kw =
      (if Free saveReserved kw then dispatchOf out kind else .error .typeError) >>= saveCore env out.sink kw := by
  unfold save
  split
  next h =>
    rw [savePlan_free _ _ _ h]
    cases dispatchOf out kind with
    | error e => rfl
    | ok key => exact execute_planOfKey env out kw key
  next h =>
    rw [savePlan_refused _ _ _ h]
    rfl

theorem save_free (env : Env) (out : OutArg) (kind : Option Str) (kw : Config) (h : Free saveReserved kw) :
    save env out kind kw = (dispatchOf out kind) >>= saveCore env out.sink kw := by
  rw [save_eq, if_pos h]

theorem save_refused (env : Env) (out : OutArg) (kind : Option Str) (kw : Config) (h : ¬ Free saveReserved kw) :
    save env out kind kw = .error .typeError := by
  rw [save_eq, if_neg h]
  rfl

theorem save_congr_dispatch (env : Env) (out out' : OutArg) (kind kind' : Option Str) (kw : Config)
    (hs : out.sink = out'.sink) (hd : dispatchOf out kind = dispatchOf out' kind') :
    save env out kind kw = save env out' kind' kw := by
  rw [save_eq, save_eq, hd, hs]

theorem saveCore_plain_ok {env : Env} {sink : Sink} {kw : Config} {k : String} {r : Result} :
    saveCore env sink kw (k, false) = .ok r ↔ ∃ so w, env.ser k kw = .ok so ∧ writable env sink so = .ok w ∧ r = .written w := by
  simp only [saveCore, Bool.false_eq_true, if_false, bind_ok]
  exact ⟨fun ⟨so, hs, w, hw, h⟩ => ⟨so, w, hs, hw, by cases h; rfl⟩, fun ⟨so, w, hs, hw, h⟩ => ⟨so, hs, w, hw, by rw [h]; rfl⟩⟩

theorem saveCore_congr (env : Env) (sink : Sink) (k : String) {kw1 kw2 : Config} (h : completeKw k kw1 = completeKw k kw2) :
    saveCore env sink kw1 (k, false) = saveCore env sink kw2 (k, false) := by
  simp only [saveCore, Env.ser, h, Bool.false_eq_true, if_false]

theorem saveCore_bin_ok {env : Env} {kw : Config} {k : String} {b : List Nat} :
    saveCore env .bin kw (k, false) = .ok (.written (.bytes b)) ↔ ∃ so, env.ser k kw = .ok so ∧ writableBin env so = .ok b := by
  simp only [saveCore_plain_ok, writable_bin, map_eq_bind, bind_ok]
  exact ⟨fun ⟨so, _, hs, ⟨x, hx, hw⟩, hr⟩ => ⟨so, hs, by cases hw; cases hr; exact hx⟩,
    fun ⟨so, hs, hb⟩ => ⟨so, _, hs, ⟨b, hb, rfl⟩, rfl⟩⟩

theorem saveCore_gzip_ok {env : Env} {sink : Sink} {kw : Config} {k : String} {r : Result} (hs : (sink == .txt) = false) :
    saveCore env sink kw (k, true) = .ok r ↔
      env.gzipCheck (gzLevel kw) = .ok () ∧ ∃ so b, env.ser k (cpop kw "compresslevel") = .ok so
        ∧ writableBin env so = .ok b ∧ r = .written (.bytes (env.gzip (gzLevel kw) b)) := by
  simp only [saveCore, if_true, hs, Bool.false_eq_true, if_false, bind_ok, gzLevel]
  constructor
  · rintro ⟨⟨⟩, hg, so, hso, b, hb, h⟩
    cases h
    exact ⟨hg, so, b, hso, hb, rfl⟩
  · rintro ⟨hg, so, b, hso, hb, rfl⟩
    exact ⟨(), hg, so, hso, b, hb, rfl⟩

/-- whatever chose the serialiser (`key`; a refusal there is a refusal for every `out`) -/
theorem saveCore_stream_file (env : Env) (kw : Config) (key : R (String × Bool)) :
    (∀ b, key >>= saveCore env .bin kw = .ok (.written (.bytes b)) → key >>= saveCore env .file kw = .ok (.written (.bytes b)))
    ∧ (∀ s, key >>= saveCore env .txt kw = .ok (.written (.chars s)) →
        key >>= saveCore env .file kw = (env.codec env.defaultEnc s).map (fun b => .written (.bytes b)))
    ∧ (∀ b, key >>= saveCore env .file kw = .ok (.written (.bytes b)) →
        key >>= saveCore env .bin kw = .ok (.written (.bytes b))
        ∨ ∃ s, key >>= saveCore env .txt kw = .ok (.written (.chars s)) ∧ env.codec env.defaultEnc s = .ok b) := by
  rcases key with e | ⟨k, gz⟩
  · exact ⟨fun _ h => (nomatch h), fun _ h => (nomatch h), fun _ h => (nomatch h)⟩
  simp only [ok_bind]
  cases gz
  · refine ⟨fun b h => ?_, fun s h => ?_, fun b h => ?_⟩ <;> obtain ⟨so, w, hs, hw, hr⟩ := saveCore_plain_ok.1 h <;> cases hr
    · exact saveCore_plain_ok.2 ⟨so, _, hs, writable_bin_file env so b hw, rfl⟩
    · simp only [saveCore, Bool.false_eq_true, if_false, hs, ok_bind, writable_txt_file env so s hw]
      cases env.codec env.defaultEnc s <;> rfl
    · rcases writable_file_cases env so b hw with hb | ⟨s, ht, hc⟩
      · exact .inl (saveCore_plain_ok.2 ⟨so, _, hs, hb, rfl⟩)
      · exact .inr ⟨s, saveCore_plain_ok.2 ⟨so, _, hs, ht, rfl⟩, hc⟩
  · -- svgz: `gzip.open` writes bytes, whatever `out` is; on a text stream it fails
    refine ⟨fun _ h => h, fun s h => ?_, fun _ h => .inl h⟩
    obtain ⟨_, _, h⟩ := bind_ok.1 h
    obtain ⟨_, h, _⟩ := bind_ok.1 h
    cases h

theorem execute_buffer (env : Env) (key : String) (kw : Config) (post : Post) :
    execute env { key := key, kw := kw, target := .buffer, post := post } = saveCore env .bin kw (key, false) >>= runPost env post := by
  simp only [execute_eq, saveCore, openTarget, runTarget, writable_bin, map_eq_bind, bind_assoc, pure_bind, Bool.false_eq_true, if_false]

theorem seqSaveGo_cons_ok {m : Nat} {out : OutArg} {kind : Option Str} {kw : Config} {n : Nat} {env : Env} {rest : List Env}
    {l : List (OutArg × Result)} :
    seqSaveGo m out kind kw n (env :: rest) = .ok l ↔
      ∃ r more, save env (seqOut out m n) kind kw = .ok r ∧ seqSaveGo m out kind kw (n + 1) rest = .ok more
        ∧ l = (seqOut out m n, r) :: more := by
  simp only [seqSaveGo, bind_ok]
  exact ⟨fun ⟨r, hr, more, hm, h⟩ => ⟨r, more, hr, hm, by cases h; rfl⟩, fun ⟨r, more, hr, hm, h⟩ => ⟨r, hr, more, hm, by rw [h]; rfl⟩⟩

theorem seqSaveGo_length (m : Nat) (out : OutArg) (kind : Option Str) (kw : Config) :
    ∀ (envs : List Env) (n : Nat) (l : List (OutArg × Result)), seqSaveGo m out kind kw n envs = .ok l → l.length = envs.length
  | [], _, l, h => by cases h; rfl
  | env :: rest, n, l, h => by
    obtain ⟨r, more, _, hm, rfl⟩ := seqSaveGo_cons_ok.1 h
    simp [seqSaveGo_length m out kind kw rest (n + 1) more hm]

theorem seqSaveGo_get (m : Nat) (out : OutArg) (kind : Option Str) (kw : Config) :
    ∀ (envs : List Env) (n : Nat) (l : List (OutArg × Result)), seqSaveGo m out kind kw n envs = .ok l →
      ∀ (i : Nat) (env : Env), envs[i]? = some env →
        ∃ r, save env (seqOut out m (n + i)) kind kw = .ok r ∧ l[i]? = some (seqOut out m (n + i), r)
  | [], _, _, _, i, env, hi => by simp at hi
  | e :: rest, n, l, h, i, env, hi => by
    obtain ⟨r, more, hr, hm, rfl⟩ := seqSaveGo_cons_ok.1 h
    cases i with
    | zero =>
      cases hi
      exact ⟨r, hr, rfl⟩
    | succ j =>
      have := seqSaveGo_get m out kind kw rest (n + 1) more hm j env hi
      rwa [Nat.add_right_comm n 1 j] at this

end Proofs.Routes
