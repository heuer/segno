/-
  Proofs.Sizing — the sizing logic of the encoder model against `Spec.Sizing` (C04 / C05): segments carry
  exactly the ISO number of payload bits (`WFs`), so the model's bit length is the specification's count
  segment by segment; `find_version` is a first-fit search in the ISO version order, `boost_error_level`
  ends at the highest level that still holds the content, and `encode` never returns a truncated symbol.
-/
import Spec.Sizing
import Model.Encoder
import Props.C03Tables
import Proofs.Roundtrip
import Proofs.EncodeCore
import Proofs.EncodeStages

namespace Proofs.Sizing
open Model Proofs.Except
open Proofs.Stream (boostLevels)

theorem cci_table_eq : Gen.CHAR_COUNT_INDICATOR_LENGTH = Spec.cciTable := rfl

theorem capacity_antitone :
    Spec.capacityTable.all (fun a => Spec.capacityTable.all (fun b =>
      a.1 != b.1 || a.2.1 == -1 || b.2.1 == -1 || Spec.levelRank a.2.1 > Spec.levelRank b.2.1 || a.2.2 ≥ b.2.2)) = true := by
  decide +kernel

theorem micro_levels :
    Spec.capacityTable.all (fun a => a.1 > 0 || (a.2.1 != 2 && (a.2.1 != 3 || a.1 == 0))) = true := by
  decide +kernel

theorem numBits_length : ∀ data : List Nat, (Modes.numBits data).length = Spec.payloadBits 1 data.length
  | [] => rfl
  | [a] => by simp [Roundtrip.numBits_one, Roundtrip.appendBits_length, Roundtrip.payloadBits_1]
  | [a, b] => by simp [Roundtrip.numBits_two, Roundtrip.appendBits_length, Roundtrip.payloadBits_1]
  | a :: b :: c :: rest => by
    rw [Roundtrip.numBits_cons3, List.length_append, Roundtrip.appendBits_length, numBits_length rest]
    simp only [Roundtrip.payloadBits_1, List.length_cons]
    omega

theorem alnumBits_length : ∀ data : List Nat, (Modes.alnumBits data).length = Spec.payloadBits 2 data.length
  | [] => rfl
  | [a] => by simp [Roundtrip.alnumBits_one, Roundtrip.appendBits_length, Spec.payloadBits]
  | a :: b :: rest => by
    rw [Roundtrip.alnumBits_cons2, List.length_append, Roundtrip.appendBits_length, alnumBits_length rest]
    show _ = Spec.payloadBits 2 (rest.length + 2)
    simp only [Spec.payloadBits, Nat.add_div_right _ (show 0 < 2 by decide), Nat.add_mod_right]
    omega

theorem flatten_map_length {α : Type} (f : α → List Nat) (k : Nat) (hf : ∀ x, (f x).length = k) (l : List α) :
    ((l.map f).flatten).length = k * l.length := by
  induction l with
  | nil => rfl
  | cons a t ih => rw [List.map_cons, List.flatten_cons, List.length_append, hf, ih, List.length_cons, Nat.mul_succ, Nat.add_comm]

theorem pairs_length : ∀ l : List Nat, (pairs l).length = l.length / 2
  | [] => rfl
  | [_] => by simp [pairs]
  | a :: b :: rest => by
    rw [pairs, List.length_cons, pairs_length rest]
    exact (Nat.add_div_right _ (show 0 < 2 by decide)).symm

theorem packBits_length (m : Nat) (hm : m ∈ [1, 2, 4, 8, 13]) (data : List Nat) :
    (Modes.packBits m data).length = Spec.payloadBits m (Spec.charCount m data.length) := by
  simp only [List.mem_cons, List.mem_nil_iff, or_false] at hm
  rcases hm with rfl | rfl | rfl | rfl | rfl
  · exact numBits_length data
  · exact alnumBits_length data
  · exact flatten_map_length _ 8 (fun _ => Roundtrip.appendBits_length _ _) data
  · exact (flatten_map_length _ 13 (fun _ => Roundtrip.appendBits_length _ _) (pairs data)).trans (by rw [pairs_length]; rfl)
  · exact (flatten_map_length _ 13 (fun _ => Roundtrip.appendBits_length _ _) (pairs data)).trans (by rw [pairs_length]; rfl)

theorem makeSegment_wf (data : List Nat) (mode : Option Nat) (enc : String) (s : Segment)
    (hm : mode ∈ [none, some 1, some 2, some 4, some 8, some 13])
    (h : makeSegment data mode enc = .ok s) :
    s.mode ∈ [1, 2, 4, 8, 13] ∧ s.bits.length = Spec.payloadBits s.mode s.charCount := by
  obtain ⟨m, hm, -, rfl⟩ := Modes.makeSegment_ok_cases data mode enc s hm h
  exact ⟨hm, packBits_length m hm data⟩

/-- a known mode and exactly the ISO number of payload bits for the character count (`Props.C04.WF`) -/
def WFs (s : Segment) : Prop :=
  s.mode ∈ [1, 2, 4, 8, 13] ∧ s.bits.length = Spec.payloadBits s.mode s.charCount

theorem payload_add (m a b : Nat) (hm : m ∈ [1, 2, 4, 8, 13])
    (h : a % (if m == Gen.MODE_NUMERIC then 3 else if m == Gen.MODE_ALPHANUMERIC then 2 else 1) = 0) :
    Spec.payloadBits m (a + b) = Spec.payloadBits m a + Spec.payloadBits m b := by
  simp only [List.mem_cons, List.not_mem_nil, or_false] at hm
  rcases hm with rfl | rfl | rfl | rfl | rfl
  · simp [Gen.MODE_NUMERIC] at h
    simp only [Roundtrip.payloadBits_1]
    omega
  · simp [Gen.MODE_NUMERIC, Gen.MODE_ALPHANUMERIC] at h
    simp only [Spec.payloadBits]
    omega
  · simp only [Spec.payloadBits]; omega
  · simp only [Spec.payloadBits]; omega
  · simp only [Spec.payloadBits]; omega

theorem addSegment_wf (segs : List Segment) (s : Segment)
    (h1 : ∀ x ∈ segs, WFs x) (h2 : WFs s) : ∀ x ∈ addSegment segs s, WFs x := by
  intro x hx
  rcases List.eq_nil_or_concat segs with rfl | ⟨init, prev, rfl⟩
  · rw [show addSegment [] s = [s] from rfl, List.mem_singleton] at hx
    subst hx; exact h2
  rw [List.concat_eq_append] at h1 hx
  rcases Modes.addSegment_concat init prev s with ⟨hmode, -, hgrp, h⟩ | h <;> rw [h] at hx <;>
    rcases List.mem_append.1 hx with hx | hx
  · exact h1 x (List.mem_append_left _ hx)
  · rw [List.mem_singleton] at hx; subst hx
    obtain ⟨-, hp2⟩ := h1 prev (by simp)
    refine ⟨h2.1, ?_⟩
    simp only [List.length_append, hp2, h2.2, hmode]
    exact (payload_add s.mode prev.charCount s.charCount h2.1 hgrp).symm
  · exact h1 x hx
  · rw [List.mem_singleton] at hx; subst hx; exact h2

theorem prepareData_wf (parts : List Part) (segs : List Segment)
    (hm : ∀ p ∈ parts, p.mode ∈ [none, some 1, some 2, some 4, some 8, some 13])
    (h : prepareData parts = .ok segs) : ∀ x ∈ segs, WFs x := by
  refine foldlM_ok_inv (fun _ segs => ∀ x ∈ segs, WFs x) parts [] [] (by simp) (fun _ p acc acc' hp hacc h => ?_) h
  obtain ⟨s, hs, h⟩ := bind_ok.1 h
  cases h
  exact addSegment_wf acc s hacc (makeSegment_wf _ _ _ s (hm p hp) hs)

/-! The model adds up overheads over the whole list (lengths of filtered lists), the specification segment by segment:
    `segShare` is one segment's share, and both sides are peeled one segment at a time (`bitLength_cons`, `neededBits_cons`). -/

theorem verRange_eq (v : Int) (h1 : -3 ≤ v) (h2 : v ≤ 40) :
    (if v > 0 then Gen.version_range v else v) = Spec.verClass v := by
  simp only [Gen.version_range, Spec.verClass, Bool.and_eq_true, decide_eq_true_eq]
  repeat' split
  all_goals omega

theorem cciLen_eq (m : Nat) (v : Int) (h1 : -3 ≤ v) (h2 : v ≤ 40) :
    cciLen m (if v > 0 then Gen.version_range v else v) = Spec.cciBits m v := by
  rw [verRange_eq v h1 h2]
  unfold cciLen Spec.cciBits
  rw [cci_table_eq]

theorem capacity_eq (v : Int) (e : Option Nat) : capacity v e = Spec.capacityOf v (lvlKey e) := by
  unfold capacity Spec.capacityOf Model.lookup2 Spec.lookup2
  rw [Props.C03.capacity_table_is_iso]

theorem cciBits_hanzi_micro (v : Int) (h1 : -3 ≤ v) (h0 : v ≤ 0) : Spec.cciBits 13 v = none := by
  have : v = -3 ∨ v = -2 ∨ v = -1 ∨ v = 0 := by omega
  rcases this with rfl | rfl | rfl | rfl <;> decide

theorem sumNat_eq (l : List Nat) : sumNat l = l.sum := List.sum_eq_foldl.symm

def eciP (s : Segment) : Bool := s.mode == Gen.MODE_BYTE && s.encoding != some Gen.DEFAULT_BYTE_ENCODING

/-- what the specification sees of a segment (`Props.C04.info`) -/
def info (eci : Bool) (s : Segment) : Spec.SegInfo :=
  { mode := s.mode, count := s.charCount,
    eci := eci && s.mode == 4 && s.encoding != some "iso-8859-1" }

/-- what `s` adds to the bit length in version `v` apart from its character count indicator -/
def segShare (v : Int) (eci : Bool) (s : Segment) : Nat :=
  Spec.modeBits v + s.bits.length + (if (info eci s).eci then 12 else 0) + (if v > 0 && (info eci s).mode == 13 then 4 else 0)

/-- one summand of `Spec.neededBits` -/
def specPer (v : Int) (s : Spec.SegInfo) : Option Nat := do
    let w ← Spec.cciBits s.mode v
    pure (Spec.modeBits v + w + Spec.payloadBits s.mode s.count + (if s.eci then 12 else 0) + (if s.mode == 13 then 4 else 0))

theorem neededBits_eq (v : Int) (l : List Spec.SegInfo) (sa : Bool) :
    Spec.neededBits v l sa = (l.mapM (specPer v)).map (fun per => per.sum + (if sa then 20 else 0)) := by
  show (l.mapM (specPer v) >>= fun per => pure (per.foldl (· + ·) 0 + (if sa then 20 else 0))) = _
  cases h : l.mapM (specPer v) with
  | none => rfl
  | some per => simp [← List.sum_eq_foldl]

theorem perSeg_eq (v : Int) (eci : Bool) (s : Segment) (hwf : WFs s) (h1 : -3 ≤ v) :
    (Spec.cciBits s.mode v).map (· + segShare v eci s) = specPer v (info eci s) := by
  unfold specPer segShare
  have hm : s.mode = (info eci s).mode := rfl
  have hcnt : s.charCount = (info eci s).count := rfl
  rw [hwf.2, hm, hcnt]
  generalize info eci s = i
  by_cases hh : v ≤ 0 ∧ i.mode = 13
  · have : Spec.cciBits i.mode v = none := by rw [hh.2]; exact cciBits_hanzi_micro v h1 hh.1
    simp [this]
  · cases hc : Spec.cciBits i.mode v with
    | none => simp
    | some w =>
      simp only [Option.map_some, bind, Option.bind, pure]
      congr 1
      have e1 : (if (v > 0 && i.mode == 13) = true then 4 else 0) = (if (i.mode == 13) = true then 4 else 0) := by
        by_cases hm : i.mode = 13
        · have : v > 0 := by omega
          simp [hm, this]
        · simp [hm]
      rw [e1]
      omega

theorem neededBits_cons (v : Int) (i : Spec.SegInfo) (l : List Spec.SegInfo) (sa : Bool) :
    Spec.neededBits v (i :: l) sa = (specPer v i).bind fun p => (Spec.neededBits v l sa).map (p + ·) := by
  rw [neededBits_eq, neededBits_eq, List.mapM_cons]
  cases specPer v i <;> cases l.mapM (specPer v) <;> simp <;> omega

theorem bitLength_cons (a : Segment) (t : List Segment) (v : Int) (eci sa : Bool) :
    bitLengthWithOverhead (a :: t) v eci sa =
      (cciLen a.mode (if v > 0 then Gen.version_range v else v)).bind fun w =>
        (bitLengthWithOverhead t v eci sa).map (w + segShare v eci a + ·) := by
  unfold bitLengthWithOverhead
  dsimp only
  rw [List.mapM_cons]
  cases cciLen a.mode (if v > 0 then Gen.version_range v else v) with
  | none => rfl
  | some w =>
    cases t.mapM (fun s => cciLen s.mode (if v > 0 then Gen.version_range v else v)) with
    | none => rfl
    | some ws =>
      simp only [bind, Option.bind, pure, Option.map_some, Option.some.injEq, sumNat_eq, List.sum_cons, List.map_cons,
        List.length_cons, List.filter_cons, segShare, Spec.modeBits]
      have e1 : (info eci a).eci = (eci && (a.mode == Gen.MODE_BYTE && a.encoding != some Gen.DEFAULT_BYTE_ENCODING)) := by
        simp [info, Gen.MODE_BYTE, Gen.DEFAULT_BYTE_ENCODING, Bool.and_assoc]
      have e2 : ((info eci a).mode == 13) = (a.mode == Gen.MODE_HANZI) := rfl
      rw [e1, e2]
      generalize (a.mode == Gen.MODE_BYTE && a.encoding != some Gen.DEFAULT_BYTE_ENCODING) = b1
      generalize (a.mode == Gen.MODE_HANZI) = b2
      generalize List.filter (fun s => s.mode == Gen.MODE_BYTE && s.encoding != some Gen.DEFAULT_BYTE_ENCODING) t = F
      generalize List.filter (fun s => s.mode == Gen.MODE_HANZI) t = G
      -- the ECI headers and the mode indicators are counted independently of each other: one more header, one more indicator
      have hE : (if eci = true then (if b1 = true then a :: F else F).length else 0)
          = (if eci = true then F.length else 0) + if (eci && b1) = true then 1 else 0 := by
        cases eci <;> cases b1 <;> rfl
      have hM : (if v > 0 then (t.length + 1) * 4 + 4 * (if b2 = true then a :: G else G).length
            else if v > Gen.VERSION_M1 then (t.length + 1) * (v + 3).toNat else 0)
          = (if v > 0 then t.length * 4 + 4 * G.length else if v > Gen.VERSION_M1 then t.length * (v + 3).toNat else 0)
            + (if v > 0 then 4 else (v + 3).toNat) + if (decide (v > 0) && b2) = true then 4 else 0 := by
        by_cases hv : v > 0
        · cases b2 <;> simp [hv] <;> omega
        · unfold Gen.VERSION_M1
          by_cases hv3 : v > -3
          · simp [hv, hv3, Nat.add_mul]
          · simp [hv, hv3]; omega
      rw [hE, hM]
      cases (eci && b1) <;> simp only [if_true, Bool.false_eq_true, if_false] <;> omega

theorem bitLength_eq_needed (segs : List Segment) (v : Int) (eci sa : Bool)
    (hwf : ∀ x ∈ segs, WFs x) (h1 : -3 ≤ v) (h2 : v ≤ 40) :
    bitLengthWithOverhead segs v eci sa = Spec.neededBits v (segs.map (info eci)) sa := by
  induction segs with
  | nil => simp [bitLengthWithOverhead, Spec.neededBits, sumNat, pure, bind]
  | cons a t ih =>
    rw [bitLength_cons, List.map_cons, neededBits_cons, ← perSeg_eq v eci a (hwf a (List.mem_cons_self ..)) h1,
      cciLen_eq a.mode v h1 h2, ih fun x hx => hwf x (List.mem_cons_of_mem _ hx)]
    cases Spec.cciBits a.mode v <;> rfl

/-! `find_version` searches a stretch `intRange lo hi` of the version order with the test `EncodeStages.fitsB`,
    `Spec.expectedVersion` the whole order with admissibility as part of the test: `find_range` relates the searches,
    `fitsB_admissible_qr` / `fitsB_admissible_micro` the tests. -/

/-- how `find_version` ends: the version found, or DataOverflowError -/
def foundOrOverflow : Option Int → R Int
  | some v => .ok v
  | none => .error PyErr.dataOverflow

theorem findVersion_qr_only (segs : List Segment) (error : Option Nat) (eci sa : Bool) :
    findVersion segs error eci (some false) sa = foundOrOverflow ((intRange 1 40).find? (EncodeStages.fitsB segs error eci sa)) := by
  rw [EncodeStages.findVersion_eq, show ((some false : Option Bool) == some true) = false from rfl, Bool.and_false,
    if_neg Bool.false_ne_true, bne_self_eq_false, Bool.and_false]
  rfl

theorem findVersion_no_eci (segs : List Segment) (error : Option Nat) (sa : Bool) (micro : Option Bool) (hmic : micro ≠ some false):
    findVersion segs error false micro sa =
      match segs.mapM (fun s => findMinimumVersionForMode s.mode) with
      | none => throw PyErr.valueError
      | some [] => throw PyErr.valueError
      | some (x :: xs) => foundOrOverflow ((intRange (if error.isSome then -2 else xs.foldl max x) (if micro == some true then 0 else 40)).find?
          (EncodeStages.fitsB segs error false sa)) := by
  have hm : (micro != some false) = true := bne_iff_ne.2 hmic
  rw [EncodeStages.findVersion_eq, Bool.false_and, if_neg Bool.false_ne_true, hm, Bool.and_true]
  unfold EncodeStages.minV1R
  rw [hm]
  cases List.mapM (fun s => findMinimumVersionForMode s.mode) segs with
  | none => rfl
  | some l =>
    cases l with
    | nil => rfl
    | cons x xs => rfl

theorem fits_iff (v l : Int) (segs : List Spec.SegInfo) (sa : Bool) :
    Spec.fits v l segs sa = true ↔
      ∃ c n, Spec.capacityOf v l = some c ∧ Spec.neededBits v segs sa = some n ∧ n ≤ c := by
  unfold Spec.fits
  cases Spec.capacityOf v l <;> cases Spec.neededBits v segs sa <;> simp

/-- the version needs no bounds: a capacity exists for M1 … 40 only -/
theorem fitsAt_iff (segs : List Segment) (v : Int) (eci sa : Bool) (e : Option Nat) (hwf : ∀ x ∈ segs, WFs x) :
    EncodeStages.FitsAt segs v eci sa e ↔ Spec.fits v (lvlKey e) (segs.map (info eci)) sa = true := by
  rw [fits_iff, ← capacity_eq]
  refine exists_congr fun cap => exists_congr fun bl => and_congr_right fun hc => ?_
  obtain ⟨h1, h2, -⟩ := Proofs.Stream.cap_facts hc
  rw [bitLength_eq_needed segs v eci sa hwf h1 h2]

theorem fitsB_eq (segs : List Segment) (error : Option Nat) (eci sa : Bool) (v : Int) (hwf : ∀ x ∈ segs, WFs x) :
    EncodeStages.fitsB segs error eci sa v
      = Spec.fits v (lvlKey (ArgsLemmas.defaultLevel error v)) (segs.map (info eci)) sa :=
  Bool.eq_iff_iff.2 ((EncodeStages.fitsB_iff ..).trans (fitsAt_iff segs v eci sa _ hwf))

theorem lvl_eq (error : Option Nat) (v : Int) (h : v ≠ -3 ∨ error = none) :
    lvlKey (ArgsLemmas.defaultLevel error v) = Spec.sizingLevel error v := by
  unfold Spec.sizingLevel lvlKey ArgsLemmas.defaultLevel Gen.VERSION_M1 Gen.ERROR_LEVEL_L
  cases error with
  | none =>
    by_cases hv : v = -3
    · simp [hv]
    · simp [hv]
  | some l =>
    have hv : v ≠ -3 := by rcases h with h | h; exact h; cases h
    simp [hv]

theorem find?_congr {α : Type} {p q : α → Bool} {l : List α} (h : ∀ x ∈ l, p x = q x) : l.find? p = l.find? q := by
  rw [← List.head?_filter, ← List.head?_filter, List.filter_congr h]

theorem intRange_append (a b c : Int) (h1 : a ≤ b) (h2 : b ≤ c + 1) :
    intRange a c = intRange a (b - 1) ++ intRange b c := by
  unfold intRange
  have : (c + 1 - a).toNat = (b - 1 + 1 - a).toNat + (c + 1 - b).toNat := by omega
  rw [this, List.range_add, List.map_append, List.map_map]
  congr 1
  apply List.map_congr_left
  intro k _
  simp only [Function.comp, Int.ofNat_eq_natCast]; omega

theorem find_range (lo hi : Int) (h1 : -3 ≤ lo) (h2 : hi ≤ 40) (h3 : lo ≤ hi + 1)
    (p q : Int → Bool) (h : ∀ v, -3 ≤ v → v ≤ 40 → (decide (lo ≤ v) && decide (v ≤ hi) && p v) = q v) :
    (intRange lo hi).find? p = Spec.versionOrder.find? q := by
  have hvo : Spec.versionOrder = intRange (-3) 40 := by decide
  -- the order is three stretches; `q` holds nowhere before `lo` and nowhere after `hi`
  have hout : ∀ a b, (∀ v ∈ intRange a b, -3 ≤ v ∧ v ≤ 40 ∧ (v < lo ∨ hi < v)) → (intRange a b).find? q = none :=
    fun a b hv => List.find?_eq_none.2 fun v hm => by
      obtain ⟨a1, a2, a3⟩ := hv v hm
      rw [← h v a1 a2]
      rcases a3 with a3 | a3
      · simp [show ¬ lo ≤ v by omega]
      · simp [show ¬ v ≤ hi by omega]
  rw [hvo, intRange_append (-3) lo 40 h1 (by omega), intRange_append lo (hi + 1) 40 h3 (by omega), Int.add_sub_cancel,
    List.find?_append, List.find?_append,
    hout _ _ (fun v hm => by have := (EncodeStages.mem_intRange _ _ v).1 hm; omega),
    hout (hi + 1) _ (fun v hm => by have := (EncodeStages.mem_intRange _ _ v).1 hm; omega), Option.none_or, Option.or_none]
  apply find?_congr
  intro v hm
  have := (EncodeStages.mem_intRange _ _ v).1 hm
  rw [← h v (by omega) (by omega)]
  simp [this.1, this.2]

theorem findMin_table : ([1, 2, 4, 8, 13] : List Nat).all (fun m =>
    match findMinimumVersionForMode m with
    | some r => [(-3 : Int), -2, -1, 1].contains r &&
        [(-3 : Int), -2, -1, 0].all (fun v => decide (r ≤ v) || (Spec.cciBits m v).isNone)
    | none => false) = true := by decide +kernel

theorem findMin_spec (m : Nat) (hm : m ∈ [1, 2, 4, 8, 13]) : ∃ r, findMinimumVersionForMode m = some r ∧
    r ∈ [(-3 : Int), -2, -1, 1] ∧ ∀ v : Int, -3 ≤ v → v < r → Spec.cciBits m v = none := by
  have := List.all_eq_true.1 findMin_table m hm
  split at this
  · rename_i r hr
    simp only [Bool.and_eq_true, List.contains_eq_mem, List.all_eq_true, Bool.or_eq_true, decide_eq_true_eq,
      Option.isNone_iff_eq_none] at this
    obtain ⟨hr4, hbelow⟩ := this
    refine ⟨r, hr, hr4, fun v h1 h2 => (hbelow v ?_).resolve_left (by omega)⟩
    simp only [List.mem_cons, List.not_mem_nil, or_false] at hr4 ⊢
    omega
  · cases this

theorem foldl_max_mem (xs : List Int) : ∀ x : Int, xs.foldl max x ∈ x :: xs := by
  induction xs with
  | nil => intro x; simp
  | cons a t ih =>
    intro x
    simp only [List.foldl_cons]
    have := ih (max x a)
    rcases List.mem_cons.1 this with h | h
    · rw [h]
      rcases Int.le_total x a with hxa | hxa
      · rw [Int.max_eq_right hxa]; simp
      · rw [Int.max_eq_left hxa]; simp
    · exact List.mem_cons_of_mem _ (List.mem_cons_of_mem _ h)

theorem neededBits_none (v : Int) (eci sa : Bool) (segs : List Segment) (s : Segment) (hs : s ∈ segs)
    (hc : Spec.cciBits s.mode v = none) : Spec.neededBits v (segs.map (info eci)) sa = none := by
  have : specPer v (info eci s) = none := by
    show (Spec.cciBits s.mode v >>= _) = none
    rw [hc]; rfl
  rw [neededBits_eq, (mapM_none_iff _ _).2 ⟨_, List.mem_map_of_mem hs, this⟩]; rfl

theorem fitsB_admissible_qr (segs : List Segment) (error : Option Nat) (eci sa : Bool) (hwf : ∀ x ∈ segs, WFs x)
    (v : Int) (h1 : -3 ≤ v) (h2 : v ≤ 40) :
    (decide ((1 : Int) ≤ v) && decide (v ≤ 40) && EncodeStages.fitsB segs error eci sa v)
      = (Spec.admissible (some false) eci error v && Spec.fits v (Spec.sizingLevel error v) (segs.map (info eci)) sa) := by
  by_cases hv : v < 1
  · have : ¬ (1 : Int) ≤ v := by omega
    simp [Spec.admissible, hv, this]
  · rw [fitsB_eq segs error eci sa v hwf, lvl_eq error v (Or.inl (by omega))]
    have : (1 : Int) ≤ v := by omega
    simp [Spec.admissible, hv, this, h2]

theorem fitsB_admissible_micro (segs : List Segment) (error : Option Nat) (micro : Option Bool) (sa : Bool) (hwf : ∀ x ∈ segs, WFs x)
    (hmic : micro ≠ some false) (lo : Int) (hlo_err : error.isSome → lo = -2)
    (hlo_none : error = none → ∀ v, -3 ≤ v → v < lo →
      Spec.fits v (Spec.sizingLevel error v) (segs.map (info false)) sa = false)
    (v : Int) (h1 : -3 ≤ v) (h2 : v ≤ 40) :
    (decide (lo ≤ v) && decide (v ≤ (if micro == some true then 0 else 40)) && EncodeStages.fitsB segs error false sa v)
      = (Spec.admissible micro false error v && Spec.fits v (Spec.sizingLevel error v) (segs.map (info false)) sa) := by
  -- left: `v` lies in the stretch `find_version` searches and passes its test; right: the test of the specification.  Below
  -- `lo` the right side is false too: with a level `lo` is M2 and M1 is not admissible, without one nothing fits (`hlo_none`)
  by_cases hlov : lo ≤ v
  · have hd : v ≠ -3 ∨ error = none := by
      cases error with
      | none => exact Or.inr rfl
      | some l => have := hlo_err rfl; left; omega
    rw [fitsB_eq segs error false sa v hwf, lvl_eq error v hd]
    generalize Spec.fits v (Spec.sizingLevel error v) (segs.map (info false)) sa = F
    have hadm : (v != -3 || error.isNone) = true := by
      rcases hd with h | h
      · simp [h]
      · simp [h]
    unfold Spec.admissible
    rw [hadm]
    have h0 : v ≤ 0 ↔ v < 1 := by omega
    match micro, hmic with
    | none, _ => by_cases hv : v < 1 <;> simp [hv, hlov, h2]
    | some true, _ => by_cases hv : v < 1 <;> simp [hv, hlov, h0]
    | some false, h => exact absurd rfl h
  · have hl : decide (lo ≤ v) = false := by simp [hlov]
    rw [hl]
    cases error with
    | none =>
      rw [hlo_none rfl v h1 (by omega)]; simp
    | some l =>
      have := hlo_err rfl
      have hv : v = -3 := by omega
      subst hv
      simp [Spec.admissible]

theorem findVersion_is_first_fit (segs : List Segment) (error : Option Nat) (eci : Bool)
    (micro : Option Bool) (sa : Bool)
    (hwf : ∀ x ∈ segs, WFs x) (hne : segs ≠ [])
    (hE : eci = true → micro = some false) :
    findVersion segs error eci micro sa =
      match Spec.expectedVersion micro eci error (segs.map (info eci)) sa with
      | some v => .ok v
      | none => .error PyErr.dataOverflow := by
  show _ = foundOrOverflow _
  unfold Spec.expectedVersion
  by_cases hmic : micro = some false
  · subst hmic
    rw [findVersion_qr_only]
    congr 1
    exact find_range 1 40 (by decide) (by decide) (by decide) _ _ (fitsB_admissible_qr segs error eci sa hwf)
  · have heci : eci = false := by
      cases eci with
      | false => rfl
      | true => exact absurd (hE rfl) hmic
    subst heci
    rw [findVersion_no_eci segs error sa micro hmic]
    cases hr : segs.mapM (fun s : Segment => findMinimumVersionForMode s.mode) with
    | none =>
      obtain ⟨s, hs, hnone⟩ := (mapM_none_iff _ segs).1 hr
      obtain ⟨r, h, -⟩ := findMin_spec s.mode (hwf s hs).1
      rw [h] at hnone; cases hnone
    | some r =>
      have hmap := (mapM_some_iff _ segs r).1 hr
      match r, hmap with
      | [], hmap => exact absurd (List.map_eq_nil_iff.1 hmap) hne
      | x :: xs, hmap =>
        dsimp only
        congr 1
        -- the mode whose minimal version is the maximum
        have hmem : some (xs.foldl max x) ∈ segs.map (fun s => findMinimumVersionForMode s.mode) := by
          rw [hmap]; exact List.mem_map_of_mem (foldl_max_mem xs x)
        obtain ⟨s, hs, hfs⟩ := List.mem_map.1 hmem
        obtain ⟨r, hr, hmem, hbelow⟩ := findMin_spec s.mode (hwf s hs).1
        cases hr.symm.trans hfs
        simp only [List.mem_cons, List.not_mem_nil, or_false] at hmem
        have hlo : -3 ≤ (if error.isSome then (-2 : Int) else xs.foldl max x) ∧
            (if error.isSome then (-2 : Int) else xs.foldl max x) ≤ 1 := by split <;> omega
        have hhi : 0 ≤ (if micro == some true then (0 : Int) else 40) ∧
            (if micro == some true then (0 : Int) else 40) ≤ 40 := by split <;> omega
        refine find_range _ _ hlo.1 hhi.2 (by omega) _ _ (fitsB_admissible_micro segs error micro sa hwf hmic _ ?_ ?_)
        · intro h; simp [h]
        · intro he v h1 hv
          subst he
          simp only [Option.isSome_none, Bool.false_eq_true, if_false] at hv
          unfold Spec.fits
          rw [neededBits_none v false sa segs s hs (hbelow v h1 hv)]
          cases Spec.capacityOf v (Spec.sizingLevel none v) <;> rfl

theorem boost_identity_cases (v : Int) (error : Option Nat) (segs : List Segment) (eci sa : Bool)
    (h : error = none ∨ error = some 2 ∨ segs.length ≠ 1) :
    boostErrorLevel v error segs eci sa = .ok error := by
  unfold boostErrorLevel
  cases error with
  | none => rfl
  | some e =>
    have : (e == Gen.ERROR_LEVEL_H || segs.length != 1) = true := by
      rcases h with h | h | h
      · cases h
      · cases h; rfl
      · simp [h]
    simp only [this, if_true]; rfl

theorem boostGo_spec (v : Int) (d : Nat) : ∀ (ls : List Nat) (cur r : Nat), boostErrorLevel.go v d cur ls = .ok r →
    r ∈ cur :: ls ∧ (r = cur ∨ ∃ cap, capacity v (some r) = some cap ∧ cap ≥ d)
  | [], cur, r, h => by cases h; exact ⟨List.mem_singleton.2 rfl, .inl rfl⟩
  | l :: t, cur, r, h => by
    simp only [boostErrorLevel.go] at h
    split at h
    · cases h
    · rename_i cap hcap
      split at h
      · rename_i hge
        obtain ⟨hmem, hfit⟩ := boostGo_spec v d t l r h
        refine ⟨List.mem_cons_of_mem _ hmem, .inr ?_⟩
        rcases hfit with rfl | h'
        · exact ⟨cap, hcap, hge⟩
        · exact h'
      · cases h; exact ⟨List.mem_cons_self .., .inl rfl⟩

theorem boostLevels_mem (v : Int) : boostLevels v ∈ [[1, 0], [1, 0, 3], [1, 0, 3, 2]] := by
  unfold boostLevels; split
  · split <;> simp
  · simp

theorem boost_eq (v : Int) (e : Nat) (segs : List Segment) (eci sa : Bool) :
    boostErrorLevel v (some e) segs eci sa =
      if (e == 2 || segs.length != 1) = true then .ok (some e) else
      match bitLengthWithOverhead segs v eci sa with
      | some d =>
        if (boostLevels v).contains e then
          (match boostErrorLevel.go v d e ((boostLevels v).drop ((boostLevels v).idxOf e + 1)) with
           | .ok r => .ok (some r)
           | .error x => .error x)
        else .error PyErr.valueError
      | none => .error PyErr.keyError := by
  unfold boostErrorLevel
  dsimp only
  have hL : (if v < 1 then if v < Gen.VERSION_M4 then List.take 2 [Gen.ERROR_LEVEL_L, Gen.ERROR_LEVEL_M, Gen.ERROR_LEVEL_Q, Gen.ERROR_LEVEL_H] else List.take 3 [Gen.ERROR_LEVEL_L, Gen.ERROR_LEVEL_M, Gen.ERROR_LEVEL_Q, Gen.ERROR_LEVEL_H] else [Gen.ERROR_LEVEL_L, Gen.ERROR_LEVEL_M, Gen.ERROR_LEVEL_Q, Gen.ERROR_LEVEL_H]) = boostLevels v := rfl
  rw [hL]
  generalize boostLevels v = L
  by_cases h1 : (e == 2 || segs.length != 1) = true
  · have h1' : (e == Gen.ERROR_LEVEL_H || segs.length != 1) = true := h1
    rw [if_pos h1, if_pos h1']; rfl
  · have h1' : ¬ (e == Gen.ERROR_LEVEL_H || segs.length != 1) = true := h1
    rw [if_neg h1, if_neg h1']
    cases bitLengthWithOverhead segs v eci sa with
    | none => rfl
    | some d =>
      dsimp only
      cases hc : L.contains e
      · simp [bind, Except.bind, Proofs.Except.throw_eq_error]
      · simp [bind, Except.bind, pure, Except.pure]
        cases boostErrorLevel.go v d e (List.drop (List.idxOf e L + 1) L) <;> rfl

theorem boostLevels_ascending (v : Int) :
    (boostLevels v).Pairwise fun (a b : Nat) => Spec.levelRank (a : Int) ≤ Spec.levelRank (b : Int) := by
  unfold boostLevels
  split
  · split <;> decide
  · decide

/-- the levels not below `e` are `e`, the levels `boost_error_level` walks along after `e`, and those the version lacks -/
theorem levels_from : ∀ L ∈ ([[1, 0], [1, 0, 3], [1, 0, 3, 2]] : List (List Nat)), ∀ e ∈ L,
    ([1, 0, 3, 2] : List Nat).filter (fun (l : Nat) => decide (Spec.levelRank (l : Int) ≥ Spec.levelRank (e : Int)))
        = e :: L.drop (L.idxOf e + 1) ++ ([1, 0, 3, 2] : List Nat).drop L.length
      ∧ (∀ x ∈ ([1, 0, 3, 2] : List Nat).drop L.length, x ∉ L) ∧ (e = 2 → L.drop (L.idxOf e + 1) = []) := by
  decide

theorem boost_inv (v : Int) (e : Nat) (segs : List Segment) (eci sa : Bool) (r : Option Nat)
    (h : boostErrorLevel v (some e) segs eci sa = .ok r) :
    r = some e ∨ ∃ d r', bitLengthWithOverhead segs v eci sa = some d ∧ e ∈ boostLevels v ∧
      boostErrorLevel.go v d e ((boostLevels v).drop ((boostLevels v).idxOf e + 1)) = .ok r' ∧ r = some r' := by
  rw [boost_eq] at h
  split at h
  · cases h; exact .inl rfl
  · split at h
    · rename_i d hd
      split at h
      · rename_i hc
        split at h
        · rename_i r' hg
          cases h; exact .inr ⟨d, r', hd, by simpa using hc, hg, rfl⟩
        · cases h
      · cases h
    · cases h

theorem boost_never_below (v : Int) (e : Nat) (segs : List Segment) (eci sa : Bool) (r : Option Nat)
    (h : boostErrorLevel v (some e) segs eci sa = .ok r) :
    ∃ e', r = some e' ∧ Spec.levelRank (e' : Int) ≥ Spec.levelRank (e : Int) := by
  rcases boost_inv v e segs eci sa r h with rfl | ⟨d, r', -, he, hg, rfl⟩
  · exact ⟨e, rfl, Nat.le_refl _⟩
  · have hmem : r' ∈ ([1, 0, 3, 2] : List Nat).filter _ :=
      (levels_from _ (boostLevels_mem v) e he).1 ▸ List.mem_append_left _ (boostGo_spec v d _ e r' hg).1
    exact ⟨r', rfl, of_decide_eq_true (List.mem_filter.1 hmem).2⟩

/-- a boosted level is the request, or a level that holds the content (any request, any number of segments) -/
theorem boost_result (v : Int) (e r : Option Nat) (segs : List Segment) (eci sa : Bool)
    (h : boostErrorLevel v e segs eci sa = .ok r) :
    r = e ∨ EncodeStages.FitsAt segs v eci sa r := by
  cases e with
  | none => rw [boost_identity_cases v none segs eci sa (.inl rfl)] at h; cases h; exact .inl rfl
  | some e =>
    rcases boost_inv v e segs eci sa r h with rfl | ⟨d, r', hd, -, hg, rfl⟩
    · exact .inl rfl
    · rcases (boostGo_spec v d _ e r' hg).2 with rfl | ⟨c, hc, hge⟩
      · exact .inl rfl
      · exact .inr ⟨c, d, hc, hd, hge⟩

theorem boost_step_fits (v : Int) (e r : Option Nat) (segs : List Segment) (eci sa boost : Bool)
    (h : (if boost then boostErrorLevel v e segs eci sa else pure e) = .ok r)
    (hfit : EncodeStages.FitsAt segs v eci sa e) : EncodeStages.FitsAt segs v eci sa r := by
  cases boost with
  | false => cases h; exact hfit
  | true =>
    rcases boost_result v e r segs eci sa h with rfl | hr
    · exact hfit
    · exact hr

theorem getLast?_cons_getD {α : Type} (a c : α) (xs : List α) : ((a :: xs).getLast?).getD c = (xs.getLast?).getD a := by
  cases xs with
  | nil => rfl
  | cons b t => rw [List.getLast?_cons_cons]; simp [List.getLast?_cons]

theorem filter_and {α : Type} (p q : α → Bool) (l : List α) :
    l.filter (fun a => p a && q a) = (l.filter p).filter q := by
  rw [List.filter_filter]; congr; funext a; exact Bool.and_comm ..

/-- along levels whose capacities are defined and do not grow, the walk ends at the last level that holds the content -/
theorem boostGo_last (v : Int) (d : Nat) (p : Nat → Bool)
    (hp : ∀ l c, capacity v (some l) = some c → (p l = true ↔ d ≤ c)) :
    ∀ (ls : List Nat) (cur : Nat), (∀ l ∈ ls, (capacity v (some l)).isSome = true) →
      ls.Pairwise (fun a b => ∀ ca cb, capacity v (some a) = some ca → capacity v (some b) = some cb → cb ≤ ca) →
      boostErrorLevel.go v d cur ls = .ok (((ls.filter p).getLast?).getD cur)
  | [], cur, _, _ => rfl
  | l :: t, cur, hdef, hanti => by
    obtain ⟨c, hc⟩ := Option.isSome_iff_exists.1 (hdef l (List.mem_cons_self ..))
    have hdef' := fun x hx => hdef x (List.mem_cons_of_mem _ hx)
    obtain ⟨hl, hanti'⟩ := List.pairwise_cons.1 hanti
    simp only [boostErrorLevel.go, hc, ge_iff_le]
    by_cases hfit : d ≤ c
    · rw [if_pos hfit, boostGo_last v d p hp t l hdef' hanti', List.filter_cons_of_pos ((hp l c hc).2 hfit),
        getLast?_cons_getD]
    · -- no later level holds the content either
      have hnone : t.filter p = [] := List.filter_eq_nil_iff.2 fun x hx hpx => by
        obtain ⟨cx, hcx⟩ := Option.isSome_iff_exists.1 (hdef' x hx)
        exact hfit (Nat.le_trans ((hp x cx hcx).1 hpx) (hl x hx c cx hc hcx))
      rw [if_neg hfit, List.filter_cons_of_neg (by rw [hp l c hc]; exact hfit), hnone]; rfl

theorem capacityOf_mem (v l : Int) (c : Nat) (h : Spec.capacityOf v l = some c) : (v, l, c) ∈ Spec.capacityTable :=
  Proofs.Stream.find_key_mem _ v l c h

theorem capacityOf_isSome_iff (v : Int) (l : Nat) :
    (Spec.capacityOf v l).isSome = true ↔ (-2 ≤ v ∧ v ≤ 40) ∧ l ∈ boostLevels v := by
  rw [show Spec.capacityOf v l = capacity v (some l) from (capacity_eq v (some l)).symm, Proofs.Stream.capacity_isSome_iff]
  constructor
  · rintro (⟨-, h⟩ | ⟨hv, n, hn, h⟩)
    · cases h
    · cases h; exact ⟨hv, hn⟩
  · exact fun ⟨hv, hl⟩ => .inr ⟨hv, l, hl, rfl⟩

theorem capacityOf_antitone (v : Int) (a b ca cb : Nat) (ha : Spec.capacityOf v a = some ca)
    (hb : Spec.capacityOf v b = some cb) (hr : Spec.levelRank a ≤ Spec.levelRank b) : cb ≤ ca := by
  have := List.all_eq_true.1 (List.all_eq_true.1 capacity_antitone _ (capacityOf_mem _ _ _ ha)) _ (capacityOf_mem _ _ _ hb)
  simp only [Bool.or_eq_true, bne_iff_ne, ne_eq, not_true_eq_false, beq_iff_eq, decide_eq_true_eq, false_or] at this
  omega

/-- for one segment the specification's level is the last of the levels not below `e` that hold the content, else `e` -/
theorem expectedLevel_single (v : Int) (req : Option Nat) (e : Nat) (i : Spec.SegInfo) (sa : Bool)
    (hb : Spec.sizingLevel req v = (e : Int)) :
    Spec.expectedLevel v req true [i] sa =
      ((((([1, 0, 3, 2] : List Nat).filter fun (l : Nat) =>
        decide (Spec.levelRank (l : Int) ≥ Spec.levelRank (e : Int)) && Spec.fits v (l : Int) [i] sa).getLast?).getD e : Nat) : Int) := by
  have hl : Spec.levelsAscending = ([1, 0, 3, 2] : List Nat).map Nat.cast := rfl
  have he : ((e : Int) == -1) = false := by simp
  simp only [Spec.expectedLevel, hb, he, Bool.not_true, List.length_singleton, bne_self_eq_false,
    Bool.or_self, Bool.false_eq_true, if_false]
  rw [hl, List.filter_map, List.getLast?_map]
  simp only [Function.comp_def]
  generalize (List.filter _ ([1, 0, 3, 2] : List Nat)).getLast? = o
  cases o <;> rfl

/-- single-segment content that fits `v` at level `e` is boosted to the highest level of `v`, not below `e`, that
    still holds it; the version and the level need no bounds, a capacity exists for the levels of `v` only -/
theorem boost_highest (v : Int) (e : Nat) (s : Segment) (eci sa : Bool) (hwf : WFs s)
    (hfit : Spec.fits v (e : Int) [info eci s] sa = true) :
    boostErrorLevel v (some e) [s] eci sa
      = .ok (some (((([1, 0, 3, 2] : List Nat).filter fun (l : Nat) =>
          decide (Spec.levelRank (l : Int) ≥ Spec.levelRank (e : Int)) && Spec.fits v (l : Int) [info eci s] sa).getLast?).getD e)) := by
  obtain ⟨c, n, hc, hn, -⟩ := (fits_iff ..).1 hfit
  obtain ⟨⟨hv2, h2⟩, heL⟩ := (capacityOf_isSome_iff v e).1 (by rw [hc]; rfl)
  have hb : bitLengthWithOverhead [s] v eci sa = some n := by
    rw [bitLength_eq_needed [s] v eci sa (by intro x hx; rw [List.mem_singleton.1 hx]; exact hwf) (by omega) h2]
    exact hn
  -- `Spec.fits` is the test of the walk
  have hp : ∀ l c, capacity v (some l) = some c → (Spec.fits v (l : Int) [info eci s] sa = true ↔ n ≤ c) := by
    intro l c hcl
    rw [capacity_eq] at hcl
    rw [fits_iff, hn]
    change Spec.capacityOf v (l : Int) = some c at hcl
    simp [hcl]
  have hdef : ∀ l ∈ boostLevels v, (capacity v (some l)).isSome = true := fun l hl => by
    rw [capacity_eq]; exact (capacityOf_isSome_iff v l).2 ⟨⟨hv2, h2⟩, hl⟩
  have hanti : ((boostLevels v).drop ((boostLevels v).idxOf e + 1)).Pairwise fun a b =>
      ∀ ca cb, capacity v (some a) = some ca → capacity v (some b) = some cb → cb ≤ ca :=
    ((boostLevels_ascending v).sublist (List.drop_sublist _ _)).imp fun hr ca cb ha hb' => by
      rw [capacity_eq] at ha hb'
      exact capacityOf_antitone v _ _ ca cb ha hb' hr
  have hgo := boostGo_last v n _ hp _ e (fun l hl => hdef l (List.mem_of_mem_drop hl)) hanti
  obtain ⟨hfrom, hlack, hH⟩ := levels_from _ (boostLevels_mem v) e heL
  -- the specification's level: the levels that `v` lacks hold nothing
  have hnone : (([1, 0, 3, 2] : List Nat).drop (boostLevels v).length).filter
      (fun (l : Nat) => Spec.fits v (l : Int) [info eci s] sa) = [] :=
    List.filter_eq_nil_iff.2 fun x hx hfx => by
      obtain ⟨c', -, hc', -⟩ := (fits_iff ..).1 hfx
      exact hlack x hx ((capacityOf_isSome_iff v x).1 (by rw [hc']; rfl)).2
  rw [filter_and, hfrom, List.filter_append, hnone, List.append_nil,
    List.filter_cons_of_pos (p := fun (l : Nat) => Spec.fits v (l : Int) [info eci s] sa) hfit, getLast?_cons_getD]
  -- the model's: from H there is nowhere to go
  rw [boost_eq, hb]
  by_cases h2' : e = 2
  · rw [hH h2']; subst h2'; rfl
  · have : (e == 2 || [s].length != 1) = false := by simp [h2']
    simp only [this, Bool.false_eq_true, if_false, List.contains_eq_mem, heL, decide_true, if_true, hgo]

set_option linter.unusedVariables false in
theorem boost_is_highest_fitting (v : Int) (e : Nat) (s : Segment) (eci sa : Bool)
    (hwf : WFs s) (h1 : -3 ≤ v) (h2 : v ≤ 40) (he : e ∈ [0, 1, 2, 3])
    (hfit : Spec.fits v (e : Int) [info eci s] sa = true) :
    boostErrorLevel v (some e) [s] eci sa
      = .ok (some (Spec.expectedLevel v (some e) true [info eci s] sa).toNat) := by
  obtain ⟨c, -, hc, -⟩ := (fits_iff ..).1 hfit
  have hv := ((capacityOf_isSome_iff v e).1 (by rw [hc]; rfl)).1.1
  have hs : Spec.sizingLevel (some e) v = (e : Int) := by
    simp only [Spec.sizingLevel, show (v == -3) = false by simp; omega, Bool.false_eq_true, if_false]
  rw [boost_highest v e s eci sa hwf hfit, expectedLevel_single v (some e) e _ sa hs, Int.toNat_natCast]

theorem encode_version (parts : List Part) (error : Option Nat) (version : Option Int)
    (mode : Option Nat) (mask : Option Nat) (eci : Bool) (micro : Option Bool) (boost : Bool)
    (eciNumber : String → Option Nat) (c : Code)
    (h : encode parts error version mode mask eci micro boost eciNumber = .ok c) :
    ∃ segs guessed, prepareData parts = .ok segs ∧
      findVersion segs error eci (if eci && micro.isNone then some false else micro) = .ok guessed ∧
      ((version = none ∧ c.version = guessed) ∨ (version = some c.version ∧ guessed ≤ c.version)) := by
  obtain ⟨g, hf, hv⟩ := (EncodeStages.encode_accepted h).found
  exact ⟨_, g, (EncodeStages.encode_accepted h).prep, hf, (EncodeStages.pickVersion_ok_iff ..).1 hv⟩

theorem encode_version_indep (parts : List Part) (error : Option Nat) (version : Option Int)
    (mode : Option Nat) (mask1 mask2 : Option Nat) (eci : Bool) (micro : Option Bool) (boost1 boost2 : Bool)
    (eciNumber1 eciNumber2 : String → Option Nat) (c1 c2 : Code)
    (h1 : encode parts error version mode mask1 eci micro boost1 eciNumber1 = .ok c1)
    (h2 : encode parts error version mode mask2 eci micro boost2 eciNumber2 = .ok c2) :
    c1.version = c2.version := by
  obtain ⟨segs1, g1, hp1, hf1, hv1⟩ := encode_version _ _ _ _ _ _ _ _ _ _ h1
  obtain ⟨segs2, g2, hp2, hf2, hv2⟩ := encode_version _ _ _ _ _ _ _ _ _ _ h2
  cases hp1.symm.trans hp2
  cases hf1.symm.trans hf2
  rcases hv1 with ⟨a, b⟩ | ⟨a, -⟩ <;> rcases hv2 with ⟨a', b'⟩ | ⟨a', -⟩
  · rw [b, b']
  · cases a.symm.trans a'
  · cases a.symm.trans a'
  · exact Option.some.inj (a.symm.trans a')

theorem encode_requested_version (parts : List Part) (error : Option Nat) (v : Int)
    (mode : Option Nat) (mask : Option Nat) (eci : Bool) (micro : Option Bool) (boost : Bool)
    (eciNumber : String → Option Nat) (c : Code)
    (h : encode parts error (some v) mode mask eci micro boost eciNumber = .ok c) :
    c.version = v := by
  obtain ⟨_, _, -, -, hv⟩ := encode_version _ _ _ _ _ _ _ _ _ _ h
  rcases hv with ⟨h0, -⟩ | ⟨h0, -⟩
  · cases h0
  · exact (Option.some.inj h0).symm

theorem encode_never_truncates (parts : List Part) (error : Option Nat) (version : Option Int)
    (mode : Option Nat) (mask : Option Nat) (eci : Bool) (micro : Option Bool) (boost : Bool)
    (eciNumber : String → Option Nat) (c : Code)
    (h : encode parts error version mode mask eci micro boost eciNumber = .ok c) :
    ∃ need cap, bitLengthWithOverhead c.segments c.version eci false = some need
      ∧ capacity c.version c.error = some cap ∧ need ≤ cap := by
  have a := EncodeStages.encode_accepted h
  -- the content fits at the level the encoder starts from, and the boost step keeps it so
  obtain ⟨cap, bl, hc, hbl, hle⟩ := boost_step_fits _ _ c.error _ eci false boost a.boost_eq a.fits
  exact ⟨bl, cap, hbl, hc, hle⟩

theorem version_boost_invariant (parts : List Part) (error : Option Nat) (version : Option Int)
    (mode : Option Nat) (mask : Option Nat) (eci : Bool) (micro : Option Bool)
    (eciNumber : String → Option Nat) (c1 c2 : Code)
    (hb : encode parts error version mode mask eci micro true eciNumber = .ok c1)
    (hn : encode parts error version mode mask eci micro false eciNumber = .ok c2) :
    c1.version = c2.version :=
  encode_version_indep _ _ _ _ _ _ _ _ _ _ _ _ c1 c2 hb hn

theorem noboost_exact (parts : List Part) (error : Option Nat) (version : Option Int)
    (mode : Option Nat) (mask : Option Nat) (eci : Bool) (micro : Option Bool)
    (eciNumber : String → Option Nat) (c : Code)
    (h : encode parts error version mode mask eci micro false eciNumber = .ok c) :
    c.error = (if error.isNone && c.version != -3 then some 1 else error) :=
  (Except.ok.inj (EncodeStages.encode_accepted h).boost_eq).symm

end Proofs.Sizing
