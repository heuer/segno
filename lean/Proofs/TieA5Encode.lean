/-
  `Gen.Funcs5._encode`: the translator duplicates the rest of the function into the branches of every `if` (`if not is_micro`,
  `if boost_error`, `if sa_mode`), so the generated term has eight copies of the pipeline.  `encode_factor` folds them back into
  one pipeline of named stages (`boostPy`, `headerPy`, `segmentsPy`, `capacityPy`, `finishPy`, `make_final_message`, `matrixPy`),
  which `Props/TieA5.lean` rewrites one by one with the tie theorems of the single functions.
-/
import Gen.Funcs5


namespace Proofs.TieA5
open Gen.Py Gen.Funcs Gen.Funcs2 Gen.Funcs3 Gen.Funcs4

/-- one item of `segments` as the translation reads it: mode, encoding, char_count, bits, the ECI assignment number -/
abbrev Item := Int × Option String × Int × List Int × M Int
/-- `Code(matrix, version, error, mask, segments)` without the object `segments` -/
abbrev Res := List (List Int) × Int × Option Int × Int

/-- `if boost_error: error = boost_error_level(version, error, segments, eci, is_sa=sa_mode)` -/
def boostPy (boost : Bool) (version : Int) (error : Option Int) (nSeg nEci : Int) (modes : List Int) (bitLength : Int) (eci isSa : Bool) :
    M (Option Int) :=
  if boost then boost_error_level version error nSeg nEci modes bitLength eci isSa else .ok error

/-- the Structured Append header: `for i in sa_info[:3]: buff.append_bits(i, 4)`, `buff.append_bits(sa_info.parity, 8)` -/
def headerPy (sa : Option (Int × Int × Int × Int)) (buff : List Int) : List Int :=
  match sa with
  | none => buff
  | some t => ((Gen.Py.slice [t.1, t.2.1, t.2.2.1, t.2.2.2] none (some (3 : Int))).foldl
      (fun (acc : List Int) (i : Int) => acc ++ Gen.Py.appendBits i (4 : Int)) buff) ++ Gen.Py.appendBits t.2.2.2 (8 : Int)

/-- `for segment in segments: write_segment(buff, segment, ver, ver_range, eci)` -/
def segmentsPy (items : List Item) (ver : Option Int) (vr : Int) (eci : Bool) (buff : List Int) : M (List Int) :=
  Gen.Py.foldlM items buff (fun (acc : List Int) (s : Item) => write_segment acc s.1 s.2.1 s.2.2.1 s.2.2.2.1 ver vr eci s.2.2.2.2)

/-- `consts.SYMBOL_CAPACITY[version][error]` -/
def capacityPy (version : Int) (error : Option Int) : M Int :=
  Gen.Py.bind (Gen.Py.lookup T_consts_SYMBOL_CAPACITY version) (fun t => Gen.Py.lookup t error)

/-- terminator, padding bits, pad codewords (`ver` as `_encode` passes it) -/
def finishPy (buff : List Int) (version : Int) (ver : Option Int) (cap : Int) : M (List Int) :=
  Gen.Py.bind (write_terminator buff cap ver (Int.ofNat buff.length)) (fun b1 =>
    let b2 := write_padding_bits b1 version (Int.ofNat b1.length)
    write_pad_codewords b2 version cap (Int.ofNat b2.length))

/-- from `width = calc_matrix_size(version)` to `return Code(…)` -/
def matrixPy (version : Int) (error : Option Int) (mask : Option Int) (final : List Int) : M Res :=
  let width := calc_matrix_size version
  Gen.Py.bind (make_matrix width width true true) (fun t11 =>
  Gen.Py.bind (add_finder_patterns t11 width width) (fun t12 =>
  Gen.Py.bind (add_alignment_patterns t12 width width) (fun t13 =>
  Gen.Py.bind (add_codewords t13 final version) (fun t14 =>
  Gen.Py.bind (make_matrix width width true true) (fun t15 =>
  Gen.Py.bind (find_and_apply_best_mask t14 width width mask t15) (fun t16 =>
  Gen.Py.bind ((match t16.2.2 with | some x => Except.ok x | none => Except.error PyExc.typeError) : M (List (List Int))) (fun t17 =>
  Gen.Py.bind (add_format_info t17 version error t16.2.1) (fun t18 =>
  Gen.Py.bind (add_version_info t18 version) (fun t19 =>
  Except.ok (t19, version, error, t16.2.1))))))))))

/-- everything after the Structured Append header -/
def tailPy (items : List Item) (ver : Option Int) (vr : Int) (eci : Bool) (version : Int) (mask : Option Int) (error : Option Int)
    (buff : List Int) : M Res :=
  Gen.Py.bind (segmentsPy items ver vr eci buff) (fun b =>
  Gen.Py.bind (capacityPy version error) (fun cap =>
  Gen.Py.bind (finishPy b version ver cap) (fun s =>
  Gen.Py.bind (make_final_message version error s) (fun final =>
  matrixPy version error mask final))))

/-- `ver` / `ver_range`: the version for a Micro QR Code, `None` / `version_range(version)` for a QR Code -/
def rangePy (version : Int) : M (Option Int × Int) :=
  if version < 1 then .ok (some version, version) else Gen.Py.bind (version_range version) (fun r => .ok (none, r))

theorem encode_factor (nSeg nEci : Int) (modes : List Int) (bitLength : Int) (items : List Item) (error : Option Int) (version : Int)
    (mask : Option Int) (eci boost : Bool) (sa : Option (Int × Int × Int × Int)) :
    Gen.Funcs5._encode nSeg nEci modes bitLength items error version mask eci boost sa =
      Gen.Py.bind (rangePy version) (fun vr =>
      Gen.Py.bind (boostPy boost version error nSeg nEci modes bitLength eci (!sa.isNone)) (fun error' =>
      tailPy items vr.1 vr.2 eci version mask error' (headerPy sa []))) := by
  unfold Gen.Funcs5._encode rangePy boostPy tailPy matrixPy finishPy capacityPy segmentsPy headerPy
  by_cases hv : version < 1 <;> cases boost <;> cases sa <;>
    simp [hv, Gen.Py.bind_assoc] <;> rfl

end Proofs.TieA5
