/-
  The vector document models (`write_svg` through `colorful`, `write_eps`, `write_pdf`, `write_tex`) on a symbol-shaped matrix and
  arguments of the documented types: a document or ValueError, ValueError exactly for what the documentation names — never
  KeyError (colour map), IndexError (alignment table) or LookupError (StopIteration of the EPS line iterator).
-/
import Proofs.C14SerColour
import Proofs.C14SerCover
import Proofs.RasterDocsPpm


namespace Proofs.C14Ser.Vec
open Model Model.Svg Model.VectorDocs Proofs.Colormap

/-- the left side is the text the four vector writers begin with (`check_valid_scale(scale); check_valid_border(border)`), `k` the rest -/
theorem checks_then {α : Type} (s : Scale) (b : Option Int) (k : R α) :
    (do
      match s with
      | .int i => if i ≤ 0 then throw PyErr.valueError
      | .float _ pos _ => if !pos then throw PyErr.valueError
      match b with
      | some i => if i < 0 then throw PyErr.valueError
      | none => pure ()
      k) = if scaleBad s = true ∨ borderBad b = true then .error .valueError else k := by
  cases s with
  | int i =>
    cases b with
    | none => by_cases hi : i ≤ 0 <;> simp [scaleBad, borderBad, hi, bind, Except.bind, Proofs.Except.throw_eq_error]
    | some j =>
      by_cases hi : i ≤ 0 <;> by_cases hj : j < 0 <;>
        simp [scaleBad, borderBad, hi, hj, bind, Except.bind, Proofs.Except.throw_eq_error]
  | float t pos one =>
    cases pos <;> cases b with
    | none => simp [scaleBad, borderBad, bind, Except.bind, Proofs.Except.throw_eq_error]
    | some j => by_cases hj : j < 0 <;> simp [scaleBad, borderBad, hj, bind, Except.bind, Proofs.Except.throw_eq_error]

theorem not_isNone_arg (c : ColorArg) : ¬ VColor.isNone (.arg c) = true ↔ c ≠ .none := by
  cases c <;> simp [VColor.isNone]

theorem vlinesGo_some {α κ : Type} [DecidableEq κ] (key : α → κ) : ∀ (rows : List (List α)) (j : Int),
    (∀ r ∈ rows, r ≠ []) → ∃ l, vlinesGo key j rows = some l := by
  intro rows
  induction rows with
  | nil => intro j _; exact ⟨[], rfl⟩
  | cons row rest ih =>
    intro j hne
    obtain ⟨more, hmore⟩ := ih (j + 2) (fun r hr => hne r (List.mem_cons_of_mem _ hr))
    cases row with
    | nil => exact absurd rfl (hne [] List.mem_cons_self)
    | cons c cs =>
      simp only [vlinesGo, vrowRuns, hmore]
      exact ⟨_, rfl⟩

/-- `[colormap[mt] for mt in row]` -/
def cmRow (cm : List (Nat × ColorArg)) (row : List Nat) : R (List ColorArg) :=
  row.mapM (fun t => match cmGet cm t with | some c => pure c | none => throw PyErr.keyError)

theorem colorfulLines_eq (M : List (List Nat)) (w h b : Nat) (cm : List (Nat × ColorArg)) :
    colorfulLines M w h b cm = (do
      let rows ← matrixIterVerbose M w h (.int 1) (some (.int b))
      let crows ← rows.mapM (cmRow cm)
      match verboseLines pyKey crows with
      | some l => pure l
      | none => throw .valueError) := rfl

theorem colorfulLines_ok (M : List (List Nat)) (w : Nat) (hs : SymbolShaped M w w) (dark light : ColorArg) (to : TypeOpts ColorArg) (b : Nat) :
    ∃ l, colorfulLines M w w b (makeColormap w w dark light to) = .ok l := by
  have hw := (Proofs.C14Ser.symbol_pos hs).1
  have a : Proofs.RasterDocs.Admitted w w (.int 1) (some (.int (b : Int))) b :=
    ⟨rfl, by simp [checkValidBorder, Num.isFractional, Num.isNegative]; rfl, by simp [borderForRange, pure, Except.pure]⟩
  obtain ⟨rows, hrows, hcov⟩ := iterVerbose_covered M w hs.size _ _ b a dark light to
  have hlen := (Proofs.RasterDocs.matrixIterVerbose_shape a M rows hrows).2
  -- every type of a row has a colour, and the coloured row is as long as the row: not empty
  obtain ⟨crows, hcrows, hne⟩ := Proofs.Except.mapM_all (cmRow (makeColormap w w dark light to)) (· ≠ []) rows fun r hr => by
    obtain ⟨ys, h1, _⟩ := Proofs.Except.mapM_all (fun t => match cmGet (makeColormap w w dark light to) t with
      | some c => (pure c : R ColorArg) | none => throw PyErr.keyError) (fun _ => True) r fun t ht => by
        obtain ⟨c, hc⟩ := Option.isSome_iff_exists.1 (hcov r hr t ht)
        exact ⟨c, by simp only [hc]; rfl, trivial⟩
    refine ⟨ys, h1, fun hnil => ?_⟩
    have := hlen r hr
    rw [← (Proofs.Except.mapM_ok _ r ys h1).1, hnil] at this
    simp [Num.toInt] at this
    omega
  obtain ⟨l, hl⟩ := vlinesGo_some pyKey crows (-1) hne
  rw [colorfulLines_eq]
  simp only [hrows, hcrows, bind, Except.bind, verboseLines, hl]
  exact ⟨l, rfl⟩

def pathElem (allowCss3 : Bool) (p : String) (e : Entry ColorArg) : R (ColorArg × String) := do
    let clr ← match e.obj with
      | .none => pure none
      | c => do let wc ← toWebColor allowCss3 c; pure (some wc)
    pure (e.obj, pathHead p clr ++ pathD e.coords ++ "\"/>")

theorem pathElem_outcome (css3 : Bool) (p : String) (e : Entry ColorArg) :
    ErrIff (pathElem css3 p e) (e.obj ≠ .none ∧ malformed e.obj = true) := by
  unfold pathElem
  cases he : e.obj with
  | none => exact (ErrIff.ok _).congr (by simp)
  | _ => exact ((toWebColor_clean css3 _ (by simp)).andThen fun _ _ => ⟨_, rfl⟩).congr (by simp)

theorem pathElems_outcome (css3 : Bool) (p : String) (d : List (Entry ColorArg)) :
    ErrIff (pathElems css3 p d) (∃ c ∈ d.map (·.obj), c ≠ .none ∧ malformed c = true) :=
  (ErrIff.mapM (f := pathElem css3 p) d fun e _ => pathElem_outcome css3 p e).congr
    ⟨fun ⟨e, he, h⟩ => ⟨e.obj, List.mem_map.2 ⟨e, he, rfl⟩, h⟩,
     fun ⟨c, hc, h⟩ => by obtain ⟨e, he, rfl⟩ := List.mem_map.1 hc; exact ⟨e, he, h⟩⟩

/-- the dict `coordinates` when the paths are written (`svgPainted` lists its keys) -/
def svgCoords (M : List (List Nat)) (w h : Nat) (cm : List (Nat × ColorArg)) (drawTransparent : Bool) (b : Nat) : List (Entry ColorArg) :=
  let qz := (cmGet cm Gen.TYPE_QUIET_ZONE).getD .none
  let multi := Svg.isMulticolor cm
  let needBg := !multi && qz != .none
  let lines := if multi then (match Svg.colorfulLines M w h b cm with | .ok l => l | .error _ => [])
    else Svg.plainLines M b ((cmGet cm Gen.TYPE_DATA_DARK).getD .none)
  let coords := Svg.accumulate Svg.pyKey lines
  let coords := if needBg then Svg.dictSet Svg.pyKey coords qz [(0, 0, ((w + 2 * b : Nat) : Int))] else coords
  let coords := if !drawTransparent then Svg.dictDel Svg.pyKey coords .none else coords
  coords

theorem svgPainted_eq (M : List (List Nat)) (w h : Nat) (cm : List (Nat × ColorArg)) (dt : Bool) (b : Nat) :
    svgPainted M w h cm dt b = (svgCoords M w h cm dt b).map (·.obj) := rfl

theorem svgPaths_form (M : List (List Nat)) (w : Nat) (hs : SymbolShaped M w w) (dark light : ColorArg) (to : TypeOpts ColorArg)
    (o : Svg.Opts) (b : Nat) :
    ∃ (css3 : Bool) (p : String) (g : List (ColorArg × String) → List String),
      svgPaths M w w (makeColormap w w dark light to) o b
        = Except.bind (pathElems css3 p (svgCoords M w w (makeColormap w w dark light to) o.drawTransparent b))
            (fun v => Except.ok (g v)) := by
  unfold svgPaths svgCoords
  simp only [colormap_quiet_zone, colormap_data_dark, bind, pure, Except.pure, Option.getD_some]
  cases hm : isMulticolor (makeColormap w w dark light to) with
  | true =>
    obtain ⟨l, hl⟩ := colorfulLines_ok M w hs dark light to b
    simp only [hl, if_true]
    exact ⟨_, _, _, rfl⟩
  | false =>
    simp only [Bool.false_eq_true, if_false]
    exact ⟨_, _, _, rfl⟩

theorem svgPaths_outcome (M : List (List Nat)) (w : Nat) (hs : SymbolShaped M w w) (dark light : ColorArg) (to : TypeOpts ColorArg)
    (o : Svg.Opts) (b : Nat) :
    ErrIff (svgPaths M w w (makeColormap w w dark light to) o b)
      (∃ c ∈ svgPainted M w w (makeColormap w w dark light to) o.drawTransparent b, c ≠ .none ∧ malformed c = true) := by
  obtain ⟨css3, p, g, hg⟩ := svgPaths_form M w hs dark light to o b
  rw [hg, svgPainted_eq]
  exact (pathElems_outcome css3 p _).andThen fun _ _ => ⟨_, rfl⟩

theorem unit_given (u : Option String) : (!(u.getD "").isEmpty) = true ↔ (u ≠ none ∧ u ≠ some "") := by
  cases u <;> simp

theorem writeSvg_form (M : List (List Nat)) (w h : Nat) (cm : List (Nat × ColorArg)) (o : Svg.Opts) :
    ∃ F : List String → String, writeSvg M w h cm o =
      if scaleBad o.scale = true ∨ borderBad o.border = true then .error .valueError
      else if (!(o.unit.getD "").isEmpty && o.omitsize) = true then .error .valueError
      else svgPaths M w h cm o (RoutesVec.effBorder w h o.border) >>= fun v => .ok (F v) :=
  ⟨_, checks_then o.scale o.border _⟩

end Proofs.C14Ser.Vec

namespace Proofs.C14Ser
open Model Model.Svg Model.VectorDocs Model.RoutesVec Model.Lines Vec

theorem tex_outcome (M : List (List Nat)) (w h : Nat) (o : Tex.Opts) :
    ErrIff (Tex.writeTex M w h o) (scaleBad o.scale = true ∨ borderBad o.border = true) := by
  rw [show Tex.writeTex M w h o = _ from checks_then o.scale o.border _]
  exact (ErrIff.guard fun _ => ErrIff.ok _).congr (Iff.of_eq (or_false _))

theorem eps_outcome (M : List (List Nat)) (w h : Nat) (hs : SymbolShaped M w h) (o : EpsOpts) (dark light : ColorArg)
    (hd : o.dark = .arg dark) (hl : o.light = .arg light) :
    ErrIff (writeEps M w h o)
      ((scaleBad o.scale = true ∨ borderBad o.border = true) ∨ (Svg.isBlack dark = false ∧ opaqueCol dark = false)
          ∨ (light ≠ .none ∧ opaqueCol light = false)) := by
  rw [show writeEps M w h o = _ from checks_then o.scale o.border _]
  refine ErrIff.guard fun _ => ?_
  -- a matrix with a row has a first line: `next(line_iter)` does not raise StopIteration
  generalize hep : epsPath M _ = ep
  obtain ⟨toks, rfl⟩ : ∃ toks, ep = some toks := hep ▸ Option.isSome_iff_exists.1 (epsPath_isSome M _ (List.ne_nil_of_length_pos (hs.rows ▸ (symbol_pos hs).2)))
  rw [hd, hl]
  -- the stroke colour unless the dark colour is black, then the background unless the light colour is `None`; the rest cannot fail
  refine (ErrIff.unlessThen (epsColor_clean dark) (fun _ => ?_) (fun _ => ?_)).congr
      (or_congr_left (and_congr_left' (Iff.of_eq (Bool.not_eq_true _)))) <;>
    refine (ErrIff.unlessThen (epsColor_clean light) (fun _ => ?_) (fun _ => ?_)).congr
      ((Iff.of_eq (or_false _)).trans (and_congr_left' (not_isNone_arg light))) <;>
    exact ErrIff.ok _

theorem pdf_outcome (M : List (List Nat)) (w h : Nat) (o : PdfOpts) (dark light : ColorArg)
    (hd : o.dark = .arg dark) (hl : o.light = .arg light) :
    ErrIff (pdfContent M w h o)
      ((scaleBad o.scale = true ∨ borderBad o.border = true) ∨ (Svg.isBlack dark = false ∧ opaqueCol dark = false)
          ∨ (light ≠ .none ∧ opaqueCol light = false)) := by
  rw [show pdfContent M w h o = _ from checks_then o.scale o.border _]
  refine ErrIff.guard fun _ => ?_
  rw [hd, hl]
  -- the background unless the light colour is `None`, then the stroke colour unless the dark colour is black
  refine (ErrIff.unlessThen (pdfColor_clean o light) (fun _ => ?_) (fun _ => ?_)).congr
      (or_comm.trans (or_congr_right (and_congr_left' (not_isNone_arg light)))) <;>
    refine (ErrIff.unlessThen (pdfColor_clean o dark) (fun _ => ?_) (fun _ => ?_)).congr
      ((Iff.of_eq (or_false _)).trans (and_congr_left' (Iff.of_eq (Bool.not_eq_true _)))) <;>
    exact ErrIff.ok _

theorem svg_outcome (M : List (List Nat)) (w h : Nat) (hs : SymbolShaped M w h) (dark light : ColorArg) (to : TypeOpts ColorArg) (o : Svg.Opts) :
    ErrIff (saveSvg M w h (some dark) (some light) to o)
      ((scaleBad o.scale = true ∨ borderBad o.border = true) ∨ (o.unit ≠ none ∧ o.unit ≠ some "" ∧ o.omitsize = true)
          ∨ ∃ c ∈ svgPainted M w h (makeColormap w h dark light to) o.drawTransparent (effBorder w h o.border),
              c ≠ .none ∧ malformed c = true) := by
  obtain rfl := hs.square
  obtain ⟨F, hF⟩ := writeSvg_form M h h (makeColormap h h dark light to) o
  show ErrIff (writeSvg M h h (makeColormap h h dark light to) o) _
  rw [hF]
  refine ErrIff.guard fun _ => (ErrIff.guard fun _ =>
    (svgPaths_outcome M h hs dark light to o (effBorder h h o.border)).andThen fun _ _ => ⟨_, rfl⟩).congr (or_congr_left ?_)
  rw [Bool.and_eq_true, unit_given, and_assoc]

end Proofs.C14Ser
