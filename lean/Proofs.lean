-- shared: the Except monad read one statement at a time; the normalisers and checks of the make family and their errors; a
-- matrix builder known by what it does to one cell; a file name split at its last dot; decimal numbers through core; readers
-- that collect a piece in an accumulator; the side of a symbol
import Proofs.ArgsLemmas
import Proofs.Cellwise
import Proofs.CliLemmas
import Proofs.Decimal
import Proofs.Except
import Proofs.Scan
import Proofs.Size
-- encoder (C01–C07, C13, C15, and the make family of C14): segments, sizing, stream, blocks, masking, placement, the layers
-- composed, which errors each stage and the public functions raise
import Proofs.ApiRaises
import Proofs.Cells
import Proofs.EncodeCore
import Proofs.EncodeCoreTotal
import Proofs.EncodeLevel
import Proofs.EncodeLevelMask
import Proofs.EncodeStages
import Proofs.EndToEnd
import Proofs.EndToEndBlocks
import Proofs.EndToEndFinal
import Proofs.EndToEndHeader
import Proofs.EndToEndMatrix
import Proofs.EndToEndSeg
import Proofs.EndToEndStages
import Proofs.EndToEndStream
import Proofs.Geometry
import Proofs.GeometryA
import Proofs.GeometryB
import Proofs.GeometryC
import Proofs.GeometryD
import Proofs.GeometryS
import Proofs.Idempotent
import Proofs.Mask
import Proofs.Message
import Proofs.Modes
import Proofs.Placement
import Proofs.Placement2
import Proofs.PlacementInfo
import Proofs.PlacementSkeleton
import Proofs.PlacementZigzag
import Proofs.Purity
import Proofs.Roundtrip
import Proofs.SegmentErr
import Proofs.Sizing
import Proofs.Stream
import Proofs.StreamParse
-- Reed–Solomon (C03)
import Proofs.Distance
import Proofs.RSField
import Proofs.RSGeneric
-- Structured Append sequences (C08)
import Proofs.Sequence
import Proofs.SequenceRoundtrip
import Proofs.SequenceRoundtripSeq
import Proofs.SequenceRoundtripStream
import Proofs.SequenceRoundtripWitness
-- iteration and alignment (C09, C11)
import Proofs.Align
import Proofs.Colormap
import Proofs.IterShape
import Proofs.Raster
import Proofs.Verbose
-- PNG (C09, C11)
import Proofs.PngDefs
import Proofs.PngIndex
import Proofs.PngPalette
import Proofs.PngPicture
import Proofs.PngStream
import Proofs.PngTwoTone
-- raster documents (C09)
import Proofs.RasterDocsBase
import Proofs.RasterDocsColour
import Proofs.RasterDocsNetpbm
import Proofs.RasterDocsPam
import Proofs.RasterDocsPng
import Proofs.RasterDocsPngContainer
import Proofs.RasterDocsPngOk
import Proofs.RasterDocsPngPicture
import Proofs.RasterDocsPpm
import Proofs.RasterDocsText
import Proofs.RasterDocsTok
import Proofs.RasterDocsXbm
import Proofs.RasterDocsXpm
-- vector documents (C10, C11)
import Proofs.Lines
import Proofs.SvgColorful
import Proofs.SvgText
import Proofs.TexDocs
import Proofs.VectorAcceptCover
import Proofs.VectorAcceptEps
import Proofs.VectorAcceptGeom
import Proofs.VectorAcceptGrid
import Proofs.VectorAcceptNum
import Proofs.VectorAcceptPath
import Proofs.VectorAcceptPdf
import Proofs.WrapLines
-- routes (C12)
import Proofs.Routes
import Proofs.RoutesCodec
import Proofs.RoutesExec
import Proofs.RoutesUri
-- arguments of serializers, routes and the command line (C14)
import Proofs.C14Cli
import Proofs.C14Route
import Proofs.C14RouteAux
import Proofs.C14RouteDefs
import Proofs.C14SerColour
import Proofs.C14SerCover
import Proofs.C14SerDefs
import Proofs.C14SerGlue
import Proofs.C14SerKinds
import Proofs.C14SerPng
import Proofs.C14SerRaster
import Proofs.C14SerRead
import Proofs.C14SerVec
import Proofs.ColourGrammar
-- helper payloads (C16)
import Proofs.Helpers
import Proofs.HelpersEpc
import Proofs.HelpersEpcRefusals
import Proofs.HelpersGeo
import Proofs.HelpersMail
import Proofs.HelpersModel
import Proofs.HelpersNum
import Proofs.HelpersVcard
-- translated functions against the model (Tie A)
import Proofs.TieA
import Proofs.TieA2
import Proofs.TieA2Align
import Proofs.TieA2Blocks
import Proofs.TieA2Boost
import Proofs.TieA2Capacity
import Proofs.TieA2Final
import Proofs.TieA2Finder
import Proofs.TieA2Format
import Proofs.TieA2Matrix
import Proofs.TieA2Micro
import Proofs.TieA2Mode
import Proofs.TieA2N3
import Proofs.TieA2Parity
import Proofs.TieA2Scores
import Proofs.TieA2Stream
import Proofs.TieA2Timing
import Proofs.TieA2Version
import Proofs.TieA3Alnum
import Proofs.TieA3Best
import Proofs.TieA3Bound
import Proofs.TieA3Fns
import Proofs.TieA3Kanji
import Proofs.TieA3Loops
import Proofs.TieA3Mask
import Proofs.TieA3Numeric
import Proofs.TieA3Place
import Proofs.TieA3Segment
import Proofs.TieA4Matrix
import Proofs.TieA5Encode
import Proofs.TieA5Sq
import Proofs.TieA6Segments
import Proofs.TieABits
import Proofs.TieAFormat
import Proofs.TieAGetBit
import Proofs.TieAOverhead
